import FoxModel.Basic
import FoxModel.Model.Lookup
import FoxModel.Model.Tree
/-
  FoxModel.Model.IterMachine — the explicit-stack traversal of iter.go, as the Go code runs it.

  `rawIterator.hasNext` (used for the conflict list of `tXn.insert`) and the inner loop of `Iter.Prefix` (hence of
  `Iter.All`) are the same loop over a stack of frames `stack{edges []*node}`:

      last := stack[n-1]; elem := last.edges[0]
      if len(last.edges) > 1 { stack[n-1].edges = last.edges[1:] } else { stack = stack[:n-1] }
      if len(elem.children) > 0 { stack = append(stack, stack{edges: elem.children}) }
      if elem.isLeaf() { … yield / return true … }

  The tree model lists the routes below a node by structural recursion (`routesNode`, pre-order). Here the loop is a
  state machine on the stack (top of the stack = head of the list): `next` runs it up to the next leaf. A frame with no
  edges, on which `last.edges[0]` would panic, is a result of its own (`panic`); it is never reached (Lemmas/IterMachine).
-/
namespace Fox.Model.IterMachine
open Fox Fox.Model

abbrev Stack := List (List Node)

mutual
def nsize : Node → Nat
  | .mk _ _ cs => 1 + ksize cs
def ksize : List Node → Nat
  | [] => 0
  | c :: cs => nsize c + ksize cs
end

def weight : Stack → Nat
  | [] => 0
  | f :: rest => ksize f + weight rest

inductive Res where
  | done                                  -- the stack is empty: `return false` / the loop ends
  | panic                                 -- `last.edges[0]` on an empty frame
  | item (r : Route) (stk : Stack)        -- `return true` / `yield(method, elem.route)` with the stack left behind
deriving Inhabited

/-- pop the element, shrink or drop its frame, push its children -/
def advance (e : Node) (es : List Node) (rest : Stack) : Stack :=
  let stk1 := if es.isEmpty then rest else es :: rest
  if e.children.isEmpty then stk1 else e.children :: stk1

theorem ksize_children_lt (e : Node) : ksize e.children < nsize e := by
  cases e with | mk k r cs => exact Nat.lt_add_of_pos_left Nat.one_pos

/-- a frame that is pushed unless it is empty adds its size -/
theorem weight_push (f : List Node) (stk : Stack) :
    weight (if f.isEmpty then stk else f :: stk) = ksize f + weight stk := by
  cases f with
  | nil => exact (Nat.zero_add _).symm
  | cons c cs => rfl

theorem weight_advance (e : Node) (es : List Node) (rest : Stack) :
    weight (advance e es rest) < weight ((e :: es) :: rest) := by
  rw [advance, weight_push, weight_push]
  exact Nat.lt_of_lt_of_eq (Nat.add_lt_add_right (ksize_children_lt e) _) (Nat.add_assoc _ _ _).symm

/-- the loop up to the next leaf -/
def next : Stack → Res
  | [] => .done
  | [] :: _ => .panic
  | (e :: es) :: rest =>
    match e.route with
    | some r => .item r (advance e es rest)
    | none => next (advance e es rest)
termination_by stk => weight stk
decreasing_by exact weight_advance e es rest

/-- everything the loop still has to yield: the routes below the pending edges, frame by frame from the top -/
def pending (stk : Stack) : List Route := stk.flatMap routesKids

/-- run the loop to the end, collecting what it yields (`fuel` bounds the number of yields) -/
def drain : Nat → Stack → Option (List Route)
  | 0, _ => some []
  | fuel + 1, stk =>
    match next stk with
    | .done => some []
    | .panic => none
    | .item r stk' => (drain fuel stk').map (r :: ·)

/-- frames are never empty: the loop only pushes `elem.children` when there are some and drops a frame with its last edge -/
def FramesOk (stk : Stack) : Prop := ∀ f ∈ stk, f ≠ []

end Fox.Model.IterMachine
