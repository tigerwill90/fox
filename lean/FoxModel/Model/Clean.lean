import FoxModel.Basic
/-
  FoxModel.Model.Clean — model of `CleanPath` (/repo/path.go), branch by branch.

  Go                                   model
  -----------------------------------  ---------------------------------------------------------------
  p string, n = len(p)                 `p : Bytes`, `p.length`
  r, w                                 `r w : Nat`
  buf []byte with len(buf) == 0        `Buf = Option Bytes`: `none` = nothing materialised yet (the result is
  until the first differing byte         still a prefix of p), `some b` = a zero-initialised slice of fixed length
  bufApp(&buf, p, w, c)                `bufApp`
  p[i], buf[i], s[:w]                  `p[i]?`, `setAt`, `slice`: out of range = `none` = a Go run-time panic
  for w > 1 && x[w] != '/' { w-- }     `scanBack`
  for r < n && p[r] != '/' { … }       `copyElem`
  the `switch` of the main loop        `classify` (evaluation order of the `&&`/`||` chains kept: p[r+1] is read
                                         only after p[r] == '.', p[r+2] only after r+2 != n) + `loop`

  The 128-byte threshold (`stackBufSize`) only selects whether the zero-initialised buffer of the same length lives on
  the stack or on the heap; both have the same contents, so it does not appear in the functions below (the driver
  prints it as a coverage tag, Props/C17 ties the constant to the regenerated fact).
-/
namespace Fox.Model.Clean
open Fox

inductive Outcome where
  | ok (b : Bytes)
  | panic
deriving DecidableEq, Repr, Inhabited

def stackBufSize : Nat := 128

/-- `none`: `len(buf) == 0` -/
abbrev Buf := Option Bytes

/-- what the '..' scan and the final slicing read from -/
def view (p : Bytes) : Buf → Bytes
  | none => p
  | some b => b

/-- `b[w] = c` -/
def setAt (b : Bytes) (w : Nat) (c : UInt8) : Option Bytes :=
  if w < b.length then some (b.set w c) else none

/-- `x[:w]` -/
def slice (x : Bytes) (w : Nat) : Option Bytes :=
  if w ≤ x.length then some (x.take w) else none

/-- `bufApp(&buf, p, w, c)` -/
def bufApp (p : Bytes) (buf : Buf) (w : Nat) (c : UInt8) : Option Buf :=
  match buf with
  | some b => (setAt b w c).map some
  | none =>
    match p[w]? with
    | none => none                                   -- s[w] out of range
    | some x =>
      if x = c then some none                        -- still a prefix of p: no buffer needed
      else
        -- stack buffer re-sliced to len(s) or make([]byte, len(s)); copy(b, s[:w]); b[w] = c
        (setAt (p.take w ++ List.replicate (p.length - w) 0) w c).map some

/-- `for w > 1 && x[w] != '/' { w-- }` -/
def scanBack (x : Bytes) : Nat → Option Nat
  | 0 => some 0
  | 1 => some 1
  | w + 2 =>
    match x[w + 2]? with
    | none => none
    | some c => if c = SLASH then some (w + 2) else scanBack x (w + 1)

/-- the body of the '..' case after `r += 3` -/
def backtrack (p : Bytes) (buf : Buf) (w : Nat) : Option Nat :=
  if w > 1 then scanBack (view p buf) (w - 1) else some w

/-- `if w > 1 { bufApp(&buf, p, w, '/'); w++ }` -/
def addSlash (p : Bytes) (buf : Buf) (w : Nat) : Option (Nat × Buf) :=
  if w > 1 then
    match bufApp p buf w SLASH with
    | none => none
    | some b => some (w + 1, b)
  else some (w, buf)

/-- `for r < n && p[r] != '/' { bufApp(&buf, p, w, p[r]); w++; r++ }` -/
def copyElem (p : Bytes) (r w : Nat) (buf : Buf) : Option (Nat × Nat × Buf) :=
  if h : r < p.length then
    if p[r] = SLASH then some (r, w, buf)
    else
      match bufApp p buf w p[r] with
      | none => none
      | some b => copyElem p (r + 1) (w + 1) b
  else some (r, w, buf)
termination_by p.length - r

inductive Branch where
  | slash | dotEnd | dot | dotdot | elem
deriving DecidableEq, Repr

/-- which case of the `switch` is taken at `r` (only called with `r < n`) -/
def classify (p : Bytes) (r : Nat) : Option Branch :=
  match p[r]? with
  | none => none
  | some c =>
    if c = SLASH then some .slash
    else if c ≠ DOT then some .elem
    else if r + 1 = p.length then some .dotEnd
    else
      match p[r + 1]? with
      | none => none
      | some c1 =>
        if c1 = SLASH then some .dot
        else if c1 ≠ DOT then some .elem
        else if r + 2 = p.length then some .dotdot
        else
          match p[r + 2]? with
          | none => none
          | some c2 => if c2 = SLASH then some .dotdot else some .elem

theorem copyElem_ge {p : Bytes} {r w : Nat} {buf : Buf} {r' w' : Nat} {buf' : Buf}
    (h : copyElem p r w buf = some (r', w', buf')) : r ≤ r' := by
  induction r, w, buf using copyElem.induct (p := p) with
  | case1 r w buf hr hs =>
    rw [copyElem, dif_pos hr, if_pos hs] at h
    simp at h; omega
  | case2 r w buf hr hs hb =>
    rw [copyElem, dif_pos hr, if_neg hs, hb] at h
    simp at h
  | case3 r w buf hr hs b hb ih =>
    rw [copyElem, dif_pos hr, if_neg hs, hb] at h
    have := ih h
    omega
  | case4 r w buf hr =>
    rw [copyElem, dif_neg hr] at h
    simp at h; omega

theorem classify_elem_ne_slash {p : Bytes} {r : Nat} (hr : r < p.length) (h : classify p r = some .elem) :
    p[r] ≠ SLASH := by
  intro hs
  unfold classify at h
  rw [List.getElem?_eq_getElem hr] at h
  simp [hs] at h

/-- the copy loop of the default case reads at least one byte: this is what makes `loop` terminate -/
theorem copyElem_adv {p : Bytes} {r w : Nat} {buf : Buf} {r' w' : Nat} {buf' : Buf}
    (hr : r < p.length) (hc : classify p r = some .elem)
    (h : copyElem p r w buf = some (r', w', buf')) : r < r' := by
  have hs := classify_elem_ne_slash hr hc
  rw [copyElem, dif_pos hr, if_neg hs] at h
  split at h
  · simp at h
  · have := copyElem_ge h
    omega

/-- the main loop `for r < n { switch … }`; result: final `w`, buffer and `trailing` -/
def loop (p : Bytes) (r w : Nat) (buf : Buf) (tr : Bool) : Option (Nat × Buf × Bool) :=
  if hr : r < p.length then
    match hc : classify p r with
    | none => none
    | some .slash => loop p (r + 1) w buf tr
    | some .dotEnd => loop p (r + 1) w buf true
    | some .dot => loop p (r + 2) w buf tr
    | some .dotdot =>
      match backtrack p buf w with
      | none => none
      | some w' => loop p (r + 3) w' buf tr
    | some .elem =>
      match addSlash p buf w with
      | none => none
      | some (w1, buf1) =>
        match he : copyElem p r w1 buf1 with
        | none => none
        | some (r', w', buf') => loop p r' w' buf' tr
  else some (w, buf, tr)
termination_by p.length - r
decreasing_by
  all_goals simp_wf
  · omega
  · omega
  · omega
  · omega
  · have := copyElem_adv hr hc he
    omega

/-- `r`, `w`, `buf` before the loop (`p` non-empty) -/
def start (p : Bytes) : Option (Nat × Nat × Buf) :=
  match p[0]? with
  | none => none
  | some c0 =>
    if c0 = SLASH then some (1, 1, none)
    else
      -- buf = make([]byte, n+1) or stack[:n+1]; buf[0] = '/'
      match setAt (List.replicate (p.length + 1) 0) 0 SLASH with
      | none => none
      | some b => some (0, 1, some b)

/-- `trailing := n > 1 && p[n-1] == '/'` -/
def initTrailing (p : Bytes) : Option Bool :=
  if p.length > 1 then
    match p[p.length - 1]? with
    | none => none
    | some c => some (c == SLASH)
  else some false

/-- re-append the trailing slash and slice the result -/
def finish (p : Bytes) (w : Nat) (buf : Buf) (tr : Bool) : Option Bytes :=
  if tr ∧ w > 1 then
    match bufApp p buf w SLASH with
    | none => none
    | some b => slice (view p b) (w + 1)
  else slice (view p buf) w

def cleanPathO (p : Bytes) : Option Bytes :=
  if p = [] then some [SLASH]
  else
    match start p with
    | none => none
    | some (r, w, buf) =>
      match initTrailing p with
      | none => none
      | some tr =>
        match loop p r w buf tr with
        | none => none
        | some (w', buf', tr') => finish p w' buf' tr'

/-- `fox.CleanPath(p)` -/
def cleanPath (p : Bytes) : Outcome :=
  match cleanPathO p with
  | some b => .ok b
  | none => .panic

end Fox.Model.Clean
