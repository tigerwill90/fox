import FoxModel.Basic
/-
  FoxModel.Model.Parse — executable model of the pattern validator `(*Router).parseRoute` (fox.go) and of the
  wildcard extractor `parseWildcard` (node.go). Core Lean only.

  The model follows the Go functions transition by transition: one `step` = one iteration of the Go `for` loop,
  the state record `PSt` has exactly the Go locals, and the checks are made in the Go order (so the *reason* of a
  rejection is the Go one as well). Every Go index / slice expression is evaluated through `s[i]?` and yields
  `Fail.panic` when it is out of range: that the validator never panics is theorem `Fox.C10.parse_total`, not an
  artefact of a totalised definition.
-/
set_option linter.unusedVariables false   -- `h` of `match h : …` is used by `decreasing_by`

namespace Fox.Model
open Fox

/-- the rejection reasons of `parseRoute`, one per `fmt.Errorf` call site, in source order -/
inductive ErrKind where
  | missingSlash | leadingDot | leadingDash
  | emptyParam | afterParam | keyTooLargeParam | inParam
  | emptyCatchAll | afterCatchAll | consecutive | keyTooLargeCatchAll | inCatchAll
  | catchAllInHost | starNoBrace | tooManyParams
  | dashAfterDot | consecutiveDot | dashBeforeDot | labelTooLongMid | illegalHostChar
  | trailingDash | trailingDot | allNumeric | labelTooLongEnd | hostTooLong
  | unclosedParam | trailingStar | unclosedCatchAll
deriving DecidableEq, Repr, Inhabited

inductive ParseResult where
  /-- accepted: number of wildcards, index of the first '/' (= length of the hostname part) -/
  | ok (paramCnt : Nat) (endHost : Nat)
  | invalid (reason : ErrKind)
  /-- a Go run-time panic (index out of range) -/
  | panic
deriving DecidableEq, Repr, Inhabited

inductive Fail where
  | invalid (e : ErrKind)
  | panic
deriving DecidableEq, Repr, Inhabited

/-- Go `stateDefault / stateParam / stateCatchAll` -/
inductive PState where
  | default | param | catchAll
deriving DecidableEq, Repr, Inhabited

/-- the local variables of `parseRoute` -/
structure PSt where
  state : PState := .default
  previous : PState := .default
  paramCnt : Nat := 0
  countStatic : Nat := 0
  startParam : Nat := 0
  inParam : Bool := false
  nonNumeric : Bool := false
  partlen : Nat := 0
  totallen : Nat := 0
  last : UInt8 := DOT
  delim : UInt8
  i : Nat := 0
deriving Repr, Inhabited, DecidableEq

/-- Go `strings.IndexByte` -/
def indexByte (c : UInt8) : Bytes → Option Nat
  | [] => none
  | b :: bs => if b = c then some 0 else (indexByte c bs).map (· + 1)

def isLetter (c : UInt8) : Bool := (97 ≤ c && c ≤ 122) || (65 ≤ c && c ≤ 90) || c == 95
def isDigit (c : UInt8) : Bool := 48 ≤ c && c ≤ 57

/-- Go `i+1 < len(url) && P(url[i+1])` (short circuit) -/
def nextIs (s : Bytes) (i : Nat) (P : UInt8 → Bool) : Except Fail Bool :=
  if i + 1 < s.length then
    match s[i + 1]? with
    | none => .error .panic
    | some d => .ok (P d)
  else .ok false

/-- Go `last == '.' && url[i-1] != '}'` (short circuit; `url[i-1]` with i = 0 is index -1: panic) -/
def dotAfterDot (s : Bytes) (last : UInt8) (i : Nat) : Except Fail Bool :=
  if last = DOT then
    if i = 0 then .error .panic else
    match s[i - 1]? with
    | none => .error .panic
    | some p => .ok (p != RBR)
  else .ok false

/-- `if i == endHost { delim = slashDelim }` -/
def setDelim (eh : Nat) (st : PSt) : PSt := if st.i = eh then { st with delim := SLASH } else st

/-- `if paramCnt > maxParams {…}; i++` at the end of the default case -/
def checkCnt (mp : Nat) (st : PSt) : Except Fail PSt :=
  if st.paramCnt > mp then .error (.invalid .tooManyParams) else .ok { st with i := st.i + 1 }

/-- the `i < endHost` block of the default case: one literal hostname byte `c = url[i]` -/
def hostByte (s : Bytes) (st : PSt) (c : UInt8) : Except Fail PSt :=
  if isLetter c then .ok { st with nonNumeric := true, partlen := st.partlen + 1, last := c }
  else if isDigit c then .ok { st with partlen := st.partlen + 1, last := c }
  else if c = DASH then
    if st.last = DOT then .error (.invalid .dashAfterDot)
    else .ok { st with partlen := st.partlen + 1, nonNumeric := true, last := c }
  else if c = DOT then
    match dotAfterDot s st.last st.i with
    | .error e => .error e
    | .ok true => .error (.invalid .consecutiveDot)
    | .ok false =>
      if st.last = DASH then .error (.invalid .dashBeforeDot)
      else if st.partlen > 63 then .error (.invalid .labelTooLongMid)
      else .ok { st with totallen := st.totallen + (st.partlen + 1), partlen := 0, last := c }
  else .error (.invalid .illegalHostChar)

/-- the `default:` case of the switch, after `if i == endHost { delim = slashDelim }`; `c = url[i]` -/
def defaultStep (mp eh : Nat) (s : Bytes) (st : PSt) (c : UInt8) : Except Fail PSt :=
  if c = LBR then
    checkCnt mp { st with state := .param, startParam := st.i, paramCnt := st.paramCnt + 1 }
  else if c = STAR then
    if st.i < eh then .error (.invalid .catchAllInHost)
    else
      match nextIs s st.i (fun d => d != LBR) with
      | .error e => .error e
      | .ok true => .error (.invalid .starNoBrace)
      | .ok false =>
        checkCnt mp { st with state := .catchAll, i := st.i + 1, startParam := st.i + 1,
                              paramCnt := st.paramCnt + 1 }
  else if st.i < eh then
    match hostByte s { st with countStatic := st.countStatic + 1 } c with
    | .error e => .error e
    | .ok st' => checkCnt mp st'
  else checkCnt mp { st with countStatic := st.countStatic + 1 }

/-- one iteration of the `for i < len(url)` loop -/
def step (mp mk eh : Nat) (s : Bytes) (st : PSt) : Except Fail PSt :=
  match s[st.i]? with
  | none => .error .panic
  | some c =>
    match st.state with
    | .param =>
      if c = RBR then
        if !st.inParam then .error (.invalid .emptyParam)
        else
          match nextIs s st.i (fun d => d != st.delim && d != SLASH) with
          | .error e => .error e
          | .ok true => .error (.invalid .afterParam)
          | .ok false =>
            .ok { st with inParam := false, nonNumeric := if st.i < eh then true else st.nonNumeric,
                          countStatic := 0, previous := st.state, state := .default, i := st.i + 1 }
      else if st.i - st.startParam > mk then .error (.invalid .keyTooLargeParam)
      else if c = st.delim || c = SLASH || c = STAR || c = LBR then .error (.invalid .inParam)
      else .ok { st with inParam := true, i := st.i + 1 }
    | .catchAll =>
      if c = RBR then
        if !st.inParam then .error (.invalid .emptyCatchAll)
        else
          match nextIs s st.i (fun d => d != SLASH) with
          | .error e => .error e
          | .ok true => .error (.invalid .afterCatchAll)
          | .ok false =>
            if st.previous = .catchAll ∧ st.countStatic ≤ 1 then .error (.invalid .consecutive)
            else .ok { st with inParam := false, countStatic := 0, previous := st.state, state := .default,
                               i := st.i + 1 }
      else if st.i - st.startParam > mk then .error (.invalid .keyTooLargeCatchAll)
      else if c = SLASH || c = STAR || c = LBR then .error (.invalid .inCatchAll)
      else .ok { st with inParam := true, i := st.i + 1 }
    | .default =>
      defaultStep mp eh s (setDelim eh st) c

/-- what holds of both branches holds of the conditional -/
theorem ite_prop {α} {Q : α → Prop} {c : Prop} [Decidable c] {a b : α} (ha : Q a) (hb : Q b) :
    Q (if c then a else b) := by
  by_cases hc : c
  · rwa [if_pos hc]
  · rwa [if_neg hc]

/-- every successful outcome of `r` satisfies `P`; such a fact is read off the branches of a step function -/
def OkAll {α} (P : α → Prop) (r : Except Fail α) : Prop := ∀ a, r = .ok a → P a

theorem OkAll.ok {α} {P : α → Prop} {a : α} (h : P a) : OkAll P (.ok a) := fun _ e => Except.ok.inj e ▸ h

theorem OkAll.error {α} {P : α → Prop} {e : Fail} : OkAll P (.error e) := fun _ h => by cases h

theorem OkAll.ite {α} {P : α → Prop} {c : Prop} [Decidable c] {a b : Except Fail α} (ha : OkAll P a)
    (hb : OkAll P b) : OkAll P (if c then a else b) := ite_prop ha hb

/-- a short-circuit test `t` that may panic, rejects with `e'` when it holds and goes on with `x` otherwise -/
theorem OkAll.test {α} {P : α → Prop} {t : Except Fail Bool} {e' : Fail} {x : Except Fail α} (hx : OkAll P x) :
    OkAll P (match t with | .error e => .error e | .ok true => .error e' | .ok false => x) := by
  match t with
  | .error e => exact .error
  | .ok true => exact .error
  | .ok false => exact hx

theorem hostByte_i {s st c st'} (h : hostByte s st c = .ok st') : st'.i = st.i := by
  have : OkAll (·.i = st.i) (hostByte s st c) := by
    unfold hostByte
    exact .ite (.ok rfl) (.ite (.ok rfl) (.ite (.ite .error (.ok rfl))
      (.ite (.test (.ite .error (.ite .error (.ok rfl)))) .error)))
  exact this _ h

theorem checkCnt_i {mp st st'} (h : checkCnt mp st = .ok st') : st'.i = st.i + 1 :=
  (OkAll.ite .error (.ok rfl) : OkAll (·.i = st.i + 1) (checkCnt mp st)) _ h

theorem setDelim_i (eh st) : (setDelim eh st).i = st.i := by
  unfold setDelim; split <;> rfl

theorem defaultStep_adv {mp eh s st c st'} (h : defaultStep mp eh s st c = .ok st') : st.i < st'.i := by
  have cnt : ∀ x : PSt, st.i ≤ x.i → OkAll (st.i < ·.i) (checkCnt mp x) :=
    fun _ hx _ h => show _ < _ from checkCnt_i h ▸ Nat.lt_succ_of_le hx
  have : OkAll (st.i < ·.i) (defaultStep mp eh s st c) := by
    unfold defaultStep
    refine .ite (cnt _ (Nat.le_refl _)) (.ite (.ite .error (.test (cnt _ (Nat.le_succ _))))
      (.ite ?_ (cnt _ (Nat.le_refl _))))
    generalize hd : hostByte s _ c = d
    match d with
    | .error _ => exact .error
    | .ok st1 => exact cnt st1 (Nat.le_of_eq (hostByte_i hd).symm)
  exact this _ h

theorem step_adv {mp mk eh s st st'} (h : step mp mk eh s st = .ok st') : st.i < st'.i := by
  have adv := Nat.lt_succ_self st.i
  have : OkAll (st.i < ·.i) (step mp mk eh s st) := by
    unfold step
    generalize s[st.i]? = oc
    match oc with
    | none => exact .error
    | some c =>
      generalize st.state = q
      match q with
      | .default => exact fun _ h => setDelim_i eh st ▸ defaultStep_adv h
      | .param => exact .ite (.ite .error (.test (.ok adv))) (.ite .error (.ite .error (.ok adv)))
      | .catchAll =>
        exact .ite (.ite .error (.test (.ite .error (.ok adv)))) (.ite .error (.ite .error (.ok adv)))
  exact this _ h

/-- the loop `for i < len(url) { … }` -/
def loop (mp mk eh : Nat) (s : Bytes) (st : PSt) : Except Fail PSt :=
  if st.i < s.length then
    match h : step mp mk eh s st with
    | .error e => .error e
    | .ok st' => loop mp mk eh s st'
  else .ok st
termination_by s.length - st.i
decreasing_by have := step_adv h; omega

/-- the block `if endHost > 0 {…}` after the loop -/
def hostFinish (eh : Nat) (s : Bytes) (st : PSt) : Except Fail Unit :=
  if eh > 0 then
    if st.last = DASH then .error (.invalid .trailingDash)
    else match s[eh - 1]? with
      | none => .error .panic
      | some c =>
        if c = DOT then .error (.invalid .trailingDot)
        else if !st.nonNumeric then .error (.invalid .allNumeric)
        else if st.partlen > 63 then .error (.invalid .labelTooLongEnd)
        else if st.totallen + st.partlen > 255 then .error (.invalid .hostTooLong)   -- totallen += partlen
        else .ok ()
  else .ok ()

/-- the code after the loop -/
def finish (eh : Nat) (s : Bytes) (st : PSt) : Except Fail (Nat × Nat) :=
  match hostFinish eh s st with
  | .error e => .error e
  | .ok () =>
    match st.state with
    | .param => .error (.invalid .unclosedParam)
    | .catchAll =>
      if s.length = 0 then .error .panic else
      match s[s.length - 1]? with
      | none => .error .panic
      | some c => if c = STAR then .error (.invalid .trailingStar) else .error (.invalid .unclosedCatchAll)
    | .default => .ok (st.paramCnt, eh)

/-- the initial values of the locals -/
def init (eh : Nat) : PSt := { delim := if eh = 0 then SLASH else DOT }

/-- the loop and the checks after it, from the initial state -/
def runFrom (mp mk eh : Nat) (s : Bytes) : ParseResult :=
  match loop mp mk eh s (init eh) with
  | .error (.invalid e) => .invalid e
  | .error .panic => .panic
  | .ok st =>
    match finish eh s st with
    | .error (.invalid e) => .invalid e
    | .error .panic => .panic
    | .ok (n, e) => .ok n e

/-- `(*Router).parseRoute` with `maxParams = mp`, `maxParamKeyBytes = mk` -/
def parseRoute (mp mk : Nat) (s : Bytes) : ParseResult :=
  match indexByte SLASH s with
  | none => .invalid .missingSlash
  | some eh =>
    if s.head? = some DOT then .invalid .leadingDot
    else if s.head? = some DASH then .invalid .leadingDash
    else runFrom mp mk eh s

/-! ## parseWildcard (node.go) -/

/-- Go `param{key, end, catchAll}` (`end = -1`: the wildcard closes the string) -/
structure WParam where
  key : Bytes
  «end» : Int
  catchAll : Bool
deriving DecidableEq, Repr, Inhabited

structure WSt where
  state : PState := .default
  start : Nat := 0
  i : Nat := 0
  params : List WParam := []
deriving Repr, Inhabited

/-- Go `segment[a:b]` (panics unless a ≤ b ≤ len) -/
def slice (s : Bytes) (a b : Nat) : Option Bytes :=
  if a ≤ b ∧ b ≤ s.length then some ((s.drop a).take (b - a)) else none

/-- the `if segment[i] == '}' {…}` block shared by the two wildcard states -/
def wClose (s : Bytes) (st : WSt) (ca : Bool) : Option WSt :=
  -- `len(segment[i+1:]) > 0`
  if st.i + 1 ≤ s.length then
    let e : Int := if s.length - (st.i + 1) > 0 then ((st.i + 1 : Nat) : Int) else -1
    match slice s st.start st.i with
    | none => none
    | some k => some { st with params := st.params ++ [⟨k, e, ca⟩], start := 0, state := .default, i := st.i + 1 }
  else none

/-- one iteration of the loop of `parseWildcard`; `none` = Go panic -/
def wStep (s : Bytes) (st : WSt) : Option WSt :=
  match s[st.i]? with
  | none => none
  | some c =>
    match st.state with
    | .param => if c = RBR then wClose s st false else some { st with i := st.i + 1 }
    | .catchAll => if c = RBR then wClose s st true else some { st with i := st.i + 1 }
    | .default =>
      if c = STAR then some { st with state := .catchAll, i := st.i + 2, start := st.i + 2 }
      else if c = LBR then some { st with state := .param, i := st.i + 1, start := st.i + 1 }
      else some { st with i := st.i + 1 }

theorem wClose_i {s st ca st'} (h : wClose s st ca = some st') : st'.i = st.i + 1 := by
  unfold wClose at h
  by_cases hl : st.i + 1 ≤ s.length
  · rw [if_pos hl] at h
    generalize slice s st.start st.i = o at h
    match o, h with
    | some k, h => exact Option.some.inj h ▸ rfl
  · rw [if_neg hl] at h; cases h

theorem wStep_adv {s st st'} (h : wStep s st = some st') : st.i < st'.i := by
  revert st'
  have ok : ∀ x : WSt, st.i < x.i → ∀ st', some x = some st' → st.i < st'.i := fun _ hx _ h => Option.some.inj h ▸ hx
  have cl : ∀ ca st', wClose s st ca = some st' → st.i < st'.i := fun _ _ h => wClose_i h ▸ Nat.lt_succ_self _
  have I := @ite_prop _ fun r : Option WSt => ∀ st', r = some st' → st.i < st'.i
  have adv := Nat.lt_succ_self st.i
  unfold wStep
  generalize s[st.i]? = oc
  match oc with
  | none => nofun
  | some c =>
    generalize st.state = q
    match q with
    | .param => exact I (cl _) (ok _ adv)
    | .catchAll => exact I (cl _) (ok _ adv)
    | .default => exact I (ok _ (Nat.lt_add_of_pos_right (by decide))) (I (ok _ adv) (ok _ adv))

def wLoop (s : Bytes) (st : WSt) : Option WSt :=
  if st.i < s.length then
    match h : wStep s st with
    | none => none
    | some st' => wLoop s st'
  else some st
termination_by s.length - st.i
decreasing_by have := wStep_adv h; omega

/-- `parseWildcard(segment)`; `none` = Go panic -/
def parseWildcard (s : Bytes) : Option (List WParam) := (wLoop s {}).map (·.params)

end Fox.Model
