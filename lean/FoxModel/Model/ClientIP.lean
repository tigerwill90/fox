import FoxModel.Basic
import FoxModel.Generated.ClientIP
/-
  FoxModel.Model.ClientIP — executable model of `clientip/clientip.go`, `clientip/options.go`,
  `internal/iterutil` (SplitStringSeq, BackwardSplitStringSeq, Take, At) and `internal/netutil.SplitHostZone`,
  following the Go code function by function (property C18). Core Lean only.

  Lazy iterators (`iter.Seq`) are rendered as the list of the values they yield, in yield order; a consumer that
  stops early is a function that looks only at a prefix of that list. Re-implemented standard library functions
  (agreement with Go only sampled by the `clientip` stream): `strings.TrimSpace`, `strings.EqualFold(_, "for")`,
  `net.SplitHostPort`, `net.ParseIP` (netip.ParseAddr: v4, v6, v4-in-v6), `IP.IsUnspecified`, `IPNet.Contains`.
-/
namespace Fox.Model.ClientIP
open Fox

def COMMA : UInt8 := 44
def SEMI  : UInt8 := 59
def EQUAL : UInt8 := 61
def PCT   : UInt8 := 37
def LSQ   : UInt8 := 91
def RSQ   : UInt8 := 93
def QUOTE : UInt8 := 34

/-! ### iterutil -/

/-- `i := strings.Index(s, sep)` with the two slices the callers take: `(s[:i], some s[i+1:])`, or `(s, none)` when
    `sep` does not occur -/
def cut (sep : UInt8) : Bytes → Bytes × Option Bytes
  | [] => ([], none)
  | b :: bs =>
    if b = sep then ([], some bs)
    else match cut sep bs with
      | (h, r) => (b :: h, r)

theorem cut_some_length {sep : UInt8} {s h r : Bytes} (e : cut sep s = (h, some r)) : r.length < s.length := by
  fun_induction cut sep s generalizing h with
  | case1 => cases e
  | case2 => cases e; exact Nat.lt_succ_self _
  | case3 _ _ _ _ _ hc ih => cases e; exact Nat.lt_succ_of_lt (ih hc)

/-- `iterutil.SplitStringSeq(s, sep)` (single-byte separator): fragments in yield order -/
def splitFwd (sep : UInt8) (s : Bytes) : List Bytes :=
  match h : cut sep s with
  | (_, none) => [s]                                  -- i < 0: break; yield(s)
  | (frag, some rest) => frag :: splitFwd sep rest    -- yield(s[:i]); s = s[i+len(sep):]
termination_by s.length
decreasing_by exact cut_some_length h

/-- `i := strings.LastIndex(s, sep)`: `some (s[:i], s[i+1:])` -/
def cutLast (sep : UInt8) (s : Bytes) : Option (Bytes × Bytes) :=
  match cut sep s.reverse with
  | (_, none) => none
  | (h, some r) => some (r.reverse, h.reverse)

theorem cutLast_length {sep : UInt8} {s p f : Bytes} (e : cutLast sep s = some (p, f)) : p.length < s.length := by
  unfold cutLast at e
  split at e
  · cases e
  · rename_i hc
    cases e
    simpa using cut_some_length hc

/-- `iterutil.BackwardSplitStringSeq(s, sep)`: fragments in yield order (last fragment first) -/
def splitBwd (sep : UInt8) (s : Bytes) : List Bytes :=
  match h : cutLast sep s with
  | none => [s]                                       -- i < 0: break; yield(s)
  | some (pre, frag) => frag :: splitBwd sep pre      -- yield(s[i+len(sep):]); s = s[:i]
termination_by s.length
decreasing_by exact cutLast_length h

/-- `iterutil.Take(seq, count)`: yields while `count > 0` -/
def take {α : Type} (count : Nat) (seq : List α) : List α := seq.take count

/-- `iterutil.At(seq, n)`: skips while `0 < n`, then returns the element; `none` = `ok == false` -/
def at? {α : Type} : List α → Nat → Option α
  | [], _ => none
  | v :: _, 0 => some v
  | _ :: r, n + 1 => at? r n

/-! ### strings -/

/-- byte sequences that `unicode.IsSpace` accepts after UTF-8 decoding (ASCII, U+0085, U+00A0, U+1680,
    U+2000–U+200A, U+2028, U+2029, U+202F, U+205F, U+3000) -/
def spaceRunes : List Bytes :=
  [[9], [10], [11], [12], [13], [32], [0xC2, 0x85], [0xC2, 0xA0], [0xE1, 0x9A, 0x80],
   [0xE2, 0x80, 0x80], [0xE2, 0x80, 0x81], [0xE2, 0x80, 0x82], [0xE2, 0x80, 0x83], [0xE2, 0x80, 0x84],
   [0xE2, 0x80, 0x85], [0xE2, 0x80, 0x86], [0xE2, 0x80, 0x87], [0xE2, 0x80, 0x88], [0xE2, 0x80, 0x89],
   [0xE2, 0x80, 0x8A], [0xE2, 0x80, 0xA8], [0xE2, 0x80, 0xA9], [0xE2, 0x80, 0xAF], [0xE2, 0x81, 0x9F],
   [0xE3, 0x80, 0x80]]

def dropRune (pats : List Bytes) (s : Bytes) : Option Bytes :=
  pats.findSome? fun p => if p.isPrefixOf s then some (s.drop p.length) else none

def trimRunes (pats : List Bytes) : Nat → Bytes → Bytes
  | 0, s => s
  | f + 1, s =>
    match dropRune pats s with
    | some r => trimRunes pats f r
    | none => s

/-- `strings.TrimSpace` -/
def trimSpace (s : Bytes) : Bytes :=
  let l := trimRunes spaceRunes s.length s
  (trimRunes (spaceRunes.map List.reverse) l.length l.reverse).reverse

def lower (b : UInt8) : UInt8 := if 65 ≤ b ∧ b ≤ 90 then b + 32 else b

/-- `strings.EqualFold(s, "for")` (no non-ASCII rune folds to `f`, `o` or `r`) -/
def equalFoldFor (s : Bytes) : Bool := s.map lower == [102, 111, 114]

/-- `trimMatchedEnds(s, chars)` with `chars = [first, last]` -/
def trimMatchedEnds (s : Bytes) (first last : UInt8) : Bytes :=
  if s.length < 2 then s
  else if s.head? ≠ some first then s
  else if s.getLast? ≠ some last then s
  else s.tail.dropLast

/-- `netutil.SplitHostZone` -/
def splitHostZone (s : Bytes) : Bytes × Bytes :=
  match cutLast PCT s with
  | some (host, zone) => if host.length > 0 then (host, zone) else (s, [])
  | none => (s, [])

/-! ### net -/

/-- `net.SplitHostPort`: the host, `none` = any error -/
def splitHostPort (hp : Bytes) : Option Bytes :=
  match cutLast COLON hp with
  | none => none                                             -- missing port
  | some (beforeLast, _) =>                                  -- i = beforeLast.length
    if hp.head? = some LSQ then
      match cut RSQ hp with
      | (_, none) => none                                    -- missing ']'
      | (pre, some afterEnd) =>                              -- end = pre.length
        if afterEnd = [] then none                           -- end+1 == len: missing port
        else if pre.length + 1 = beforeLast.length then      -- end+1 == i
          if (hp.drop 1).contains LSQ then none
          else if afterEnd.contains RSQ then none
          else some (pre.drop 1)
        else none                                            -- too many colons / missing port
    else
      if beforeLast.contains COLON then none                 -- too many colons
      else if hp.contains LSQ then none
      else if hp.contains RSQ then none
      else some beforeLast

def isDigit (c : UInt8) : Bool := 48 ≤ c && c ≤ 57
def isHexDigit (c : UInt8) : Bool := isDigit c || (97 ≤ c && c ≤ 102) || (65 ≤ c && c ≤ 70)
def hexDigitVal (c : UInt8) : Nat :=
  if isDigit c then c.toNat - 48 else if 97 ≤ c then c.toNat - 87 else c.toNat - 55

/-- `netip.parseIPv4Fields` over all of `s`; state `val`, `digLen`, fields so far (`pos = fields.length`) -/
def v4Fields : Bytes → Nat → Nat → List Nat → Option (List Nat)
  | [], val, _, fields => if fields.length < 3 then none else some (fields ++ [val])
  | c :: r, val, digLen, fields =>
    if isDigit c then
      if digLen = 1 ∧ val = 0 then none                      -- leading zero
      else
        let v := val * 10 + (c.toNat - 48)
        if v > 255 then none else v4Fields r v (digLen + 1) fields
    else if c = DOT then
      if digLen = 0 ∨ r = [] then none                       -- i == 0 || s[i-1] == '.' || i == len(s)-1
      else if fields.length = 3 then none                    -- too long
      else v4Fields r 0 0 (fields ++ [val])
    else none

def bytesToNat (bs : List Nat) : Nat := bs.foldl (fun a b => a * 256 + b) 0

/-- the `for i < 16` loop of `netip.parseIPv6`: each iteration stores two bytes, so 8 iterations exhaust it.
    Result: remaining text, bytes stored so far, ellipsis position. -/
def v6Loop : Nat → Bytes → List Nat → Option Nat → Option (Bytes × List Nat × Option Nat)
  | 0, s, ip, ell => some (s, ip, ell)
  | f + 1, s, ip, ell =>
    let digits := s.takeWhile isHexDigit
    if digits.length > 4 then none
    else if digits.length = 0 then none
    else
      let rest := s.drop digits.length
      if rest.head? = some DOT then
        if ell.isNone ∧ ip.length ≠ 12 then none
        else if ip.length + 4 > 16 then none
        else match v4Fields s 0 0 [] with
          | none => none
          | some fs => some ([], ip ++ fs, ell)
      else
        let acc := digits.foldl (fun a c => a * 16 + hexDigitVal c) 0
        let ip := ip ++ [acc / 256, acc % 256]
        if rest = [] then some ([], ip, ell)
        else if rest.head? ≠ some COLON then none
        else if rest.length = 1 then none
        else
          let s1 := rest.drop 1
          if s1.head? = some COLON then
            if ell.isSome then none
            else
              let s2 := s1.drop 1
              if s2 = [] then some ([], ip, some ip.length) else v6Loop f s2 ip (some ip.length)
          else v6Loop f s1 ip ell

/-- `netip.parseIPv6` for a text without `%` -/
def parseIPv6 (s : Bytes) : Option Nat :=
  let lead := s.take 2 == [COLON, COLON]
  let s' := if lead then s.drop 2 else s
  if lead ∧ s' = [] then some 0
  else match v6Loop 8 s' [] (if lead then some 0 else none) with
    | none => none
    | some (rest, ip, ell) =>
      if rest ≠ [] then none
      else if ip.length < 16 then
        match ell with
        | none => none
        | some e => some (bytesToNat (ip.take e ++ List.replicate (16 - ip.length) 0 ++ ip.drop e))
      else if ell.isSome then none
      else some (bytesToNat ip)

def firstSpecial : Bytes → Option UInt8
  | [] => none
  | c :: r => if c = DOT ∨ c = COLON ∨ c = PCT then some c else firstSpecial r

/-- `net.ParseIP`: the 16-byte form as a number (IPv4 as `::ffff:a.b.c.d`). `netip.ParseAddr` dispatches on the first
    of `.`, `:`, `%`; `net.ParseIP` rejects every result that carries a zone, so any `%` means failure. -/
def parseIP (s : Bytes) : Option Nat :=
  if s.contains PCT then none
  else match firstSpecial s with
    | none => none
    | some c =>
      if c = DOT then (v4Fields s 0 0 []).map fun fs => 0xffff * 2 ^ 32 + bytesToNat fs
      else parseIPv6 s

structure Addr where
  ip : Nat
  zone : Bytes
deriving DecidableEq, Repr

inductive ErrKind where
  | invalid | unspecified | remoteInvalid | remoteUnspecified | singleMissing | leftmost | nonPrivate
  | countFew | countInvalid | range | rangeResolver
deriving DecidableEq, Repr

/-- a resolver result: an address, errors (joined in a chain), a constructor error, or `(nil, nil)` -/
inductive Res where
  | ok (a : Addr)
  | err (ks : List ErrKind)
  | cfgErr
  | nilNil
deriving DecidableEq, Repr

def Res.toOption : Res → Option Addr
  | .ok a => some a
  | _ => none

/-- `IP.IsUnspecified` on the 16-byte form: `::` or `::ffff:0.0.0.0` -/
def isUnspecified (ip : Nat) : Bool := ip == 0 || ip == 0xffff * 2 ^ 32

/-- `ParseIPAddr` -/
def parseIPAddr (s : Bytes) : Except ErrKind Addr :=
  let ip := match splitHostPort s with
    | some host => host
    | none => s
  let ip := trimMatchedEnds ip LSQ RSQ
  let (ipStr, zone) := splitHostZone ip
  match parseIP ipStr with
  | none => .error .invalid
  | some a => if isUnspecified a then .error .unspecified else .ok ⟨a, zone⟩

def parseIPAddr? (s : Bytes) : Option Addr :=
  match parseIPAddr s with
  | .ok a => some a
  | .error _ => none

/-- `strings.SplitN(fp, "=", 2)` with two results -/
def splitEq (fp : Bytes) : Option (Bytes × Bytes) :=
  match cut EQUAL fp with
  | (k, some v) => some (k, v)
  | (_, none) => none

/-- the `for fp := range Take(SplitStringSeq(fwd, ";"), 4)` loop: the value of the first `for=` part -/
def findFor : List Bytes → Bytes
  | [] => []
  | fp :: rest =>
    match splitEq (trimSpace fp) with
    | none => findFor rest
    | some (k, v) => if equalFoldFor k then v else findFor rest

/-- `parseForwardedListItem` -/
def parseForwardedListItem (fwd : Bytes) : Option Addr :=
  let forPart := findFor (take 4 (splitFwd SEMI fwd))
  let forPart := trimSpace forPart
  let forPart := trimMatchedEnds forPart QUOTE QUOTE
  if forPart = [] then none else parseIPAddr? forPart

inductive HKey where
  | xff | fwd
deriving DecidableEq, Repr

/-- what both iterators do with one trimmed list item -/
def parseItem (k : HKey) (raw : Bytes) : Option Addr :=
  match k with
  | .fwd => parseForwardedListItem raw
  | .xff => parseIPAddr? raw

/-- `ipAddrSeq(values, headerName)`: yielded values in order -/
def ipAddrSeq (k : HKey) (values : List Bytes) : List (Option Addr) :=
  values.flatMap fun v => (splitFwd COMMA v).map fun raw => parseItem k (trimSpace raw)

/-- `backwardIpAddrSeq(values, headerName)`: yielded values in order (last item of the last line first) -/
def backwardIpAddrSeq (k : HKey) (values : List Bytes) : List (Option Addr) :=
  values.reverse.flatMap fun v => (splitBwd COMMA v).map fun raw => parseItem k (trimSpace raw)

/-! ### ranges -/

structure Cidr where
  fam : Nat
  addr : Nat
  len : Nat
deriving DecidableEq, Repr

def Cidr.ofTriple (t : Nat × Nat × Nat) : Cidr := ⟨t.1, t.2.1, t.2.2⟩

def isV4Mapped (ip : Nat) : Bool := ip / 2 ^ 32 == 0xffff

/-- `IPNet.Contains` for a network made by `net.ParseCIDR` (4-byte network and mask for IPv4 text, 16-byte ones
    otherwise) and an address in 16-byte form -/
def contains (c : Cidr) (ip : Nat) : Bool :=
  if c.fam = 4 then
    isV4Mapped ip && (ip % 2 ^ 32) >>> (32 - c.len) == c.addr >>> (32 - c.len)
  else if isV4Mapped c.addr then
    -- `networkNumberAndMask` shortens the network to 4 bytes; the 16-byte mask fits only if it starts with 12 × 0xff
    decide (96 ≤ c.len) && isV4Mapped ip && ip >>> (128 - c.len) == c.addr >>> (128 - c.len)
  else
    -- `ip.To4()` shortens the address, the lengths differ
    !isV4Mapped ip && ip >>> (128 - c.len) == c.addr >>> (128 - c.len)

/-- `isIPContainedInRanges` -/
def inRanges (rs : List Cidr) (ip : Nat) : Bool := rs.any fun r => contains r ip

def tbl (t : List (Nat × Nat × Nat)) : List Cidr := t.map Cidr.ofTriple

inductive RangeOpt where
  | loopback (enable : Bool) | linkLocal (enable : Bool) | privateNet (enable : Bool)
deriving DecidableEq, Repr

/-- `opt.applyRight(cfg)` / `opt.applyLeft(cfg)` (options.go) -/
def applyOpt (cfg : List Cidr) : RangeOpt → List Cidr
  | .loopback e => if e then cfg ++ tbl Generated.loopbackRanges else cfg
  | .linkLocal e => if e then cfg ++ tbl Generated.linkLocalRanges else cfg
  | .privateNet e => if e then cfg ++ tbl Generated.privateRange else cfg

/-- `orSlice(cfg.ipRanges, privateAndLocalRanges)` after applying the options -/
def configuredRanges (opts : List RangeOpt) : List Cidr :=
  let cfg := opts.foldl applyOpt []
  if cfg.length > 0 then cfg else tbl Generated.privateAndLocalRanges

/-! ### strategies -/

structure Req where
  headers : List (Bytes × List Bytes)   -- canonical name ↦ values
  remoteAddr : Bytes

def Req.values (r : Req) (name : Bytes) : List Bytes :=
  match r.headers.find? (fun h => h.1 == name) with
  | some h => h.2
  | none => []

def hdrName : HKey → Bytes
  | .xff => Generated.xForwardedForHdr.map UInt8.ofNat
  | .fwd => Generated.forwardedHdr.map UInt8.ofNat

/-- `RemoteAddr.ClientIP` -/
def remoteAddr (remote : Bytes) : Res :=
  match parseIPAddr remote with
  | .ok a => .ok a
  | .error .unspecified => .err [.remoteUnspecified]
  | .error _ => .err [.remoteInvalid]

/-- `SingleIPHeader.ClientIP` (`lastHeader` inlined) -/
def singleIPHeader (values : List Bytes) : Res :=
  let ipStr := match values.getLast? with
    | some v => v
    | none => []
  if ipStr = [] then .err [.singleMissing]
  else match parseIPAddr ipStr with
    | .ok a => .ok a
    | .error k => .err [k]

/-- the loop of `LeftmostNonPrivate.ClientIP` / `RightmostNonPrivate.ClientIP` over the yielded values -/
def firstOutside (ranges : List Cidr) (e : ErrKind) : List (Option Addr) → Res
  | [] => .err [e]
  | none :: r => firstOutside ranges e r
  | some a :: r => if !inRanges ranges a.ip then .ok a else firstOutside ranges e r

/-- `LeftmostNonPrivate.ClientIP` -/
def leftmostNonPrivate (k : HKey) (limit : Nat) (ranges : List Cidr) (values : List Bytes) : Res :=
  if values.length > 0 then firstOutside ranges .leftmost (take limit (ipAddrSeq k values))
  else .err [.leftmost]

/-- `RightmostNonPrivate.ClientIP` -/
def rightmostNonPrivate (k : HKey) (ranges : List Cidr) (values : List Bytes) : Res :=
  if values.length > 0 then firstOutside ranges .nonPrivate (backwardIpAddrSeq k values)
  else .err [.nonPrivate]

/-- `RightmostTrustedCount.ClientIP` (`trustedCount ≥ 1` is enforced by the constructor) -/
def rightmostTrustedCount (k : HKey) (trustedCount : Nat) (values : List Bytes) : Res :=
  match at? (backwardIpAddrSeq k values) (trustedCount - 1) with
  | none => .err [.countFew]
  | some none => .err [.countInvalid]
  | some (some a) => .ok a

/-- the loop of `RightmostTrustedRange.ClientIP` -/
def firstUntrusted (ranges : List Cidr) : List (Option Addr) → Res
  | [] => .err [.range]
  | some a :: r => if inRanges ranges a.ip then firstUntrusted ranges r else .ok a
  | none :: _ => .err [.range]

/-- `RightmostTrustedRange.ClientIP`; `none` = the `TrustedIPRange` resolver failed -/
def rightmostTrustedRange (k : HKey) (ranges : Option (List Cidr)) (values : List Bytes) : Res :=
  match ranges with
  | none => .err [.rangeResolver]
  | some rs => firstUntrusted rs (backwardIpAddrSeq k values)

inductive Resolver where
  | remote
  | single (name : Bytes)
  | leftmost (k : HKey) (limit : Nat) (opts : List RangeOpt)
  | nonPrivate (k : HKey) (opts : List RangeOpt)
  | count (k : HKey) (n : Nat)
  | range (k : HKey) (ranges : Option (List Cidr))
deriving Repr

/-- constructor followed by `ClientIP` -/
def resolve (req : Req) : Resolver → Res
  | .remote => remoteAddr req.remoteAddr
  | .single name => singleIPHeader (req.values name)
  | .leftmost k limit opts =>
    if limit = 0 then .cfgErr else leftmostNonPrivate k limit (configuredRanges opts) (req.values (hdrName k))
  | .nonPrivate k opts => rightmostNonPrivate k (configuredRanges opts) (req.values (hdrName k))
  | .count k n => if n = 0 then .cfgErr else rightmostTrustedCount k n (req.values (hdrName k))
  | .range k ranges => rightmostTrustedRange k ranges (req.values (hdrName k))

/-- the loop of `Chain.ClientIP` over the results of the sub-resolvers; `errs` = errors joined so far
    (`none` = nil). An empty chain returns `(nil, nil)`. -/
def chainLoop : List Res → Option (List ErrKind) → Res
  | [], none => .nilNil
  | [], some ks => .err ks
  | .ok a :: _, _ => .ok a
  | .err ks :: r, errs => chainLoop r (some (errs.getD [] ++ ks))
  | .nilNil :: _, _ => .nilNil            -- err == nil: return ipAddr, nil
  | .cfgErr :: _, _ => .cfgErr            -- not constructible (see `chain`)

/-- `NewChain(...)` over successfully constructed resolvers, then `ClientIP`; a failing constructor is reported as such -/
def chain (req : Req) (rs : List Resolver) : Res :=
  let results := rs.map (resolve req)
  if results.any (· == .cfgErr) then .cfgErr else chainLoop results none

end Fox.Model.ClientIP
