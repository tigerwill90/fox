import FoxModel.Spec.Options
import FoxModel.Lemmas.Middleware
/-
  Helper lemmas for property C19 (option folds, annotation map). Core Lean only.
-/
namespace Fox.Lemmas.Opt
open Fox Fox.Model.MW Fox.Model.Opt Fox.Spec.Opt Fox.Lemmas.MW

theorem lastOr_nil {α β : Type} (says : α → Option β) (d : β) : lastOr says d [] = d := rfl

theorem lastOr_cons {α β : Type} (says : α → Option β) (d : β) (o : α) (os : List α) :
    lastOr says d (o :: os) = lastOr says ((says o).getD d) os := by
  unfold lastOr
  cases h : says o with
  | none => simp [h]
  | some b => simp [h, List.getLast?_cons]

theorem lastOr_snoc {α β : Type} (says : α → Option β) (d : β) (os : List α) (o : α) :
    lastOr says d (os ++ [o]) = (says o).getD (lastOr says d os) := by
  unfold lastOr
  cases h : says o <;> simp [List.filterMap_append, h]

theorem ofAppend_appendMws {α : Type} (s : Nat) (g : Bool) (acc : List Mw) (ms : List (Option Nat)) (k : List Mw → α) :
    ofAppend (appendMws s g acc ms) k =
      if none ∈ ms then .invalidConfig else .ok (k (acc ++ ms.filterMap fun o => o.map fun i => ⟨i, s, g⟩)) := by
  rw [appendMws_eq]
  split <;> rfl

/-! ### the annotation map -/

theorem mapGet_mapSet (m : List (AnnKey × Nat)) (k' k : AnnKey) (v : Nat) (hk : k.reflexive = true) :
    mapGet (mapSet m k' v) k = if k' = k then some v else mapGet m k := by
  unfold mapGet mapSet
  simp only [hk, if_true]
  by_cases he : k' = k
  · subst he
    -- the old bindings of the key were filtered out, the new one is found
    have : (m.filter fun e => e.1 != k').find? (fun e => e.1 == k') = none :=
      List.find?_eq_none.2 fun e he => by simpa using (List.mem_filter.1 he).2
    simp [hk, List.find?_append, this]
  · -- bindings of other keys pass the filter; the new binding is not for `k`
    have hf : (m.filter fun e => e.1 != k').find? (fun e => e.1 == k) = m.find? fun e => e.1 == k := by
      rw [List.find?_filter]
      congr 1; funext e
      by_cases h : e.1 = k
      · simp [h, Ne.symm he]
      · simp [h]
    split <;> simp [List.find?_append, he, hf]

/-! ### one route option -/

def mkOwn (i : Nat) : Mw := ⟨i, cRouteHandler, false⟩

/-- the route after a well-formed option, field by field as the specification reads the option -/
def applied (r : RouteCfg) (o : RouteOpt) : RouteCfg :=
  { r with
    redirectTS := (saysRedirect o).getD r.redirectTS
    ignoreTS := (saysIgnore o).getD r.ignoreTS
    clientip := (saysResolver o).getD r.clientip
    mws := r.mws ++ (ownOf o).map mkOwn
    annots := match o with
      | .annotation k v => mapSet r.annots k v
      | _ => r.annots }

theorem applyRoute_eq (r : RouteCfg) (o : RouteOpt) :
    applyRoute r o = if optValid o then .ok (applied r o) else .invalidConfig := by
  cases o with
  | middleware ms =>
    rw [applyRoute, ofAppend_appendMws]
    by_cases hn : none ∈ ms
    · simp [optValid, hn]
    · simp [optValid, hn, applied, ownOf, saysRedirect, saysIgnore, saysResolver, List.map_filterMap]
      congr 1
  | redirectTS b | ignoreTS b =>
    cases b <;> simp [applyRoute, optValid, applied, ownOf, saysRedirect, saysIgnore, saysResolver]
  | clientIP x => simp [applyRoute, optValid, applied, ownOf, saysRedirect, saysIgnore, saysResolver]
  | annotation k v =>
    cases hn : k.isNil <;> cases hh : k.hashable <;>
      simp [applyRoute, optValid, applied, ownOf, saysRedirect, saysIgnore, saysResolver, hn, hh]

theorem mapGet_applied (r : RouteCfg) (o : RouteOpt) (k : AnnKey) (hk : k.reflexive = true) :
    mapGet (applied r o).annots k = ((saysAnnotation k o).map some).getD (mapGet r.annots k) := by
  cases o with
  | annotation k' v =>
    simp only [applied, mapGet_mapSet _ _ _ _ hk, saysAnnotation]
    by_cases he : k' = k <;> simp [he]
  | _ => rfl

end Fox.Lemmas.Opt
