import FoxModel.Lemmas.Instances
import FoxModel.Spec.Clean
/-
  FoxModel.Lemmas.CleanSpec — lemmas about the lexical specification of the canonical path. What is said about `splitSlash` goes
  through the induction along the elements (`slash_induction`) and the two equations that go with it; then: joining and splitting are
  inverse, the stack keeps only proper elements, the last element of the split, canonical paths told by their elements.
-/
namespace Fox.Spec.Clean
open Fox

theorem splitSlash_cons_slash (t : Bytes) : splitSlash (SLASH :: t) = [] :: splitSlash t := by
  simp [splitSlash]

theorem splitSlash_prefix {e x h : Bytes} {t : List Bytes} (he : SLASH ∉ e) (hx : splitSlash x = h :: t) :
    splitSlash (e ++ x) = (e ++ h) :: t := by
  induction e with
  | nil => simpa using hx
  | cons b e ih =>
    have hb : b ≠ SLASH := fun h => he (by simp [h])
    have he' : SLASH ∉ e := fun h => he (by simp [h])
    simp only [List.cons_append, splitSlash, if_neg hb, ih he']

theorem splitSlash_noslash {e : Bytes} (he : SLASH ∉ e) : splitSlash e = [e] := by
  have := splitSlash_prefix (x := []) (h := []) (t := []) he (by simp [splitSlash])
  simpa using this

theorem splitSlash_first {a b : Bytes} (ha : SLASH ∉ a) : splitSlash (a ++ SLASH :: b) = a :: splitSlash b := by
  have := splitSlash_prefix (x := SLASH :: b) ha (splitSlash_cons_slash b)
  simpa using this

/-- induction along the elements: `splitSlash_noslash` and `splitSlash_first` are the equations of `splitSlash` that go with it -/
theorem slash_induction {motive : Bytes → Prop} (last : ∀ e, SLASH ∉ e → motive e)
    (seg : ∀ a b, SLASH ∉ a → motive b → motive (a ++ SLASH :: b)) (p : Bytes) : motive p := by
  -- with the bytes of the element that is being read in front
  suffices ∀ (p a : Bytes), SLASH ∉ a → motive (a ++ p) from this p [] (by simp)
  intro p
  induction p with
  | nil => intro a ha; rw [List.append_nil]; exact last a ha
  | cons c t ih =>
    intro a ha
    by_cases hc : c = SLASH
    · rw [hc]; exact seg a t ha (ih [] (by simp))
    · rw [show a ++ c :: t = (a ++ [c]) ++ t by simp]
      exact ih (a ++ [c]) (by simp [ha, Ne.symm hc])

/-- what is left behind a complete element: nothing, or a slash and what follows it -/
def ElemEnd (rest : Bytes) : Prop := rest = [] ∨ ∃ t, rest = SLASH :: t

theorem elemEnd_nil : ElemEnd [] := Or.inl rfl

theorem elemEnd_slash (t : Bytes) : ElemEnd (SLASH :: t) := Or.inr ⟨t, rfl⟩

theorem first_slash_decomp (p : Bytes) : ∃ e rest, p = e ++ rest ∧ SLASH ∉ e ∧ ElemEnd rest := by
  induction p using slash_induction with
  | last e he => exact ⟨e, [], by simp, he, elemEnd_nil⟩
  | seg a b ha _ => exact ⟨a, SLASH :: b, rfl, ha, elemEnd_slash b⟩

/-- the last element, behind the last slash if there is one -/
theorem last_slash_decomp (p : Bytes) : SLASH ∉ p ∨ ∃ x e, p = x ++ SLASH :: e ∧ SLASH ∉ e := by
  induction p using slash_induction with
  | last e he => exact Or.inl he
  | seg a b _ ih =>
    rcases ih with h | ⟨x, e, rfl, h⟩
    · exact Or.inr ⟨a, b, rfl, h⟩
    · exact Or.inr ⟨a ++ SLASH :: x, e, by simp, h⟩

theorem splitSlash_ne_nil (p : Bytes) : splitSlash p ≠ [] := by
  induction p using slash_induction with
  | last e he => rw [splitSlash_noslash he]; simp
  | seg a b ha _ => rw [splitSlash_first ha]; simp

theorem splitSlash_cons_of_ne {c : UInt8} (hc : c ≠ SLASH) (t : Bytes) :
    ∃ x r, splitSlash t = x :: r ∧ splitSlash (c :: t) = (c :: x) :: r := by
  obtain ⟨x, r, hx⟩ := List.exists_cons_of_ne_nil (splitSlash_ne_nil t)
  exact ⟨x, r, hx, by simp [splitSlash, hc, hx]⟩

theorem splitSlash_append_slash (x y : Bytes) :
    splitSlash (x ++ SLASH :: y) = splitSlash x ++ splitSlash y := by
  induction x using slash_induction with
  | last e he => rw [splitSlash_first he, splitSlash_noslash he]; rfl
  | seg a b ha ih => rw [List.append_assoc, List.cons_append, splitSlash_first ha, ih, splitSlash_first ha]; rfl

theorem mem_splitSlash_noslash {p e : Bytes} (h : e ∈ splitSlash p) : SLASH ∉ e := by
  induction p using slash_induction with
  | last a ha =>
    rw [splitSlash_noslash ha] at h
    exact List.mem_singleton.mp h ▸ ha
  | seg a b ha ih =>
    rw [splitSlash_first ha] at h
    rcases List.mem_cons.mp h with h | h
    · exact h ▸ ha
    · exact ih h

theorem join_cons (e : Bytes) (st : List Bytes) : join (e :: st) = SLASH :: (e ++ join st) := by
  simp [join]

theorem join_eq_nil {st : List Bytes} : join st = [] ↔ st = [] := by
  cases st with
  | nil => simp [join]
  | cons s st => simp [join_cons]

theorem join_append (a b : List Bytes) : join (a ++ b) = join a ++ join b := by
  simp [join]

theorem join_concat (st : List Bytes) (e : Bytes) : join (st ++ [e]) = join st ++ SLASH :: e := by
  simp [join]

theorem splitSlash_join {st : List Bytes} (h : ∀ e ∈ st, SLASH ∉ e) : splitSlash (join st) = [] :: st := by
  induction st with
  | nil => simp [join, splitSlash]
  | cons e st ih =>
    have ih' := ih (fun x hx => h x (by simp [hx]))
    rw [join_cons, splitSlash_cons_slash, splitSlash_prefix (h e (by simp)) ih']
    simp

theorem splitSlash_join_slash {st : List Bytes} (h : ∀ e ∈ st, SLASH ∉ e) :
    splitSlash (join st ++ [SLASH]) = [] :: st ++ [[]] := by
  rw [splitSlash_append_slash, splitSlash_join h]; rfl

theorem join_splitSlash (p : Bytes) : join (splitSlash p) = SLASH :: p := by
  induction p using slash_induction with
  | last a ha => rw [splitSlash_noslash ha]; simp [join]
  | seg a b ha ih => rw [splitSlash_first ha, join_cons, ih]

/-! ### proper elements and the stack -/

theorem GoodElem.ne_nil {e : Bytes} (h : GoodElem e) : e ≠ [] := h.1

theorem GoodElem.noslash {e : Bytes} (h : GoodElem e) : SLASH ∉ e := h.2.2.2

theorem GoodElem.not_elemEnd {e : Bytes} (h : GoodElem e) (rest : Bytes) : ¬ ElemEnd (e ++ rest) := by
  rintro (h0 | ⟨t, h0⟩)
  · exact h.ne_nil (List.append_eq_nil_iff.mp h0).1
  · cases e with
    | nil => exact h.ne_nil rfl
    | cons c e => exact h.noslash (by rw [(List.cons.inj h0).1]; exact List.mem_cons_self)

/-- a proper element is told from "", "." and ".." by its first bytes: one that is not '.', or '.' and one that is not '.',
    or ".." and a third byte -/
theorem goodElem_cases {e : Bytes} (h : GoodElem e) :
    (∃ c t, e = c :: t ∧ c ≠ SLASH ∧ c ≠ DOT) ∨ (∃ c t, e = DOT :: c :: t ∧ c ≠ SLASH ∧ c ≠ DOT) ∨
      ∃ c t, e = DOT :: DOT :: c :: t ∧ c ≠ SLASH := by
  obtain ⟨hne, hd, hdd, hs⟩ := h
  have hs' : ∀ c ∈ e, c ≠ SLASH := fun c hc => ne_of_mem_of_not_mem hc hs
  cases e with
  | nil => exact absurd rfl hne
  | cons c t =>
    by_cases hc : c = DOT
    · subst hc
      cases t with
      | nil => exact absurd rfl hd
      | cons c1 t =>
        by_cases hc1 : c1 = DOT
        · subst hc1
          cases t with
          | nil => exact absurd rfl hdd
          | cons c2 t => exact Or.inr (Or.inr ⟨c2, t, rfl, hs' c2 (by simp)⟩)
        · exact Or.inr (Or.inl ⟨c1, t, rfl, hs' c1 (by simp), hc1⟩)
    · exact Or.inl ⟨c, t, rfl, hs' c (by simp), hc⟩

theorem push_nil (st : List Bytes) : push st [] = st := by simp [push]

theorem push_dot (st : List Bytes) : push st [DOT] = st := by simp [push]

theorem push_dotdot (st : List Bytes) : push st [DOT, DOT] = st.tail := by
  unfold push
  rw [if_neg (by decide), if_pos rfl]

theorem push_of_good {st : List Bytes} {e : Bytes} (he : GoodElem e) : push st e = e :: st := by
  unfold push
  rw [if_neg (by intro h; rcases h with h | h; exact he.1 h; exact he.2.1 h), if_neg he.2.2.1]

theorem push_good {st : List Bytes} {e : Bytes} (hst : ∀ x ∈ st, GoodElem x) (he : SLASH ∉ e) :
    ∀ x ∈ push st e, GoodElem x := by
  unfold push
  split
  · exact hst
  · rename_i h1
    split
    · exact fun x hx => hst x (List.mem_of_mem_tail hx)
    · rename_i h2
      exact List.forall_mem_cons.mpr ⟨⟨fun h => h1 (Or.inl h), fun h => h1 (Or.inr h), h2, he⟩, hst⟩

theorem foldl_push_good {l : List Bytes} {acc : List Bytes} (hl : ∀ e ∈ l, SLASH ∉ e)
    (hacc : ∀ x ∈ acc, GoodElem x) : ∀ x ∈ l.foldl push acc, GoodElem x := by
  induction l generalizing acc with
  | nil => simpa using hacc
  | cons e l ih =>
    simp only [List.foldl_cons]
    exact ih (fun x hx => hl x (by simp [hx])) (push_good hacc (hl e (by simp)))

theorem stack_good (p : Bytes) : ∀ e ∈ stack p, GoodElem e := by
  intro e he
  unfold stack at he
  rw [List.mem_reverse] at he
  exact foldl_push_good (fun x hx => mem_splitSlash_noslash hx) (by simp) e he

theorem foldl_push_of_good {l acc : List Bytes} (hl : ∀ e ∈ l, GoodElem e) :
    l.foldl push acc = l.reverse ++ acc := by
  induction l generalizing acc with
  | nil => simp
  | cons e l ih =>
    simp only [List.foldl_cons, push_of_good (hl e (by simp))]
    rw [ih (fun x hx => hl x (by simp [hx]))]
    simp

/-! ### last character of a joined path -/

theorem getLast?_append_slash_ne_slash {b : Bytes} (hb : SLASH ∉ b) (hne : b ≠ []) (x : Bytes) :
    (x ++ SLASH :: b).getLast? ≠ some SLASH := by
  rcases List.eq_nil_or_concat b with rfl | ⟨l, a, rfl⟩
  · exact absurd rfl hne
  · rw [List.concat_eq_append, ← List.cons_append, ← List.append_assoc, List.getLast?_concat]
    exact fun e => hb (by simp [Option.some.inj e])

theorem getLast?_join_ne_slash {st : List Bytes} (hne : st ≠ []) (h : ∀ e ∈ st, GoodElem e) :
    (join st).getLast? ≠ some SLASH := by
  have hg := h _ (List.getLast_mem hne)
  rw [← List.dropLast_concat_getLast hne, join_concat]
  exact getLast?_append_slash_ne_slash hg.noslash hg.ne_nil _

/-! ### the last element of the split -/

theorem getLast?_splitSlash_append {x e : Bytes} (he : SLASH ∉ e) :
    (splitSlash (x ++ SLASH :: e)).getLast? = some e := by
  rw [splitSlash_append_slash, splitSlash_noslash he, List.getLast?_append]
  simp

theorem lastElem_iff {e : Bytes} (he : SLASH ∉ e) (p : Bytes) :
    (splitSlash p).getLast? = some e ↔ (p = e ∨ ∃ x, p = x ++ SLASH :: e) := by
  constructor
  · intro h
    rcases last_slash_decomp p with hp | ⟨x, e', hp, he'⟩
    · rw [splitSlash_noslash hp] at h
      exact Or.inl (by simpa using h)
    · rw [hp, getLast?_splitSlash_append he'] at h
      exact Or.inr ⟨x, by rw [hp, Option.some.inj h]⟩
  · intro h
    rcases h with h | ⟨x, h⟩
    · rw [h, splitSlash_noslash he]; rfl
    · rw [h]; exact getLast?_splitSlash_append he

theorem lastElem_nil_iff (p : Bytes) :
    (splitSlash p).getLast? = some [] ↔ (p = [] ∨ p.getLast? = some SLASH) := by
  rw [lastElem_iff (by simp)]
  exact or_congr Iff.rfl List.getLast?_eq_some_iff.symm

/-! ### canonical paths by their elements -/

theorem canonical_rooted {q : Bytes} (h : Canonical q) : q.head? = some SLASH := by
  rcases h with rfl | ⟨st, hne, _, h⟩
  · rfl
  · cases st with
    | nil => exact absurd rfl hne
    | cons s st => rcases h with rfl | rfl <;> simp [join_cons]

theorem canonical_cons_iff (t : Bytes) :
    Canonical (SLASH :: t) ↔ [DOT] ∉ splitSlash t ∧ [DOT, DOT] ∉ splitSlash t ∧ [] ∉ (splitSlash t).dropLast := by
  constructor
  · intro h
    -- the elements of t are proper ones, with an empty one behind them for a trailing slash (or for the root)
    obtain ⟨st, hg, hL⟩ : ∃ st, (∀ s ∈ st, GoodElem s) ∧ (splitSlash t = st ∨ splitSlash t = st ++ [[]]) := by
      rcases h with h | ⟨st, _, hg, h⟩
      · exact ⟨[], by simp, Or.inr (by rw [(List.cons.inj h).2]; rfl)⟩
      · have hns : ∀ s ∈ st, SLASH ∉ s := fun s hs => (hg s hs).noslash
        refine ⟨st, hg, ?_⟩
        rcases h with h | h
        · have := splitSlash_join hns
          rw [← h, splitSlash_cons_slash] at this
          exact Or.inl (List.cons.inj this).2
        · have := splitSlash_join_slash hns
          rw [← h, splitSlash_cons_slash] at this
          exact Or.inr (List.cons.inj this).2
    have h0 : [] ∉ st := fun hm => (hg _ hm).1 rfl
    have h1 : [DOT] ∉ st := fun hm => (hg _ hm).2.1 rfl
    have h2 : [DOT, DOT] ∉ st := fun hm => (hg _ hm).2.2.1 rfl
    rcases hL with e | e <;> rw [e]
    · exact ⟨h1, h2, fun hm => h0 (List.dropLast_subset _ hm)⟩
    · rw [List.dropLast_concat]; exact ⟨by simp [h1], by simp [h2], h0⟩
  · intro ⟨h1, h2, h3⟩
    -- the elements of t: `D` and the last one, `l`
    obtain ⟨D, l, hL⟩ : ∃ D l, splitSlash t = D ++ [l] :=
      ⟨_, _, (List.dropLast_concat_getLast (splitSlash_ne_nil t)).symm⟩
    have hj : SLASH :: t = join D ++ SLASH :: l := by rw [← join_splitSlash, hL, join_concat]
    rw [hL] at h1 h2
    rw [hL, List.dropLast_concat] at h3
    have hgood : ∀ s ∈ D ++ [l], s ≠ [] → GoodElem s := fun s hs h0 =>
      ⟨h0, fun e => h1 (e ▸ hs), fun e => h2 (e ▸ hs), mem_splitSlash_noslash (hL ▸ hs)⟩
    have hD : ∀ s ∈ D, GoodElem s := fun s hs => hgood s (by simp [hs]) fun e => h3 (e ▸ hs)
    by_cases hl : l = []
    · subst hl
      by_cases hd : D = []
      · left; rw [hj, hd]; rfl
      · exact Or.inr ⟨D, hd, hD, Or.inr hj⟩
    · exact Or.inr ⟨D ++ [l], by simp, List.forall_mem_append.mpr ⟨hD, List.forall_mem_singleton.mpr (hgood l (by simp) hl)⟩,
        Or.inl (by rw [join_concat]; exact hj)⟩

end Fox.Spec.Clean
