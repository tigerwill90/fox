import FoxModel.Lemmas.Tree.Sufs
import FoxModel.Lemmas.Tree.Shape
import FoxModel.Lemmas.Tree.Roots
import FoxModel.Lemmas.TreeOps
/-
  FoxModel.Lemmas.TreeInv — the tree level: the invariant `Good` of reachable trees (every method root well formed,
  of the right shape, holding each route under its own pattern; no method twice), the suffix set `sufsOf` and route
  list `routesOf` of a method, and what the operations do in these terms.

  `insert_spec`, `update_spec`, `remove_spec`, `truncateOne_spec` put the node-level results together: what
  `Tree.insert / update / remove` and one step of `truncate` do to `Good` and to the suffix sets, and what their
  answers mean.
-/

namespace Fox.C02
open Fox Fox.Model Fox.Spec

/-! ### the invariant `Good` of reachable trees -/

theorem validPattern_hostOk {r : Route} (h : validPattern r = true) : HostOk r 0 r.pattern := by
  obtain ⟨_, h2, _, h4⟩ := (validPattern_iff r).mp h
  intro _
  refine ⟨?_, h4⟩
  have hne := startsWithSlash_ne_nil h2
  have : (r.pattern.drop r.hostToks).length ≠ 0 := fun e => hne (List.length_eq_zero_iff.mp e)
  simp only [List.length_drop] at this
  omega

theorem validPattern_hostPos {r : Route} (h : validPattern r = true) : HostPos r 0 r.pattern := by
  obtain ⟨_, h2, h3, _⟩ := (validPattern_iff r).mp h
  exact ⟨Nat.zero_le _, h3, h2⟩

/-- everything the proofs need to know about one method root -/
structure RootOk (n : Node) : Prop where
  wf : wfRoot n = true
  shape : shapeKids n.children = true
  pats : ∀ sr ∈ sufsNode n, sr.1 = sr.2.pattern ∧ keyOk sr.1 = true

/-- the invariant of reachable trees -/
structure Good (t : Tree) : Prop where
  roots : ∀ x ∈ t.roots, RootOk x.2
  nodup : (t.roots.map (·.1)).Nodup

theorem Good.wfRoots {t : Tree} (h : Good t) : wfRoots t.roots = true := by
  simp only [Model.wfRoots, Bool.and_eq_true, List.all_eq_true, nodupB_iff]
  exact ⟨fun x hx => (h.roots x hx).wf, h.nodup⟩

theorem Good.hostOkRoots {t : Tree} (h : Good t) : hostOkRoots t.roots = true := by
  simp only [Model.hostOkRoots, List.all_eq_true]
  exact fun x hx => hostOkKids_of_shape (h.roots x hx).shape

theorem sufsNode_no_children {n : Node} (hwf : wfRoot n = true) (hc : n.children.isEmpty = true) :
    sufsNode n = [] := by
  obtain ⟨k, ro, cs⟩ := n
  obtain ⟨rfl, rfl, _, _⟩ := (wfRoot_iff _ _ _).mp hwf
  simp only [Node.children_mk, List.isEmpty_iff] at hc; subst hc
  simp [sufsNode_own, own, sufsKids]

theorem sufsNode_emptyNode : sufsNode emptyNode = [] := sufsNode_no_children (by decide) rfl

theorem rootOk_empty : RootOk emptyNode :=
  ⟨by decide, by decide, by rw [sufsNode_emptyNode]; intro _ h; cases h⟩

theorem Good.rootsOk {t : Tree} (h : Good t) : RootsOk RootOk t.roots := ⟨h.roots, h.nodup⟩

theorem RootsOk.good {t : Tree} (h : RootsOk RootOk t.roots) : Good t := ⟨h.1, h.2⟩

/-! ### the registered routes of a tree -/

/-- suffix set (pattern tokens, route) held for method `m` -/
def sufsOf (t : Tree) (m : Bytes) : SufSet :=
  match methodRoot t.roots m with
  | some root => sufsNode root
  | none => []

/-- the routes registered for method `m`, in iteration order -/
def routesOf (t : Tree) (m : Bytes) : List Route :=
  match methodRoot t.roots m with
  | some root => routesNode root
  | none => []

theorem sufsOf_some {rs : Roots} {sz mp dp : Nat} {m : Bytes} {n : Node} (h : methodRoot rs m = some n) :
    sufsOf ⟨rs, sz, mp, dp⟩ m = sufsNode n := by
  simp only [sufsOf, h]

theorem sufsOf_none {rs : Roots} {sz mp dp : Nat} {m : Bytes} (h : methodRoot rs m = none) :
    sufsOf ⟨rs, sz, mp, dp⟩ m = [] := by
  simp only [sufsOf, h]

theorem sufsOf_congr {rs rs' : Roots} {sz mp dp sz' mp' dp' : Nat} {m : Bytes}
    (h : methodRoot rs' m = methodRoot rs m) :
    sufsOf ⟨rs', sz', mp', dp'⟩ m = sufsOf ⟨rs, sz, mp, dp⟩ m := by
  simp only [sufsOf, h]

theorem routesOf_eq (t : Tree) (m : Bytes) : routesOf t m = (sufsOf t m).map (·.2) := by
  unfold routesOf sufsOf
  cases methodRoot t.roots m with
  | none => rfl
  | some root => exact routesNode_eq root

theorem routesOf_newRoots (sz mp dp : Nat) (m : Bytes) : routesOf ⟨newRoots, sz, mp, dp⟩ m = [] := by
  unfold routesOf
  cases hm : methodRoot newRoots m with
  | none => rfl
  | some root =>
    obtain ⟨_, _, e⟩ := List.mem_map.mp (methodRoot_some hm)
    rw [← (Prod.mk.inj e).2]; rfl

theorem Good.pats {t : Tree} (h : Good t) (m : Bytes) : ∀ sr ∈ sufsOf t m, sr.1 = sr.2.pattern ∧ keyOk sr.1 = true := by
  cases hm : methodRoot t.roots m with
  | none => rw [sufsOf_none hm]; intro _ h; cases h
  | some root => rw [sufsOf_some hm]; exact (h.roots _ (methodRoot_some hm)).pats

/-- on such a suffix set (`Good.pats`) the conflict rule reads the patterns of the routes -/
theorem conflictsIn_eq_filter {S : SufSet} (h : ∀ sr ∈ S, sr.1 = sr.2.pattern ∧ keyOk sr.1 = true) (pat : List Tok) :
    conflictsIn S pat = (S.map (·.2)).filter (fun r => conflictWith r.pattern pat) := by
  simp only [conflictsIn, List.filter_map]
  congr 1
  apply List.filter_congr
  intro sr hsr
  simp [Function.comp, (h sr hsr).1]

/-! ### what the operations do to `Good` and to the suffix sets -/

/-- what `Tree.insert` does, in terms of suffix sets -/
theorem insert_spec {t : Tree} {m : Bytes} {r : Route} (hg : Good t) (hv : validPattern r = true) :
    match t.insert m r with
    | .ok (t', _) => Good t' ∧ t'.size = t.size + 1 ∧
        (sufsOf t' m).Perm ((r.pattern, r) :: sufsOf t m) ∧ (∀ m', m' ≠ m → sufsOf t' m' = sufsOf t m') ∧
        ErrSpec (sufsOf t m) r.pattern none
    | .error e => ErrSpec (sufsOf t m) r.pattern (some e) ∧ (∀ cs, e = .conflict cs → cs ≠ []) := by
  -- a method without a root may be given the empty one first: same result, same suffix sets
  obtain ⟨t₀, root, hg₀, hm, hins, hsufs, hsize⟩ : ∃ t₀ root, Good t₀ ∧ methodRoot t₀.roots m = some root ∧
      t.insert m r = t₀.insert m r ∧ sufsOf t = sufsOf t₀ ∧ t.size = t₀.size := by
    cases hm : methodRoot t.roots m with
    | some root => exact ⟨t, root, hg, hm, rfl, rfl, rfl⟩
    | none =>
      refine ⟨{ t with roots := t.roots ++ [(m, emptyNode)] }, emptyNode, (hg.rootsOk.append hm rootOk_empty).good,
        methodRoot_append_same _ hm, insert_of_no_root r hm, ?_, rfl⟩
      funext m'
      by_cases e : m' = m
      · rw [e, sufsOf_some (methodRoot_append_same _ hm), sufsOf_none hm, sufsNode_emptyNode]
      · exact (sufsOf_congr (methodRoot_append_other _ _ e)).symm
  rw [hins, hsufs, hsize]
  clear hins hsufs hsize hg t
  obtain ⟨roots, sz, mp, dp⟩ := t₀
  have hro := hg₀.roots _ (methodRoot_some hm)
  have hne := validPattern_ne_nil hv
  have hok := ((validPattern_iff r).mp hv).1
  have hho := validPattern_hostOk hv
  have herr := err_insertN r root true 0 0 r.pattern hro.wf hne hok
  unfold Tree.insert
  simp only [hm]
  rw [sufsOf_some hm]
  cases hi : insertNode root true 0 0 r.pattern r with
  | error e =>
    rw [hi] at herr
    refine ⟨herr, ?_⟩
    exact conflict_ne_nil (InsFail.of_error hi) (Or.inr hro.shape) fun _ => hro.wf
  | ok res =>
    rw [hi] at herr
    have hins := Ins.of_ok hi
    have hperm := hins.sufs
    have hro' : RootOk res.node := by
      refine ⟨wf_insertNode hins hro.wf hne hok (fun e => nomatch e) hho,
        shape_insertNode root hins hro.shape hro.wf hne hok (fun e => nomatch e) hho (validPattern_hostPos hv), ?_⟩
      intro sr hsr
      rcases List.mem_cons.mp (hperm.mem_iff.mp hsr) with rfl | h1
      · exact ⟨rfl, hok⟩
      · exact hro.pats sr h1
    obtain ⟨root', dep, cse⟩ := res
    exact ⟨(hg₀.rootsOk.setRoot m hro').good, rfl, by rw [sufsOf_some (methodRoot_setRoot_same hm)]; exact hperm,
      fun m' hm' => sufsOf_congr (methodRoot_setRoot_other hm'), herr⟩

/-- what `Tree.update` does, in terms of suffix sets -/
theorem update_spec {t : Tree} {m : Bytes} {r : Route} (hg : Good t) :
    match t.update m r with
    | some t' => Good t' ∧ t'.size = t.size ∧
        (∃ old X, (sufsOf t m).Perm ((r.pattern, old) :: X) ∧ (sufsOf t' m).Perm ((r.pattern, r) :: X)) ∧
        (∀ m', m' ≠ m → sufsOf t' m' = sufsOf t m')
    | none => ∀ sr ∈ sufsOf t m, sr.1 ≠ r.pattern := by
  obtain ⟨roots, sz, mp, dp⟩ := t
  unfold Tree.update
  cases hm : methodRoot roots m with
  | none => rw [sufsOf_none hm]; intro _ h; cases h
  | some root =>
    rw [sufsOf_some hm]
    simp only []
    have hro := hg.roots _ (methodRoot_some hm)
    cases hu : updateNode root r.pattern r with
    | none =>
      rintro ⟨s, x⟩ hsr rfl
      have := found_updateNode r (Reg.of_mem root (b := true) hro.wf (hro.pats _ hsr).2 hsr)
      rw [hu] at this; cases this
    | some root' =>
      simp only []
      have hupd := Upd.of_some root hu
      obtain ⟨old, X, h1, h2⟩ := hupd.sufs
      have hkold : keyOk r.pattern = true := (hro.pats (r.pattern, old) (h1.mem_iff.mpr List.mem_cons_self)).2
      have hro' : RootOk root' := by
        refine ⟨wf_updateNode hupd (b := true) hro.wf, shape_updateNode hupd (b := true) hro.shape, ?_⟩
        intro sr hsr
        rcases List.mem_cons.mp (h2.mem_iff.mp hsr) with rfl | h3
        · exact ⟨rfl, hkold⟩
        · exact hro.pats sr (h1.mem_iff.mpr (List.mem_cons_of_mem _ h3))
      refine ⟨(hg.rootsOk.setRoot m hro').good, trivial, ⟨old, X, h1, ?_⟩,
        fun m' hm' => sufsOf_congr (methodRoot_setRoot_other hm')⟩
      rw [sufsOf_some (methodRoot_setRoot_same hm)]; exact h2

/-- what `Tree.remove` does, in terms of suffix sets -/
theorem remove_spec {t : Tree} {m : Bytes} {toks : List Tok} (hg : Good t) :
    match t.remove m toks with
    | some (t', old, _) => Good t' ∧ t'.size = t.size - 1 ∧
        (sufsOf t m).Perm ((toks, old) :: sufsOf t' m) ∧ (∀ m', m' ≠ m → sufsOf t' m' = sufsOf t m')
    | none => ∀ sr ∈ sufsOf t m, sr.1 ≠ toks := by
  obtain ⟨roots, sz, mp, dp⟩ := t
  unfold Tree.remove
  cases hm : methodRoot roots m with
  | none => rw [sufsOf_none hm]; intro _ h; cases h
  | some root =>
    rw [sufsOf_some hm]
    simp only []
    have hro := hg.roots _ (methodRoot_some hm)
    have hwfN : wfN true root = true := hro.wf
    cases hr : removeNode root true toks with
    | none =>
      rintro ⟨s, x⟩ hsr rfl
      have := found_removeNode (Reg.of_mem root hwfN (hro.pats _ hsr).2 hsr) true
      rw [hr] at this; cases this
    | some y =>
      obtain ⟨res, old, cse⟩ := y
      have hrmv := Rmv.of_some root hr
      obtain ⟨root', rfl, hsh'⟩ := shape_removeRoot hrmv hro.wf hro.shape
      have hwf' : wfRoot root' = true := (wf_removeNode hrmv hwfN root' rfl).1
      have hperm := hrmv.sufs
      simp only [sufsRem] at hperm
      have hro' : RootOk root' :=
        ⟨hwf', hsh', fun sr hsr => hro.pats sr (hperm.mem_iff.mpr (List.mem_cons_of_mem _ hsr))⟩
      simp only []
      cases hcond : (root'.children.isEmpty && isRemovable m) with
      | true =>
        -- a root that has lost its last route is dropped; its suffix set was empty
        simp only [if_true]
        rw [sufsNode_no_children hwf' (Bool.and_eq_true _ _ ▸ hcond).1] at hperm
        exact ⟨(hg.rootsOk.filter _).good, trivial, by rw [sufsOf_none (methodRoot_filter_same _ _)]; exact hperm,
          fun m' hm' => sufsOf_congr (methodRoot_filter_other _ hm')⟩
      | false =>
        simp only [Bool.false_eq_true, if_false]
        exact ⟨(hg.rootsOk.setRoot m hro').good, trivial, by rw [sufsOf_some (methodRoot_setRoot_same hm)]; exact hperm,
          fun m' hm' => sufsOf_congr (methodRoot_setRoot_other hm')⟩

/-- what `truncateOne` does to the tree: the routes of `m` go, the counter drops by their number -/
theorem truncateOne_spec {rs : Roots} {sz mp dp : Nat} (m : Bytes) (hg : Good ⟨rs, sz, mp, dp⟩) :
    ∀ rs' sz', truncateOne (rs, sz) m = (rs', sz') →
      Good ⟨rs', sz', mp, dp⟩ ∧ sufsOf ⟨rs', sz', mp, dp⟩ m = [] ∧
      (∀ m', m' ≠ m → sufsOf ⟨rs', sz', mp, dp⟩ m' = sufsOf ⟨rs, sz, mp, dp⟩ m') ∧
      sz' = sz - (routesOf ⟨rs, sz, mp, dp⟩ m).length := by
  unfold truncateOne routesOf
  cases hm : methodRoot rs m with
  | none => rintro _ _ ⟨rfl, rfl⟩; exact ⟨hg, sufsOf_none hm, fun _ _ => rfl, rfl⟩
  | some root =>
    simp only []
    split
    · rintro _ _ ⟨rfl, rfl⟩
      exact ⟨(hg.rootsOk.filter _).good, sufsOf_none (methodRoot_filter_same _ _),
        fun m' e => sufsOf_congr (methodRoot_filter_other _ e), rfl⟩
    · rintro _ _ ⟨rfl, rfl⟩
      exact ⟨(hg.rootsOk.setRoot m rootOk_empty).good,
        (sufsOf_some (methodRoot_setRoot_same hm)).trans sufsNode_emptyNode,
        fun m' e => sufsOf_congr (methodRoot_setRoot_other e), rfl⟩

end Fox.C02
