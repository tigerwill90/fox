import FoxModel.Spec.Middleware
/-
  Helper lemmas for property C13 (middleware chains, slice heap). Core Lean only.
-/
namespace Fox.Lemmas.MW
open Fox.Model.MW Fox.Spec.MW

theorem and_two_pow_ne_zero (x i : Nat) : (x &&& 2 ^ i != 0) = x.testBit i := by
  cases hb : x.testBit i
  · have : x &&& 2 ^ i = 0 := by
      apply Nat.eq_of_testBit_eq
      intro j
      rw [Nat.testBit_and, Nat.testBit_two_pow, Nat.zero_testBit]
      by_cases h : i = j
      · subst h; simp [hb]
      · simp [h]
    simp [this]
  · have : (x &&& 2 ^ i).testBit i = true := by
      rw [Nat.testBit_and, Nat.testBit_two_pow_self, hb]; rfl
    have : x &&& 2 ^ i ≠ 0 := by
      intro h0; rw [h0, Nat.zero_testBit] at this; cases this
    simp [this]

theorem bit_eq_two_pow (k : Kind) : k.bit = 2 ^ k.idx := by cases k <;> rfl

/-- the Go test `mws[i].scope&scope != 0` with the scope constant of kind `k` is exactly "bit k of the mask is set" -/
theorem hits_eq (k : Kind) (m : Mw) : m.hits k.bit = inScope k m := by
  unfold Mw.hits inScope
  rw [bit_eq_two_pow, and_two_pow_ne_zero]

theorem applyMiddleware_eq_foldr {H : Type} (app : Mw → H → H) (scope : Nat) (mws : List Mw) (h : H) :
    applyMiddleware app scope mws h = mws.foldr (fun mw acc => if mw.hits scope then app mw acc else acc) h := by
  simp [applyMiddleware, List.foldl_reverse]

theorem applyRouteMiddleware_eq_foldr {H : Type} (app : Mw → H → H) (mws : List Mw) (base : H) :
    applyRouteMiddleware app mws base = mws.foldr (fun mw (acc : H × H) =>
      if mw.hits cRouteHandler then ((if !mw.g then app mw acc.1 else acc.1), app mw acc.2) else acc) (base, base) := by
  simp [applyRouteMiddleware, List.foldl_reverse]

theorem chain_nil (h : Trace) : chain [] h = h := by simp [chain]

theorem chain_cons (i : Nat) (ids : List Nat) (h : Trace) :
    chain (i :: ids) h = Ev.enter i :: chain ids h ++ [Ev.exit i] := by
  simp [chain, List.append_assoc]

theorem chain_append (a b : List Nat) (h : Trace) : chain (a ++ b) h = chain a (chain b h) := by
  induction a with
  | nil => simp [chain_nil]
  | cons i a ih => simp [chain_cons, ih]

theorem mem_enter_chain (i : Nat) (ids : List Nat) (h : Trace) :
    Ev.enter i ∈ chain ids h ↔ i ∈ ids ∨ Ev.enter i ∈ h := by
  simp [chain]

/-- entries and exits of middleware `i` in a chain: once per occurrence in the list, plus the handler's own -/
theorem count_chain (i : Nat) (ids : List Nat) (h : Trace) :
    (chain ids h).count (Ev.enter i) = ids.count i + h.count (Ev.enter i) ∧
    (chain ids h).count (Ev.exit i) = ids.count i + h.count (Ev.exit i) := by
  induction ids with
  | nil => simp [chain_nil]
  | cons j ids ih =>
    rw [chain_cons]
    simp only [List.count_append, List.count_cons, List.count_nil, ih]
    by_cases hji : j = i
    · subst hji; simp; omega
    · simp [hji]

theorem inScope_own (i : Nat) : inScope .route ⟨i, cRouteHandler, false⟩ = true := by
  show Nat.testBit 128 7 = true
  decide

theorem filter_routeMws (p : Mw → Bool) (globals : List Mw) (own : List Nat) (hg : ∀ m ∈ globals, p m = false)
    (hp : ∀ i, p ⟨i, cRouteHandler, false⟩ = true) : ((routeMws globals own).filter p).map (·.id) = own := by
  rw [routeMws, List.filter_append, List.filter_eq_nil_iff.2 fun m hm => by simp [hg m hm], List.nil_append,
    List.filter_eq_self.2 fun m hm => by obtain ⟨i, _, rfl⟩ := List.mem_map.1 hm; exact hp i, List.map_map]
  exact List.map_id' own

/-! ### router construction -/

theorem appendMws_eq (scope : Nat) (g : Bool) (acc : List Mw) (ms : List (Option Nat)) :
    appendMws scope g acc ms =
      if none ∈ ms then none else some (acc ++ ms.filterMap fun o => o.map fun i => (⟨i, scope, g⟩ : Mw)) := by
  induction ms generalizing acc with
  | nil => simp [appendMws]
  | cons o ms ih => cases o <;> simp [appendMws, ih]

/-! ### slice heap -/

theorem cells_alloc_lt (h : Heap) (cs : List Mw) (a : Nat) (ha : a < h.arrs.length) :
    (h.alloc cs).1.cells a = h.cells a := by
  simp [Heap.alloc, Heap.cells, List.getD_eq_getElem?_getD, List.getElem?_append_left ha]

theorem cells_alloc_new (h : Heap) (cs : List Mw) : (h.alloc cs).1.cells (h.alloc cs).2 = cs := by
  simp [Heap.alloc, Heap.cells, List.getD_eq_getElem?_getD]

theorem cells_write_ne (h : Heap) (a i b : Nat) (x : Mw) (hne : a ≠ b) : (h.write a i x).cells b = h.cells b := by
  simp [Heap.write, Heap.cells, List.getD_eq_getElem?_getD, List.getElem?_set_ne hne]

theorem cells_write_eq (h : Heap) (a i : Nat) (x : Mw) (ha : a < h.arrs.length) :
    (h.write a i x).cells a = (h.cells a).set i x := by
  simp [Heap.write, Heap.cells, List.getD_eq_getElem?_getD, ha]

theorem length_write (h : Heap) (a i : Nat) (x : Mw) : (h.write a i x).arrs.length = h.arrs.length := by
  simp [Heap.write]

/-- a slice that makes sense in a heap -/
structure Valid (h : Heap) (s : Slice) : Prop where
  arr_lt : s.arr < h.arrs.length
  cap_eq : (h.cells s.arr).length = s.cap
  len_le : s.len ≤ s.cap

theorem read_length {h : Heap} {s : Slice} (hv : Valid h s) : (h.read s).length = s.len := by
  rw [Heap.read, List.length_take, hv.cap_eq, Nat.min_eq_left hv.len_le]

/-- heap `h'` keeps every array of `h` older than mark `n` as it was, and `s` is a valid slice of `h'`, in an array at or
    after the mark, that denotes `xs` -/
structure Grown (n : Nat) (h h' : Heap) (s : Slice) (xs : List Mw) : Prop where
  mark_le : n ≤ s.arr
  valid : Valid h' s
  cells_eq : ∀ a, a < n → h'.cells a = h.cells a
  read_eq : h'.read s = xs

theorem Grown.trans {n : Nat} {h h₁ h₂ : Heap} {s₁ s₂ : Slice} {xs ys : List Mw}
    (a : Grown n h h₁ s₁ xs) (b : Grown n h₁ h₂ s₂ ys) : Grown n h h₂ s₂ ys :=
  ⟨b.mark_le, b.valid, fun c hc => (b.cells_eq c hc).trans (a.cells_eq c hc), b.read_eq⟩

/-- a fresh array holding `xs` and `pad` spare cells, with the slice over `xs` -/
theorem alloc_grown (h : Heap) (xs : List Mw) (pad : Nat) :
    Grown h.arrs.length h (h.alloc (xs ++ List.replicate pad junk)).1
      ⟨(h.alloc (xs ++ List.replicate pad junk)).2, xs.length, xs.length + pad⟩ xs := by
  have hnew := cells_alloc_new h (xs ++ List.replicate pad junk)
  refine ⟨Nat.le_refl _, ⟨by simp [Heap.alloc], by simp [hnew], Nat.le_add_right _ _⟩,
    fun a ha => cells_alloc_lt _ _ _ ha, ?_⟩
  simp only [Heap.read, hnew, List.take_left']

/-- one `append` on a slice whose backing array was allocated at or after mark `n` -/
theorem append_grown (grow : Nat → Nat) (n : Nat) (h : Heap) (s : Slice) (x : Mw) (hn : n ≤ s.arr) (hv : Valid h s) :
    Grown n h (h.append grow s x).1 (h.append grow s x).2 (h.read s ++ [x]) := by
  have hrl := read_length hv
  obtain ⟨hlt, hcap, hle⟩ := hv
  unfold Heap.append
  by_cases hc : s.len < s.cap
  · -- in place: a write into the slice's own array, which is not older than the mark
    simp only [hc, if_true]
    refine ⟨hn, ⟨?_, ?_, hc⟩, ?_, ?_⟩
    · simpa [length_write] using hlt
    · simp [cells_write_eq _ _ _ _ hlt, hcap]
    · intro a ha; exact cells_write_ne _ _ _ _ _ (Nat.ne_of_gt (Nat.lt_of_lt_of_le ha hn))
    · simp only [Heap.read, cells_write_eq _ _ _ _ hlt]
      have hl : s.len < (h.cells s.arr).length := hcap ▸ hc
      rw [List.take_add_one]
      simp [List.take_set_of_le, hl]
  · simp only [hc, if_false]
    have g := alloc_grown h (h.read s ++ [x]) (max (grow (s.len + 1)) (s.len + 1) - (s.len + 1))
    have e : (h.read s ++ [x]).length = s.len + 1 := by rw [List.length_append, hrl]; rfl
    rw [e, Nat.add_sub_of_le (Nat.le_max_right ..)] at g
    have hnl : n ≤ h.arrs.length := Nat.le_of_lt (Nat.lt_of_le_of_lt hn hlt)
    exact ⟨Nat.le_trans hnl g.mark_le, g.valid, fun a ha => g.cells_eq a (Nat.lt_of_lt_of_le ha hnl), g.read_eq⟩

theorem appendAll_grown (grow : Nat → Nat) (n : Nat) (xs : List Mw) (h : Heap) (s : Slice)
    (hn : n ≤ s.arr) (hv : Valid h s) :
    Grown n h (Heap.appendAll grow h s xs).1 (Heap.appendAll grow h s xs).2 (h.read s ++ xs) := by
  induction xs generalizing h s with
  | nil => exact ⟨hn, hv, fun _ _ => rfl, (List.append_nil _).symm⟩
  | cons x xs ih =>
    have a := append_grown grow n h s x hn hv
    have b := ih _ _ a.mark_le a.valid
    rw [a.read_eq, List.append_assoc] at b
    exact a.trans b

/-- `slices.Clone`: the copy lives in an array of its own -/
theorem clone_grown (grow : Nat → Nat) (h : Heap) (s : Slice) (hv : Valid h s) :
    Grown h.arrs.length h (h.clone grow s).1 (h.clone grow s).2 (h.read s) := by
  have g := alloc_grown h (h.read s) (max (grow s.len) s.len - s.len)
  rw [read_length hv, Nat.add_sub_of_le (Nat.le_max_right ..)] at g
  exact g

end Fox.Lemmas.MW
