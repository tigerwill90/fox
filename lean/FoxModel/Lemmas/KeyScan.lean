import FoxModel.Model.KeyScan
import FoxModel.Lemmas.Parse.Tokens
import FoxModel.Lemmas.MachineEqns
/-
  The byte-level inner loops of `lookupByPath` and `lookupByDomain` (`KeyScan.scanB`, `scanBH`: key bytes, `params[k].end`
  offsets, `paramKeyCnt`, `charsMatchedInNodeFound`) agree with the token-level ones (`scanT`, `scanTH`), which are the
  advancing parts of `Machine.keyLoop`, `Machine.hostKeyLoop`. The two loops are one loop with two parameters; the
  agreement is proved for any function that unfolds like it (`ByteLoop`, `TokLoop`, `KeyLoop`).

  One turn of the byte loop is described by the class of the key byte at `i` (`ByteLoop.lit`, `.lbr`, `.star`, over
  arbitrary key bytes and tables); at a token boundary of a rendered key that byte is the first byte of the next
  token (`key_byte`) and the table entry at `paramKeyCnt` is that of the next wildcard (`wp_at`), whose `end` takes the
  jump right behind it (`wp_wild`).
-/
namespace Fox.Model.KeyScan
open Fox Fox.Model Fox.Model.Machine

/-- number of wildcard tokens = `paramKeyCnt` after them -/
def wcount : List Tok → Nat
  | [] => 0
  | .lit _ :: ts => wcount ts
  | _ :: ts => wcount ts + 1

theorem wcount_append (a b : List Tok) : wcount (a ++ b) = wcount a + wcount b := by
  induction a with
  | nil => exact (Nat.zero_add _).symm
  | cons t a ih =>
    cases t with
    | lit c => exact ih
    | param n => exact (congrArg (· + 1) ih).trans (Nat.add_right_comm ..)
    | catchAll n => exact (congrArg (· + 1) ih).trans (Nat.add_right_comm ..)

theorem param_render_append (n x : Bytes) : (Tok.param n).render ++ x = LBR :: (n ++ RBR :: x) := by
  simp [Tok.render]

theorem catchAll_render_append (n x : Bytes) : (Tok.catchAll n).render ++ x = STAR :: LBR :: (n ++ RBR :: x) := by
  simp [Tok.render]

theorem param_render_len (n : Bytes) : (Tok.param n).render.length = n.length + 2 :=
  List.length_append

theorem catchAll_render_len (n : Bytes) : (Tok.catchAll n).render.length = n.length + 3 :=
  List.length_append

theorem render_snoc_len (pre : List Tok) (t : Tok) : (render (pre ++ [t])).length = (render pre).length + t.render.length := by
  rw [render_append]; simp [render]

theorem tok_render_pos (t : Tok) : 0 < t.render.length := by
  cases t <;> exact Nat.succ_pos _

theorem render_len_pos {k : List Tok} (h : k ≠ []) : 0 < (render k).length := by
  cases k with
  | nil => exact absurd rfl h
  | cons t k' =>
    rw [render_cons, List.length_append]
    exact Nat.lt_of_lt_of_le (tok_render_pos t) (Nat.le_add_right ..)

theorem key_byte (pre : List Tok) (t : Tok) (k' : List Tok) :
    (render (pre ++ t :: k'))[(render pre).length]? = some (firstByte (t :: k')) := by
  rw [render_append, List.getElem?_append_right (Nat.le_refl _), Nat.sub_self, render_cons]
  cases t <;> rfl

theorem key_byte_end (toks : List Tok) : (render toks)[(render toks).length]? = none := by
  simp

/-! ### the parameter table of a rendered key -/

theorem wildPositions_drop (off : Nat) (a b : List Tok) :
    (wildPositions off (a ++ b)).drop (wcount a) = wildPositions (off + (render a).length) b := by
  induction a generalizing off with
  | nil => rfl
  | cons t a ih =>
    have hoff : off + (render (t :: a)).length = off + t.render.length + (render a).length := by
      rw [render_cons, List.length_append, Nat.add_assoc]
    rw [hoff]
    cases t with
    | lit c => exact ih (off + 1)
    | param n => rw [param_render_len]; exact ih _
    | catchAll n => rw [catchAll_render_len]; exact ih _

/-- `params[paramKeyCnt]` at a token boundary is the entry of the first wildcard behind it -/
theorem wp_at (pre k : List Tok) :
    (wildPositions 0 (pre ++ k))[wcount pre]? = (wildPositions (render pre).length k)[0]? := by
  rw [← Nat.zero_add (render pre).length, ← wildPositions_drop, List.getElem?_drop]
  rfl

theorem jump_neg (keyLen i : Nat) : jump keyLen i (-1) = keyLen := by
  unfold jump
  rw [if_neg (by omega)]

theorem jump_nat (keyLen : Nat) {i e : Nat} (h : i ≤ e) : jump keyLen i (e : Int) = e := by
  rw [jump, if_pos (Int.sub_nonneg_of_le (Int.ofNat_le.2 h)), Int.toNat_sub, Nat.add_sub_of_le h]

/-- `params[paramKeyCnt]` at the boundary in front of a wildcard (`ca`: catch-all): its name and kind; `end` is -1 exactly
    when the wildcard ends the key, and the jump lands right behind the wildcard in both cases -/
theorem wp_wild (pre : List Tok) (t : Tok) (k' : List Tok) {ca : Bool} {nm : Bytes} (ht : t = wtok ca nm) :
    ∃ e, (wildPositions 0 (pre ++ t :: k'))[wcount pre]? = some ⟨nm, e, ca⟩ ∧ (e = -1 ↔ k' = []) ∧
      jump (render (pre ++ t :: k')).length (render pre).length e = (render (pre ++ [t])).length := by
  subst ht
  refine ⟨_, by rw [wp_at, wildPositions_wtok]; rfl, ?_⟩
  cases k' with
  | nil => exact ⟨⟨fun _ => rfl, fun _ => rfl⟩, jump_neg _ _⟩
  | cons t' k'' =>
    -- the entry's `end` is `len(pre) + len(nm) + (len(opening) + 1)`: the rendered length, associated that way
    rw [render_snoc_len, render_wtok, List.length_append, List.length_append, List.length_singleton,
      Nat.add_left_comm (wopen ca).length, ← Nat.add_assoc (render pre).length]
    exact ⟨⟨fun h => absurd h (show ¬ ((_ : Nat) : Int) = -1 by omega), fun h => nomatch h⟩,
      jump_nat _ (Nat.le_trans (Nat.le_add_right ..) (Nat.le_add_right ..))⟩

/-! ### the inner loops

`lookupByPath` and `lookupByDomain` run the same loop over the key of a node. They differ in the delimiter `d` that ends the
value of a {param} and in `sp`, the bytes that are special besides '{': for paths '*' (as a request byte it never matches,
as a key byte it opens a catch-all), for hostnames none. The equations below are the bodies of the model functions with
these two left open, so that a model function satisfies them by unfolding (end of this file, `Lemmas/KeyScanHost`). -/

/-- the loop over key bytes -/
structure ByteLoop (d : UInt8) (sp : UInt8 → Prop) [DecidablePred sp]
    (f : Bytes → List WParam → Bytes → Bool → Nat → Nat → Nat → Nat → Binds → BOut) : Prop where
  sp_star : ∀ {c}, sp c → c = STAR
  pathEnd : ∀ {path cm}, path.drop cm = [] → ∀ key wp lz i pk pc ps,
    f key wp path lz i pk cm pc ps = ⟨.pathEnd, i, pk, cm, pc, ps⟩
  step : ∀ {path cm b rest}, path.drop cm = b :: rest → ∀ key wp lz i pk pc ps,
    f key wp path lz i pk cm pc ps =
      (match key[i]? with
       | none => ⟨.keyEnd, i, pk, cm, pc, ps⟩
       | some kb =>
         if kb ≠ b ∨ b = LBR ∨ sp b then
           if kb = LBR then
             if segEnd d (b :: rest) = 0 then ⟨.emptySeg, i, pk, cm, pc, ps⟩
             else
               match wp[pk]? with
               | none => ⟨.panic, i, pk, cm, pc, ps⟩
               | some w =>
                 f key wp path lz (jump key.length i w.end) (pk + 1) (cm + segEnd d (b :: rest)) (inc lz pc)
                   (rec lz ps [(w.key, (b :: rest).take (segEnd d (b :: rest)))])
           else if sp kb then ⟨.catchAll, i, pk, cm, pc, ps⟩
           else ⟨.mismatch, i, pk, cm, pc, ps⟩
         else f key wp path lz (i + 1) pk (cm + 1) pc ps)

namespace ByteLoop
variable {d : UInt8} {sp : UInt8 → Prop} [DecidablePred sp] {f} (hf : ByteLoop d sp f)
  {path : Bytes} {cm : Nat} {b : UInt8} {rest : Bytes} (hp : path.drop cm = b :: rest)
  {key : Bytes} {i : Nat} {wp : List WParam} {lz : Bool} {pk pc : Nat} {ps : Binds}
include hf hp

/-- an ordinary key byte: compared with the request byte, and a special request byte never matches -/
theorem lit {c : UInt8} (hk : key[i]? = some c) (hl : c ≠ LBR) (hs : ¬ sp c) :
    f key wp path lz i pk cm pc ps =
      if c = b ∧ b ≠ LBR ∧ ¬ sp b then f key wp path lz (i + 1) pk (cm + 1) pc ps
      else ⟨.mismatch, i, pk, cm, pc, ps⟩ := by
  rw [hf.step hp, hk]
  by_cases hc : c = b ∧ b ≠ LBR ∧ ¬ sp b
  · have h1 : ¬ (c ≠ b ∨ b = LBR ∨ sp b) := fun h => h.elim (fun h => h hc.1) (fun h => h.elim hc.2.1 hc.2.2)
    simp only [if_neg h1, if_pos hc]
  · have h1 : c ≠ b ∨ b = LBR ∨ sp b := (Decidable.not_and_iff_not_or_not.1 hc).imp_right fun h =>
      (Decidable.not_and_iff_not_or_not.1 h).imp Decidable.not_not.1 Decidable.not_not.1
    simp only [if_pos h1, if_neg hl, if_neg hs, if_neg hc]

/-- the key byte '{': the value is taken from the request and the key index jumps by the table entry -/
theorem lbr (hk : key[i]? = some LBR) {w : WParam} (hw : wp[pk]? = some w) :
    f key wp path lz i pk cm pc ps =
      if segEnd d (b :: rest) = 0 then ⟨.emptySeg, i, pk, cm, pc, ps⟩
      else f key wp path lz (jump key.length i w.end) (pk + 1) (cm + segEnd d (b :: rest)) (inc lz pc)
        (Machine.rec lz ps [(w.key, (b :: rest).take (segEnd d (b :: rest)))]) := by
  have h1 : LBR ≠ b ∨ b = LBR ∨ sp b :=
    (Decidable.em (b = LBR)).elim (fun h => .inr (.inl h)) (fun h => .inl (Ne.symm h))
  rw [hf.step hp, hk]
  simp only [if_pos h1, if_true, hw]

/-- a special key byte opens a catch-all -/
theorem star {c : UInt8} (hk : key[i]? = some c) (hs : sp c) :
    f key wp path lz i pk cm pc ps = ⟨.catchAll, i, pk, cm, pc, ps⟩ := by
  have h1 : c ≠ b ∨ b = LBR ∨ sp b :=
    (Decidable.em (c = b)).elim (fun h => .inr (.inr (h ▸ hs))) .inl
  rw [hf.step hp, hk]
  simp only [if_pos h1, if_neg (hf.sp_star hs ▸ (by decide : STAR ≠ LBR)), if_pos hs]

end ByteLoop

/-- the loop over key tokens -/
structure TokLoop (d : UInt8) (sp : UInt8 → Prop) [DecidablePred sp]
    (g : List Tok → List Tok → Bytes → Bool → Nat → Nat → Binds → TOut) : Prop where
  eq : ∀ pre k rest lz cm pc ps, g pre k rest lz cm pc ps =
    (match rest with
     | [] => ⟨.pathEnd, pre, k, cm, pc, ps⟩
     | b :: r =>
       match k with
       | [] => ⟨.keyEnd, pre, [], cm, pc, ps⟩
       | .lit c :: k' =>
         if c = b ∧ b ≠ LBR ∧ ¬ sp b then g (pre ++ [.lit c]) k' r lz (cm + 1) pc ps
         else ⟨.mismatch, pre, .lit c :: k', cm, pc, ps⟩
       | .param nm :: k' =>
         if segEnd d (b :: r) = 0 then ⟨.emptySeg, pre, .param nm :: k', cm, pc, ps⟩
         else
           g (pre ++ [.param nm]) k' ((b :: r).drop (segEnd d (b :: r))) lz (cm + segEnd d (b :: r)) (inc lz pc)
             (rec lz ps [(nm, (b :: r).take (segEnd d (b :: r)))])
       | .catchAll nm :: k' => ⟨if sp STAR then .catchAll else .mismatch, pre, .catchAll nm :: k', cm, pc, ps⟩)

/-- a result of the token-level loop read in bytes: `i` is the rendered length of the consumed tokens, `paramKeyCnt`
    the number of wildcards among them -/
def toB (o : TOut) : BOut := ⟨o.stop, (render o.pre).length, wcount o.pre, o.cm, o.pc, o.ps⟩

/-- **the byte offsets of an inner loop are the token split of the key**: started at a token boundary
    (`i = len(render pre)`, `paramKeyCnt =` number of wildcards of `pre`) on the rendered key with the parameter table
    `parseWildcard` computes for it, the byte loop stops for the same reason, at the same request position, with the same
    recorded parameters as the token loop, at the token boundary the latter stops at. Where '*' is an ordinary byte the
    key must have no catch-all.
    (`i`, `pk` and the rest of the request are variables so that the induction hypothesis applies as it stands.) -/
theorem ByteLoop.eq_tok {d : UInt8} {sp : UInt8 → Prop} [DecidablePred sp] {f g}
    (hf : ByteLoop d sp f) (hg : TokLoop d sp g) (toks : List Tok) (hk : keyOk toks = true)
    (hc : sp STAR ∨ ∀ nm, Tok.catchAll nm ∉ toks) (path : Bytes) (lz : Bool) :
    ∀ (k pre : List Tok) (i pk cm pc : Nat) (ps : Binds) (r : Bytes), pre ++ k = toks → i = (render pre).length →
      pk = wcount pre → path.drop cm = r →
      f (render toks) (wildPositions 0 toks) path lz i pk cm pc ps = toB (g pre k r lz cm pc ps) := by
  intro k
  induction k with
  | nil =>
    intro pre i pk cm pc ps r hpre hi hpk hp
    rw [List.append_nil] at hpre; subst hpre hi hpk
    cases r with
    | nil => rw [hf.pathEnd hp, hg.eq]; rfl
    | cons b rest => rw [hf.step hp, key_byte_end, hg.eq]; rfl
  | cons t k' ih =>
    intro pre i pk cm pc ps r hpre hi hpk hp
    subst hpre hi hpk
    cases r with
    | nil => rw [hf.pathEnd hp, hg.eq]; rfl
    | cons b rest =>
      have hnext : (pre ++ [t]) ++ k' = pre ++ t :: k' := List.append_assoc ..
      cases t with
      | lit c =>
        have hne := keyOk_lit_ne (keyOk_append_right _ _ hk)
        rw [hf.lit (c := c) hp (key_byte pre _ k') hne.2 (fun h => hne.1 (hf.sp_star h)), hg.eq]
        dsimp only
        split
        · exact ih _ _ _ _ _ _ _ hnext (render_snoc_len pre (.lit c)).symm (wcount_append pre [.lit c]).symm
            (drop_add_of_drop hp 1)
        · rfl
      | param nm =>
        obtain ⟨e, hw, _, hj⟩ := wp_wild pre (.param nm) k' (ca := false) rfl
        rw [hf.lbr hp (key_byte pre (.param nm) k') hw, hg.eq]
        dsimp only
        split
        · rfl
        · exact ih _ _ _ _ _ _ _ hnext hj (wcount_append pre [.param nm]).symm (drop_add_of_drop hp _)
      | catchAll nm =>
        rcases hc with hs | hn
        · rw [hf.star hp (key_byte pre (.catchAll nm) k') hs, hg.eq]
          dsimp only
          rw [if_pos hs]
          rfl
        · exact absurd (List.mem_append_right _ (List.mem_cons_self ..)) (hn nm)

/-- the advancing turns of a key loop of the machine on the request `p`, the loop seen as a function
    `K pre k cm pc ps` of what the scan changes -/
structure KeyLoop (d : UInt8) (sp : UInt8 → Prop) (lz : Bool) (p : Bytes)
    (K : List Tok → List Tok → Nat → Nat → Binds → Result) : Prop where
  lit : ∀ {cm b rest}, p.drop cm = b :: rest → ∀ {c}, c = b ∧ b ≠ LBR ∧ ¬ sp b → ∀ pre k' pc ps,
    K pre (.lit c :: k') cm pc ps = K (pre ++ [.lit c]) k' (cm + 1) pc ps
  param : ∀ {cm b rest}, p.drop cm = b :: rest → segEnd d (b :: rest) ≠ 0 → ∀ pre nm k' pc ps,
    K pre (.param nm :: k') cm pc ps =
      K (pre ++ [.param nm]) k' (cm + segEnd d (b :: rest)) (inc lz pc)
        (rec lz ps [(nm, (b :: rest).take (segEnd d (b :: rest)))])

/-- the token loop is the advancing part of the machine's key loop: the machine run from a key position is the machine
    run from the position, request index, parameter count and parameter buffer at which the scan stops.
    (The result of the scan is named `o` so that its five fields can be used without repeating the call.) -/
theorem TokLoop.run {d : UInt8} {sp : UInt8 → Prop} [DecidablePred sp] {g}
    (hg : TokLoop d sp g) {lz : Bool} {p : Bytes} {K} (hK : KeyLoop d sp lz p K) :
    ∀ (k pre : List Tok) (cm pc : Nat) (ps : Binds) (r : Bytes), p.drop cm = r → ∀ o, g pre k r lz cm pc ps = o →
      K pre k cm pc ps = K o.pre o.k o.cm o.pc o.ps := by
  intro k
  induction k with
  | nil =>
    intro pre cm pc ps r hp o ho
    rw [hg.eq] at ho
    subst ho
    cases r <;> rfl
  | cons t k' ih =>
    intro pre cm pc ps r hp o ho
    rw [hg.eq] at ho
    cases r with
    | nil => subst ho; rfl
    | cons b rest =>
      cases t with
      | lit c =>
        dsimp only at ho
        by_cases hc : c = b ∧ b ≠ LBR ∧ ¬ sp b
        · rw [if_pos hc] at ho
          rw [hK.lit hp hc]
          exact ih _ _ _ _ _ (drop_add_of_drop hp 1) _ ho
        · rw [if_neg hc] at ho; subst ho; rfl
      | param nm =>
        dsimp only at ho
        by_cases h0 : segEnd d (b :: rest) = 0
        · rw [if_pos h0] at ho; subst ho; rfl
        · rw [if_neg h0] at ho
          rw [hK.param hp h0]
          exact ih _ _ _ _ _ (drop_add_of_drop hp _) _ ho
      | catchAll nm => subst ho; rfl

/-! ### `lookupByPath`: delimiter '/', special byte '*' -/

/-- `scanB` matches on `path.drop cm` together with the equation (its termination proof needs it), so `hp` cannot be
    rewritten into the unfolded body: the match is split -/
theorem scanB_loop : ByteLoop SLASH (· = STAR) scanB where
  sp_star := id
  pathEnd hp _ _ _ _ _ _ _ := by
    rw [scanB]; split
    · rfl
    · rename_i b rest h; rw [hp] at h; cases h
  step hp _ _ _ _ _ _ _ := by
    rw [scanB]; split
    · rename_i h; rw [hp] at h; cases h
    · rename_i b' rest' h; rw [hp] at h; cases h; rfl

theorem scanT_loop : TokLoop SLASH (· = STAR) scanT where
  eq _ _ _ _ _ _ _ := scanT.eq_def ..

theorem keyLoop_turns (lz : Bool) (p : Bytes) (cur : Node) (parent : Option Node) (R : Regs) :
    KeyLoop SLASH (· = STAR) lz p
      (fun pre k cm pc ps => keyLoop lz p cur pre k parent cm pc { R with params := ps }) where
  lit hp _ hc _ _ _ _ := (keyLoop_lit hp ..).trans (if_pos hc)
  param hp h0 _ _ _ _ _ := (keyLoop_param hp ..).trans (if_neg h0)

/-! ### the byte-level guards of the trailing-slash sites are the token-level ones -/

/-- `charsMatchedInNodeFound == len(current.key)` ⟺ the key is used up -/
theorem atKeyEnd_iff (pre k : List Tok) : (render pre).length = (render (pre ++ k)).length ↔ k = [] := by
  rw [render_append, List.length_append]
  constructor
  · intro h
    cases k with
    | nil => rfl
    | cons t k' => exact absurd h (Nat.ne_of_lt (Nat.lt_add_of_pos_right (render_len_pos (List.cons_ne_nil t k'))))
  · intro h; subst h; rfl

theorem render_eq_singleton {k : List Tok} {c : UInt8} : render k = [c] ↔ k = [.lit c] := by
  constructor
  · intro h
    cases k with
    | nil => cases h
    | cons t k' =>
      rw [render_cons] at h
      cases t with
      | lit d =>
        obtain ⟨rfl, h2⟩ := List.cons.inj h
        cases k' with
        | nil => rfl
        | cons t' k'' =>
          exact absurd (congrArg List.length h2) (Nat.ne_of_gt (render_len_pos (List.cons_ne_nil t' k'')))
      | param n =>
        rw [param_render_append] at h
        exact absurd (List.cons.inj h).2 (List.append_ne_nil_of_right_ne_nil _ (List.cons_ne_nil _ _))
      | catchAll n => rw [catchAll_render_append] at h; exact nomatch (List.cons.inj h).2
  · intro h; subst h; rfl

/-- `len(remainingSuffix) == 1 && remainingSuffix[0] == '/'` ⟺ exactly the literal "/" is left of the key -/
theorem restSlash_iff (pre k : List Tok) :
    (render (pre ++ k)).drop (render pre).length = [SLASH] ↔ k = [.lit SLASH] := by
  rw [render_append, List.drop_left]
  exact render_eq_singleton

/-- `charsMatchedInNodeFound == 1 && current.key[0] == '/'` ⟺ exactly the literal "/" of the key has been consumed -/
theorem oneSlash_iff (pre k : List Tok) :
    ((render pre).length = 1 ∧ (render (pre ++ k))[0]? = some SLASH) ↔ pre = [.lit SLASH] := by
  rw [← render_eq_singleton, render_append]
  constructor
  · intro ⟨h1, h2⟩
    match hr : render pre, h1 with
    | [x], _ => rw [hr] at h2; exact congrArg (· :: []) (Option.some.inj h2)
  · intro h; rw [h]; exact ⟨rfl, rfl⟩

end Fox.Model.KeyScan
