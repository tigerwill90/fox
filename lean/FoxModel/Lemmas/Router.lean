import FoxModel.Model.Router
/-
  FoxModel.Lemmas.Router — bookkeeping lemmas about the transaction table of `Model/Router` and the invariants a managed
  function body preserves (used by C04).
-/
namespace Fox.Model.Router

theorem find_id {s : State} {t : TxnId} {x : TxnSt} (hf : s.find t = some x) : x.id = t :=
  eq_of_beq (List.find?_some (p := fun y : TxnSt => y.id == t) hf)

theorem find_set {s : State} {t : TxnId} {x y : TxnSt} (h : s.find t = some y) (hx : x.id = t) :
    (s.set t x).find t = some x := by
  unfold State.find at h ⊢
  unfold State.set
  generalize s.txns = l at h ⊢
  -- the entries in front of the first one with id `t` stay, and that one becomes `x`
  induction l with
  | nil => cases h
  | cons a l ih =>
    rw [List.map_cons, List.find?_cons]
    rw [List.find?_cons] at h
    cases ha : a.id == t
    · rw [ha] at h; rw [if_neg Bool.false_ne_true, ha]; exact ih h
    · rw [if_pos rfl, hx, beq_self_eq_true]

@[simp] theorem set_published (s : State) (t : TxnId) (x : TxnSt) : (s.set t x).published = s.published := rfl
@[simp] theorem set_mu (s : State) (t : TxnId) (x : TxnSt) : (s.set t x).mu = s.mu := rfl
@[simp] theorem set_next (s : State) (t : TxnId) (x : TxnSt) : (s.set t x).next = s.next := rfl

/-- the state after a read-only view of `tr` (a snapshot, an iterator) was handed out -/
def addView (s : State) (tr : Tree) : State :=
  { s with txns := ⟨s.next, false, false, tr⟩ :: s.txns, next := s.next + 1 }

/-- a fresh entry in front does not hide an older transaction -/
theorem addView_find {s : State} {t : TxnId} (ht : t < s.next) (tr : Tree) : (addView s tr).find t = s.find t :=
  List.find?_cons_of_neg fun h => Nat.ne_of_gt ht (eq_of_beq h)

/-- the state right after a write transaction began -/
def afterBegin (s : State) : State :=
  { s with mu := some s.next, txns := ⟨s.next, true, false, s.published⟩ :: s.txns, next := s.next + 1 }

theorem begin_write_free {s : State} (hmu : s.mu = none) : begin s true = (afterBegin s, .opened s.next) := by
  simp [begin, hmu, afterBegin]

theorem afterBegin_find (s : State) : (afterBegin s).find s.next = some ⟨s.next, true, false, s.published⟩ :=
  List.find?_cons_of_pos (beq_self_eq_true s.next)

theorem commit_settled {s : State} {t : TxnId} {x : TxnSt} (hf : s.find t = some x) (hs : x.settled = true) :
    commit s t = (s, .done) := by
  simp [commit, hf, hs]

/-! The machine by cases on the entry `x` of `t`: what each operation does while `x` is open, and once it is settled. -/
section
variable {s : State} {t : TxnId} {x : TxnSt} (hf : s.find t = some x)
include hf

theorem txnWrite_open (hs : x.settled = false) (hw : x.write = true) (w : WOp) :
    txnWrite s t w = (s.set t { x with tree := (applyW x.tree w).1 }, .w (applyW x.tree w).2) := by
  simp [txnWrite, hf, hs, hw]

theorem txnRead_open (hs : x.settled = false) (q : ROp) : txnRead s t q = (s, .v (readT x.tree q)) := by
  simp [txnRead, hf, hs]

theorem snapshot_open (hs : x.settled = false) : snapshot s t = (addView s x.tree, .opened s.next) := by
  simp [snapshot, hf, hs, addView]

theorem iter_open (hs : x.settled = false) : iter s t = (addView s x.tree, .opened s.next) := by
  simp [iter, hf, hs, addView]

theorem commit_open (hs : x.settled = false) (hw : x.write = true) :
    commit s t = ({ s.set t { x with settled := true } with published := x.tree, mu := none }, .done) := by
  simp [commit, hf, hs, hw]

theorem abort_open (hs : x.settled = false) (hw : x.write = true) :
    abort s t = ({ s.set t { x with settled := true } with mu := none }, .done) := by
  simp [abort, hf, hs, hw]

theorem abort_settled (hs : x.settled = true) : abort s t = (s, .done) := by
  simp [abort, hf, hs]

theorem txnWrite_settled (hs : x.settled = true) (w : WOp) : txnWrite s t w = (s, .panicSettled) := by
  simp [txnWrite, hf, hs]

theorem txnRead_settled (hs : x.settled = true) (q : ROp) : txnRead s t q = (s, .panicSettled) := by
  simp [txnRead, hf, hs]

theorem iter_settled (hs : x.settled = true) : iter s t = (s, .panicSettled) := by
  simp [iter, hf, hs]

theorem snapshot_settled (hs : x.settled = true) : snapshot s t = (s, .nilSnap) := by
  simp [snapshot, hf, hs]

theorem bodyStep_settled (hs : x.settled = true) (b : BOp) : (bodyStep s t b).1 = s := by
  cases b with
  | w op => exact congrArg Prod.fst (txnWrite_settled hf hs op)
  | r q => exact congrArg Prod.fst (txnRead_settled hf hs q)
  | snap => exact congrArg Prod.fst (snapshot_settled hf hs)
  | iter => exact congrArg Prod.fst (iter_settled hf hs)
  | commit => exact congrArg Prod.fst (commit_settled hf hs)
  | abort => exact congrArg Prod.fst (abort_settled hf hs)

end

/-- every operation of a managed function except `Commit` leaves the published tree alone, whatever `t` is: no branch of
    theirs assigns `published` -/
theorem bodyStep_published (s : State) (t : TxnId) (b : BOp) (hb : b ≠ .commit) :
    (bodyStep s t b).1.published = s.published := by
  cases b with
  | commit => exact absurd rfl hb
  | w op => unfold bodyStep txnWrite; rcases s.find t with _ | ⟨_, _ | _, _ | _, _⟩ <;> rfl
  | r q => unfold bodyStep txnRead; rcases s.find t with _ | ⟨_, _, _ | _, _⟩ <;> rfl
  | snap => unfold bodyStep snapshot; rcases s.find t with _ | ⟨_, _, _ | _, _⟩ <;> rfl
  | iter => unfold bodyStep iter; rcases s.find t with _ | ⟨_, _, _ | _, _⟩ <;> rfl
  | abort => unfold bodyStep abort; rcases s.find t with _ | ⟨_, _ | _, _ | _, _⟩ <;> rfl

theorem runBody_published (s : State) (t : TxnId) (body : List BOp) (hb : BOp.commit ∉ body) :
    (runBody s t body).1.published = s.published := by
  induction body generalizing s with
  | nil => rfl
  | cons b bs ih =>
    exact (ih _ fun h => hb (List.mem_cons_of_mem _ h)).trans
      (bodyStep_published s t b fun h => hb (h ▸ List.mem_cons_self))

theorem abort_published (s : State) (t : TxnId) : (abort s t).1.published = s.published :=
  bodyStep_published s t .abort nofun

theorem mem_effBody {b : BOp} {body : List BOp} {e : Ending} (h : b ∈ effBody body e) : b ∈ body := by
  cases e with
  | panicAt k => exact List.mem_of_mem_take h
  | goexitAt k => exact List.mem_of_mem_take h
  | _ => exact h

/-- unless the function returned nil, the end of `Updates` is the deferred `Abort` alone -/
theorem finishUpdates_published (s : State) (t : TxnId) {e : Ending} (he : e ≠ .ok) :
    (finishUpdates s t e).1.published = s.published := by
  cases e with
  | ok => exact absurd rfl he
  | _ => exact abort_published s t

/-- what is known about the managed write transaction `t` while its function runs: it holds the lock until a Commit or
    Abort (inside the function or after it) settles it, and then the lock is free. `t < s.next`: the snapshots and iterators
    the function takes are entered in front of the table under fresh ids, so they never hide the entry of `t`
    (`addView_find`) -/
def Managed (t : TxnId) (s : State) : Prop :=
  t < s.next ∧ ∃ x, s.find t = some x ∧ x.write = true ∧ s.mu = if x.settled then none else some t

theorem managed_begin (s : State) : Managed s.next (afterBegin s) :=
  ⟨Nat.lt_succ_self _, _, afterBegin_find s, rfl, rfl⟩

theorem managed_step {t : TxnId} {s : State} (h : Managed t s) (b : BOp) : Managed t (bodyStep s t b).1 := by
  obtain ⟨hlt, x, hf, hw, hmu⟩ := h
  cases hs : x.settled
  · have hid := find_id hf
    cases b with
    | w op => rw [bodyStep, txnWrite_open hf hs hw]; exact ⟨hlt, _, find_set hf hid, hw, hmu⟩
    | r q => rw [bodyStep, txnRead_open hf hs]; exact ⟨hlt, x, hf, hw, hmu⟩
    | snap => rw [bodyStep, snapshot_open hf hs]; exact ⟨Nat.lt_succ_of_lt hlt, x, (addView_find hlt _).trans hf, hw, hmu⟩
    | iter => rw [bodyStep, iter_open hf hs]; exact ⟨Nat.lt_succ_of_lt hlt, x, (addView_find hlt _).trans hf, hw, hmu⟩
    | commit => rw [bodyStep, commit_open hf hs hw]; exact ⟨hlt, _, find_set hf hid, hw, rfl⟩
    | abort => rw [bodyStep, abort_open hf hs hw]; exact ⟨hlt, _, find_set hf hid, hw, rfl⟩
  · rw [bodyStep_settled hf hs]; exact ⟨hlt, x, hf, hw, hmu⟩

theorem managed_runBody {t : TxnId} {s : State} (h : Managed t s) (body : List BOp) : Managed t (runBody s t body).1 := by
  induction body generalizing s with
  | nil => exact h
  | cons b bs ih => exact ih (managed_step h b)

/-- the deferred `Abort` of a managed transaction leaves the lock free, whether or not the function settled it -/
theorem managed_abort_mu {t : TxnId} {s : State} (h : Managed t s) : (abort s t).1.mu = none := by
  obtain ⟨_, x, hf, hw, hmu⟩ := h
  cases hs : x.settled
  · rw [abort_open hf hs hw]
  · rw [abort_settled hf hs, hmu, hs]; rfl

theorem finishUpdates_mu {t : TxnId} {s : State} (h : Managed t s) (e : Ending) : (finishUpdates s t e).1.mu = none := by
  cases e with
  | ok => exact managed_abort_mu (managed_step h .commit)
  | _ => exact managed_abort_mu h

theorem runBody_writes {t : TxnId} {s : State} {tr : Tree} (hf : s.find t = some ⟨t, true, false, tr⟩) (ws : List WOp) :
    (runBody s t (ws.map .w)).1.find t = some ⟨t, true, false, applyWs tr ws⟩ := by
  induction ws generalizing s tr with
  | nil => exact hf
  | cons w ws ih =>
    simp only [List.map_cons, runBody, bodyStep, txnWrite_open hf rfl rfl w]
    exact ih (find_set hf rfl)

theorem applyW_err (t : Tree) (w : WOp) (h : (applyW t w).2.isErr = true) : (applyW t w).1 = t := by
  generalize hr : applyW t w = r at h ⊢
  unfold applyW at hr
  -- every branch either returns `t` itself or reports no error
  split at hr <;> (try split at hr) <;> subst hr <;> first | rfl | cases h

end Fox.Model.Router
