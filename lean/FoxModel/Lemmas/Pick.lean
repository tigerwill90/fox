import FoxModel.Lemmas.NoBad
import FoxModel.Lemmas.RefineHost
/-
  From event lists to the result of the Go functions: `pick` returns the first direct match of the enumeration,
  otherwise the first trailing-slash candidate.
-/
namespace Fox.Model
open Fox Fox.Spec

theorem find_nonTsr {evs : List Ev} (hb : Ev.bad ∉ evs) :
    evs.find? nonTsr = (directs evs).head?.map (fun x => Ev.direct x.1 x.2) := by
  induction evs with
  | nil => rfl
  | cons e evs ih =>
    have hb' : Ev.bad ∉ evs := fun h => hb (List.mem_cons_of_mem _ h)
    cases e with
    | direct r ps => simp [List.find?_cons, nonTsr]
    | tsr r ps => simp [nonTsr, ih hb']
    | bad => exact absurd (List.mem_cons_self) hb

theorem pick_eq {evs : List Ev} (hb : Ev.bad ∉ evs) :
    pick evs = (match directs evs with
      | (r, ps) :: _ => Result.found r ps false
      | [] => firstTsr evs) := by
  unfold pick
  rw [find_nonTsr hb]
  cases directs evs with
  | nil => rfl
  | cons x xs => rfl

theorem firstTsr_not_direct (evs : List Ev) : ∀ r ps, firstTsr evs ≠ .found r ps false := by
  induction evs with
  | nil => intro r ps h; cases h
  | cons e evs ih =>
    intro r ps
    cases e with
    | direct r' ps' => exact ih r ps
    | tsr r' ps' => intro h; cases h
    | bad => exact ih r ps

theorem firstTsr_not_bad (evs : List Ev) : firstTsr evs ≠ .bad := by
  induction evs with
  | nil => intro h; cases h
  | cons e evs ih =>
    cases e with
    | direct r' ps' => exact ih
    | tsr r' ps' => intro h; cases h
    | bad => exact ih

/-- `lookupByPath` on a well-formed node: the first match of the specification enumeration if there is one, else
    whatever trailing-slash candidate the walk found -/
theorem pathLookup_refines {c : Node} (h : wfNode c = true) (path : Bytes) :
    pick (pathEvents c path []) = (match specAll (sufsNode c) path [] with
      | (r, ps) :: _ => Result.found r ps false
      | [] => firstTsr (pathEvents c path [])) := by
  rw [pick_eq (pathEvents_no_bad h path []), pathEvents_direct h]

/-- the hostname walk produces `.bad` no more than its path sub-lookups do -/
theorem hostWalk_no_bad {root : Node} (hw : wfKids root.children = true) (hd : nodupB (kindsOf root.children) = true)
    (hh : hostOkKids root.children = true) (host path : Bytes) (hs : SLASH ∉ host) :
    Ev.bad ∉ hostWalk root [] host path [] :=
  (hostWalk_rel (R := fun evs _ => Ev.bad ∉ evs) (G := fun _ => True) (fun _ => true) path path List.not_mem_nil
    (fun h1 h2 => by rw [List.mem_append]; exact not_or.2 ⟨h1, h2⟩) (fun _ _ => trivial)
    (fun ps hc _ => pathEvents_no_bad hc path ps)).1 root [] host [] hw hd hh rfl hs fun _ _ => trivial

/-- `lookupByDomain` from a well-formed root -/
theorem hostLookup_refines {root : Node} (hw : wfKids root.children = true) (hd : nodupB (kindsOf root.children) = true)
    (hh : hostOkKids root.children = true) (host path : Bytes) (hs : SLASH ∉ host) :
    pick (hostWalk root [] host path []) = (match specHost (sufsKids root.children) host path [] with
      | (r, ps) :: _ => Result.found r ps false
      | [] => firstTsr (hostWalk root [] host path [])) := by
  rw [pick_eq (hostWalk_no_bad hw hd hh host path hs), (hostWalk_refines_all path).1 root [] host [] hw hd hh rfl hs]
  have : specHost (sufsFrom root []) host path [] = specHost (sufsKids root.children) host path [] := by
    cases host with
    | nil =>
      rw [specHost_nil_host, specHost_nil_host, sufsFrom_eq, List.filter_append]
      have h1 : (routeSuf root.route []).filter headSlash = [] := by cases root.route <;> simp [routeSuf, headSlash]
      rw [h1]; simp
    | cons b rest => exact specHost_sufsFrom_nil_cons root b rest path []
  rw [this]

end Fox.Model
