import FoxModel.Lemmas.MachineBasics
/-
  The two state machines of `Model/Machine.lean` unfolded once, one control-flow edge per lemma and for either value
  of the `lazy` flag. The simulations of MachineRefine, MachineHost and MachineLazy (and the byte-level scans of
  KeyScan) all step through the machines with these equations.
-/
namespace Fox.Model
open Fox Fox.Model.Machine

/-- a position is given by what is left of the input (`hp : p.drop cm = b :: rest` below); this is the position `n` bytes on -/
theorem drop_add_of_drop {p l : Bytes} {cm : Nat} (h : p.drop cm = l) (n : Nat) : p.drop (cm + n) = l.drop n := by
  rw [← h, List.drop_drop]

theorem setTsr_tsr (R : Regs) (o : Option Route) (ps : Binds) :
    (setTsr R o ps).tsr = (match o with | some r => orTsr R.tsr (r, ps) | none => R.tsr) := by
  unfold setTsr
  cases h : R.tsr <;> cases o <;> simp [orTsr, h]

/-! ### lookupByPath -/

theorem keyLoop_end {lz : Bool} {p : Bytes} {cm : Nat} (hp : p.drop cm = []) (cur pre k parent pc R) :
    keyLoop lz p cur pre k parent cm pc R = afterLoop lz p cur pre k parent cm R := by
  rw [keyLoop]; split
  · rfl
  · rename_i b rest h; rw [hp] at h; cases h

/-- inside the path, the loop goes on by the next token of the key -/
theorem keyLoop_cons {lz : Bool} {p : Bytes} {cm : Nat} {b : UInt8} {rest : Bytes} (hp : p.drop cm = b :: rest)
    (cur pre k parent pc R) :
    keyLoop lz p cur pre k parent cm pc R =
      match k with
      | [] => nodeEnd lz p cur pre parent cm pc b rest R
      | .lit c :: k' =>
        if c = b ∧ b ≠ LBR ∧ b ≠ STAR then keyLoop lz p cur (pre ++ [.lit c]) k' parent (cm + 1) pc R
        else afterLoop lz p cur pre (.lit c :: k') parent cm R
      | .param nm :: k' =>
        if segEnd SLASH (b :: rest) = 0 then afterLoop lz p cur pre (.param nm :: k') parent cm R
        else keyLoop lz p cur (pre ++ [.param nm]) k' parent (cm + segEnd SLASH (b :: rest)) (inc lz pc)
            { R with params := rec lz R.params [(nm, (b :: rest).take (segEnd SLASH (b :: rest)))] }
      | .catchAll nm :: k' =>
        match k', cur.children with
        | [], [] => ret cur.route (rec lz R.params [(nm, b :: rest)])
        | [], c :: _ => infixLoop lz p cur (pre ++ [.catchAll nm]) [] nm parent c cm cm R
        | t :: k'', _ =>
          infixLoop lz p cur (pre ++ [.catchAll nm]) (t :: k'') nm parent (.mk (t :: k'') cur.route cur.children) cm cm R := by
  rw [keyLoop]; split
  · rename_i h; rw [hp] at h; cases h
  · rename_i b' rest' h; rw [hp] at h; cases h; rfl

theorem keyLoop_keyEnd {lz : Bool} {p : Bytes} {cm : Nat} {b : UInt8} {rest : Bytes} (hp : p.drop cm = b :: rest) (cur pre parent pc R) :
    keyLoop lz p cur pre [] parent cm pc R = nodeEnd lz p cur pre parent cm pc b rest R :=
  keyLoop_cons hp ..

theorem keyLoop_lit {lz : Bool} {p : Bytes} {cm : Nat} {b : UInt8} {rest : Bytes} (hp : p.drop cm = b :: rest) (cur pre c k' parent pc R) :
    keyLoop lz p cur pre (.lit c :: k') parent cm pc R =
      if c = b ∧ b ≠ LBR ∧ b ≠ STAR then keyLoop lz p cur (pre ++ [.lit c]) k' parent (cm + 1) pc R
      else afterLoop lz p cur pre (.lit c :: k') parent cm R :=
  keyLoop_cons hp ..

theorem keyLoop_param {lz : Bool} {p : Bytes} {cm : Nat} {b : UInt8} {rest : Bytes} (hp : p.drop cm = b :: rest) (cur pre nm k' parent pc R) :
    keyLoop lz p cur pre (.param nm :: k') parent cm pc R =
      if segEnd SLASH (b :: rest) = 0 then afterLoop lz p cur pre (.param nm :: k') parent cm R
      else keyLoop lz p cur (pre ++ [.param nm]) k' parent (cm + segEnd SLASH (b :: rest)) (inc lz pc)
          { R with params := rec lz R.params [(nm, (b :: rest).take (segEnd SLASH (b :: rest)))] } :=
  keyLoop_cons hp ..

theorem keyLoop_catch_leaf {lz : Bool} {p : Bytes} {cm : Nat} {b : UInt8} {rest : Bytes} (hp : p.drop cm = b :: rest) {cur : Node}
    (hcs : cur.children = []) (pre nm parent pc R) :
    keyLoop lz p cur pre [.catchAll nm] parent cm pc R = ret cur.route (rec lz R.params [(nm, b :: rest)]) := by
  rw [keyLoop_cons hp]; simp only [hcs]

theorem keyLoop_catch_child {lz : Bool} {p : Bytes} {cm : Nat} {b : UInt8} {rest : Bytes} (hp : p.drop cm = b :: rest) {cur c : Node}
    {tail : List Node} (hcs : cur.children = c :: tail) (pre nm parent pc R) :
    keyLoop lz p cur pre [.catchAll nm] parent cm pc R = infixLoop lz p cur (pre ++ [.catchAll nm]) [] nm parent c cm cm R := by
  rw [keyLoop_cons hp]; simp only [hcs]

theorem keyLoop_catch_infix {lz : Bool} {p : Bytes} {cm : Nat} {b : UInt8} {rest : Bytes} (hp : p.drop cm = b :: rest)
    (cur pre nm t k'' parent pc R) :
    keyLoop lz p cur pre (.catchAll nm :: t :: k'') parent cm pc R =
      infixLoop lz p cur (pre ++ [.catchAll nm]) (t :: k'') nm parent (.mk (t :: k'') cur.route cur.children) cm cm R :=
  keyLoop_cons hp ..

theorem backtrack_nil {lz : Bool} {R : Regs} (h : R.skipNds = []) (p) : backtrack lz p R = fin R.tsr := by
  rw [backtrack]; split
  · cases ht : R.tsr with
    | none => rfl
    | some x => cases x; rfl
  · rename_i f st h'; rw [h] at h'; cases h'

theorem backtrack_cons {lz : Bool} {R : Regs} {f : Frame} {st : List Frame} (h : R.skipNds = f :: st) (p) :
    backtrack lz p R = keyLoop lz p f.child [] f.child.key (some f.n) f.pathIndex f.paramCnt
      { R with skipNds := st, params := R.params.take f.paramCnt } := by
  rw [backtrack]; split
  · rename_i h'; rw [h] at h'; cases h'
  · rename_i f' st' h'; rw [h] at h'; cases h'; rfl

theorem infixLoop_end {lz : Bool} {p : Bytes} {cm : Nat} (hp : p.drop cm = []) (cur pre k' nm parent inode startPath R) :
    infixLoop lz p cur pre k' nm parent inode startPath cm R = infixTail lz p cur pre k' nm parent startPath cm R := by
  rw [infixLoop]; split
  · rfl
  · rename_i b rest h; rw [hp] at h; cases h

theorem infixLoop_step {lz : Bool} {p : Bytes} {cm : Nat} {b : UInt8} {rest : Bytes} (hp : p.drop cm = b :: rest)
    (cur pre k' nm parent inode startPath R) :
    infixLoop lz p cur pre k' nm parent inode startPath cm R =
      if 0 < segEnd SLASH (b :: rest) ∧ segEnd SLASH (b :: rest) < (b :: rest).length then
        match keyLoop false (p.drop (cm + segEnd SLASH (b :: rest))) inode [] inode.key none 0 0 {} with
        | .none => infixLoop lz p cur pre k' nm parent inode startPath (cm + segEnd SLASH (b :: rest) + 1) R
        | .found r sps true =>
          infixLoop lz p cur pre k' nm parent inode startPath (cm + segEnd SLASH (b :: rest) + 1)
            (setTsr R (some r) (rec lz (rec lz R.params [(nm, (p.drop startPath).take (cm + segEnd SLASH (b :: rest) - startPath))]) sps))
        | .found r sps false =>
          .found r (rec lz (rec lz R.params [(nm, (p.drop startPath).take (cm + segEnd SLASH (b :: rest) - startPath))]) sps) false
        | .bad => .bad
      else infixTail lz p cur pre k' nm parent startPath cm R := by
  rw [infixLoop]; split
  · rename_i h; rw [hp] at h; cases h
  · rename_i b' rest' h; rw [hp] at h; cases h; rfl

theorem nodeEnd_eq {lz : Bool} (p cur pre parent cm pc b rest R) :
    nodeEnd lz p cur pre parent cm pc b rest R =
      (match staticChild cur b with
       | none =>
         (match paramChild cur with
          | some pc' => keyLoop lz p pc' [] pc'.key (some cur) cm pc
              { earlyTsr cur cm b rest R with skipNds := pushWild cur cm pc (earlyTsr cur cm b rest R).skipNds }
          | none =>
            (match wildChild cur with
             | some wc => keyLoop lz p wc [] wc.key (some cur) cm pc (earlyTsr cur cm b rest R)
             | none => afterLoop lz p cur pre [] parent cm (earlyTsr cur cm b rest R)))
       | some sc => keyLoop lz p sc [] sc.key (some cur) cm pc
           { earlyTsr cur cm b rest R with
             skipNds := pushParam cur cm pc (pushWild cur cm pc (earlyTsr cur cm b rest R).skipNds) }) := by
  rw [nodeEnd]
  split
  · rename_i hs; rw [hs]; simp only []
    split
    · rename_i pc' hpc; rw [hpc]
    · rename_i hpc; rw [hpc]; simp only []
      split
      · rename_i wc hwc; rw [hwc]
      · rename_i hwc; rw [hwc]
  · rename_i sc hs; rw [hs]

/-! ### lookupByDomain -/

theorem hostKeyLoop_end {lz : Bool} {host : Bytes} {cm : Nat} (hp : host.drop cm = []) (path cur k pc R) :
    hostKeyLoop lz host path cur k cm pc R = hostAfter lz host path cur k cm R := by
  rw [hostKeyLoop]; simp only [hp]

theorem hostKeyLoop_keyEnd {lz : Bool} {host : Bytes} {cm : Nat} {b : UInt8} {rest : Bytes} (hp : host.drop cm = b :: rest) (path cur pc R) :
    hostKeyLoop lz host path cur [] cm pc R = hostNodeEnd lz host path cur cm pc b R := by
  rw [hostKeyLoop]; simp only [hp]

theorem hostKeyLoop_lit {lz : Bool} {host : Bytes} {cm : Nat} {b : UInt8} {rest : Bytes} (hp : host.drop cm = b :: rest) (path cur c k' pc R) :
    hostKeyLoop lz host path cur (.lit c :: k') cm pc R =
      if c = b ∧ b ≠ LBR then hostKeyLoop lz host path cur k' (cm + 1) pc R
      else hostAfter lz host path cur (.lit c :: k') cm R := by
  rw [hostKeyLoop]; simp only [hp]

theorem hostKeyLoop_param {lz : Bool} {host : Bytes} {cm : Nat} {b : UInt8} {rest : Bytes} (hp : host.drop cm = b :: rest) (path cur nm k' pc R) :
    hostKeyLoop lz host path cur (.param nm :: k') cm pc R =
      if segEnd DOT (b :: rest) = 0 then hostAfter lz host path cur (.param nm :: k') cm R
      else hostKeyLoop lz host path cur k' (cm + segEnd DOT (b :: rest)) (inc lz pc)
        { R with params := rec lz R.params [(nm, (b :: rest).take (segEnd DOT (b :: rest)))] } := by
  rw [hostKeyLoop]; simp only [hp]

theorem hostKeyLoop_catch {lz : Bool} {host : Bytes} {cm : Nat} {b : UInt8} {rest : Bytes} (hp : host.drop cm = b :: rest) (path cur nm k' pc R) :
    hostKeyLoop lz host path cur (.catchAll nm :: k') cm pc R = hostAfter lz host path cur (.catchAll nm :: k') cm R := by
  rw [hostKeyLoop]; simp only [hp]

theorem hostNodeEnd_eq {lz : Bool} (host path cur cm pc b R) :
    hostNodeEnd lz host path cur cm pc b R =
      (match hostStaticChild cur b with
       | none =>
         (match paramChild cur with
          | some pc' => hostKeyLoop lz host path pc' pc'.key cm pc R
          | none => hostAfter lz host path cur [] cm R)
       | some sc => hostKeyLoop lz host path sc sc.key cm pc { R with skipNds := pushParam cur cm pc R.skipNds }) := by
  rw [hostNodeEnd]
  split
  · rename_i hs; rw [hs]; simp only []
    split
    · rename_i pc' hpc; rw [hpc]
    · rename_i hpc; rw [hpc]
  · rename_i sc hs; rw [hs]

theorem hostAfter_eq {lz : Bool} (host path cur k cm R) :
    hostAfter lz host path cur k cm R =
      if (host.drop cm).isEmpty && k.isEmpty then
        match cur.children.find? (fun c => firstByte c.key == SLASH) with
        | none => hostBacktrack lz host path R
        | some c =>
          match lookupByPath c path [] lz with
          | .none => hostBacktrack lz host path R
          | .found r sps true => hostBacktrack lz host path (setTsr R (some r) (rec lz R.params sps))
          | .found r sps false => .found r (rec lz R.params sps) false
          | .bad => .bad
      else hostBacktrack lz host path R := by
  rw [hostAfter]
  all_goals (try rfl)

theorem hostBacktrack_nil {lz : Bool} {R : Regs} (h : R.skipNds = []) (host path) : hostBacktrack lz host path R = fin R.tsr := by
  rw [hostBacktrack]; split
  · cases ht : R.tsr with
    | none => rfl
    | some x => cases x; rfl
  · rename_i f st h'; rw [h] at h'; cases h'

theorem hostBacktrack_cons {lz : Bool} {R : Regs} {f : Frame} {st : List Frame} (h : R.skipNds = f :: st) (host path) :
    hostBacktrack lz host path R = hostKeyLoop lz host path f.child f.child.key f.pathIndex f.paramCnt
      { R with skipNds := st, params := R.params.take f.paramCnt } := by
  rw [hostBacktrack]; split
  · rename_i h'; rw [h] at h'; cases h'
  · rename_i f' st' h'; rw [h] at h'; cases h'; rfl

end Fox.Model
