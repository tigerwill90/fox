import FoxModel.Lemmas.FragShape
import FoxModel.Lemmas.Parse.Tokens
import FoxModel.Spec.Match
/-
  FoxModel.Lemmas.GrammarShape — what the token-level grammar (`Spec.validToks`, the documented grammar by
  `Fox.C10.parse_iff`) says about a pattern, for the routing proofs (`Lemmas/Routable`) and the byte-level ones
  (`Lemmas/FragGrammar`) alike. The grammar speaks piece by piece (`splitAtLit`: segments, labels; `shape`: text, then at
  most one wildcard) and is unfolded once (`pieces_of_valid`); the proofs need it token by token (`toks_of_valid`) and for
  neighbouring tokens (`shape_of_valid`).
-/
namespace Fox.C10
open Fox Fox.Model Fox.Spec
open Fox.Model.InsScan (nextIsLit wildAtEnd hostTok tokOk nameOk_iff_forall)

theorem shape_lit (b : UInt8) (l : List Tok) : shape (.lit b :: l) = (shape l).map fun p => (b :: p.1, p.2) := by
  simp only [shape]

theorem shape_param (n : Bytes) (l : List Tok) :
    shape (.param n :: l) = if l = [] then some ([], some (.param n)) else none := by
  cases l <;> rfl

theorem shape_catchAll (n : Bytes) (l : List Tok) :
    shape (.catchAll n :: l) = if l = [] then some ([], some (.catchAll n)) else none := by
  cases l <;> rfl

/-- a piece that begins with a wildcard is that wildcard alone -/
theorem shape_wild_nil {t : Tok} {l : List Tok} (ht : isWild t = true) (h : (shape (t :: l)).isSome = true) :
    l = [] := by
  cases t with
  | lit _ => cases ht
  | param _ | catchAll _ =>
    cases l with
    | nil => rfl
    | cons _ _ => cases h

theorem shape_isSome_tail {t : Tok} {l : List Tok} (h : (shape (t :: l)).isSome = true) :
    (shape l).isSome = true := by
  cases t with
  | lit b => rwa [shape_lit, Option.isSome_map] at h
  | param n | catchAll n => rw [shape_wild_nil rfl h]; rfl

/-- If every piece satisfies `P`, a property that survives dropping the first token of a piece, then so does every
    piece of the tail, and a first token other than the separator begins a piece that satisfies `P`. -/
theorem all_splitAtLit_cons {d : UInt8} {P : List Tok → Bool} (hP : ∀ t l, P (t :: l) = true → P l = true)
    {t : Tok} {ts : List Tok} (h : (splitAtLit d (t :: ts)).all P = true) :
    (splitAtLit d ts).all P = true ∧ (t ≠ .lit d → ∃ l ls, splitAtLit d ts = l :: ls ∧ P (t :: l) = true) := by
  by_cases ht : t = .lit d
  · subst ht
    rw [splitAtLit_sep, List.all_cons, Bool.and_eq_true] at h
    exact ⟨h.2, fun hne => absurd rfl hne⟩
  · obtain ⟨l, ls, h1, h2⟩ := splitAtLit_cons ts ht
    rw [h2, List.all_cons, Bool.and_eq_true] at h
    rw [h1, List.all_cons, Bool.and_eq_true]
    exact ⟨⟨hP t l h.1, h.2⟩, fun _ => ⟨l, ls, rfl, h.1⟩⟩

theorem splitAtLit_head_nil {d : UInt8} {ts : List Tok} {ls : List (List Tok)} (h : splitAtLit d ts = [] :: ls) :
    nextIsLit d ts = true := by
  cases ts with
  | nil => rfl
  | cons t ts' =>
    by_cases ht : t = .lit d
    · exact beq_iff_eq.2 ht
    · obtain ⟨l, ls', _, h2⟩ := splitAtLit_cons ts' ht
      rw [h2] at h; cases h

/-- pieces that are "text then at most one wildcard" put every wildcard in front of a separator -/
theorem wildAtEnd_of_shape (d : UInt8) : ∀ ts : List Tok,
    (splitAtLit d ts).all (fun l => (shape l).isSome) = true → wildAtEnd d ts = true
  | [], _ => rfl
  | t :: ts, h => by
    obtain ⟨htl, hhd⟩ := all_splitAtLit_cons (fun _ _ => shape_isSome_tail) h
    have ih := wildAtEnd_of_shape d ts htl
    cases t with
    | lit b => exact ih
    | param n | catchAll n =>
      obtain ⟨l, ls, h1, hp⟩ := hhd nofun
      obtain rfl := shape_wild_nil rfl hp
      exact Bool.and_eq_true_iff.2 ⟨splitAtLit_head_nil h1, ih⟩

theorem segOk_shape {lim : Limits} {l : List Tok} (h : segOk lim l = true) : (shape l).isSome = true := by
  unfold segOk at h
  cases hs : shape l with
  | none => rw [hs] at h; cases h
  | some _ => rfl

theorem labelOk_shape {lim : Limits} {l : List Tok} (h : labelOk lim l = true) : (shape l).isSome = true := by
  unfold labelOk at h
  cases hs : shape l with
  | none => rw [hs] at h; cases h
  | some _ => rfl

theorem mem_splitAtLit (d : UInt8) : ∀ (toks : List Tok) (t : Tok), t ∈ toks → t ≠ .lit d → ∃ l ∈ splitAtLit d toks, t ∈ l := by
  intro toks
  induction toks with
  | nil => intro t h; cases h
  | cons x xs ih =>
    intro t ht hne
    by_cases hx : x = .lit d
    · rw [hx, splitAtLit_sep]
      rcases List.mem_cons.1 ht with rfl | ht'
      · exact absurd hx hne
      · obtain ⟨l, hl, htl⟩ := ih t ht' hne
        exact ⟨l, List.mem_cons_of_mem _ hl, htl⟩
    · obtain ⟨l, ls, hs, hxs⟩ := splitAtLit_cons xs hx
      rw [hxs]
      rcases List.mem_cons.1 ht with rfl | ht'
      · exact ⟨t :: l, List.mem_cons_self .., List.mem_cons_self ..⟩
      · obtain ⟨l', hl', htl'⟩ := ih t ht' hne
        rw [hs] at hl'
        rcases List.mem_cons.1 hl' with rfl | h2
        · exact ⟨x :: l', List.mem_cons_self .., List.mem_cons_of_mem _ htl'⟩
        · exact ⟨l', List.mem_cons_of_mem _ h2, htl'⟩

/-- the only wildcard of a segment / label is the one `shape` reports; its literal bytes are the reported text -/
theorem shape_mem : ∀ (l : List Tok) (txt : Bytes) (w : Option Tok), shape l = some (txt, w) →
    (∀ t ∈ l, isWild t = true → w = some t) ∧ (∀ c, Tok.lit c ∈ l → c ∈ txt) := by
  intro l
  induction l with
  | nil => intro txt w _; exact ⟨fun t ht => (nomatch ht), fun c hc => (nomatch hc)⟩
  | cons x l ih =>
    intro txt w h
    cases x with
    | lit b =>
      rw [shape_lit] at h
      cases hs : shape l with
      | none => rw [hs] at h; cases h
      | some p =>
        obtain ⟨h1, h2⟩ := ih p.1 p.2 hs
        rw [hs] at h
        cases h
        refine ⟨fun t ht hw => ?_, fun c hc => ?_⟩
        · rcases List.mem_cons.1 ht with rfl | ht'
          · cases hw
          · exact h1 t ht' hw
        · rcases List.mem_cons.1 hc with e | hc'
          · exact Tok.lit.inj e ▸ List.mem_cons_self ..
          · exact List.mem_cons_of_mem _ (h2 c hc')
    | param n =>
      cases l with
      | nil => cases h; exact ⟨fun t ht _ => by rw [List.mem_singleton.1 ht], fun c hc => (nomatch List.mem_singleton.1 hc)⟩
      | cons y ys => cases h
    | catchAll n =>
      cases l with
      | nil => cases h; exact ⟨fun t ht _ => by rw [List.mem_singleton.1 ht], fun c hc => (nomatch List.mem_singleton.1 hc)⟩
      | cons y ys => cases h

theorem specNameOk {lim : Limits} {inHost : Bool} {n : Bytes} (h : Spec.nameOk lim inHost n = true) :
    InsScan.nameOk n = true ∧ (inHost = true → ∀ b ∈ n, b ≠ DOT) := by
  have hall := List.all_eq_true.1 (Bool.and_eq_true_iff.1 h).2
  simp only [Bool.and_eq_true, bne_iff_ne, Bool.or_eq_true, Bool.not_eq_true'] at hall
  refine ⟨nameOk_iff_forall.2 fun b hb => ?_, fun hi b hb => (hall b hb).2.resolve_left (by rw [hi]; exact Bool.noConfusion)⟩
  obtain ⟨⟨⟨⟨h1, h2⟩, h3⟩, h4⟩, _⟩ := hall b hb
  exact ⟨h4, h1, h3, h2⟩

theorem isLDH_ne_rbr {c : UInt8} (h : isLDH c = true) : c ≠ RBR := by
  intro e; subst e; revert h; decide

theorem segOk_wild {lim : Limits} {l : List Tok} {t : Tok} (hs : segOk lim l = true) (ht : t ∈ l)
    (hw : isWild t = true) : tokOk t = true := by
  unfold segOk at hs
  cases hsh : shape l with
  | none => rw [hsh] at hs; cases hs
  | some p =>
    obtain ⟨txt, w⟩ := p
    rw [hsh, (shape_mem l txt w hsh).1 t ht hw] at hs
    cases t with
    | lit c => cases hw
    | param n => exact (specNameOk hs).1
    | catchAll n => exact (specNameOk hs).1

/-- in a hostname label the text is LDH and the wildcard is a parameter whose name has no '.' -/
theorem labelOk_tok {lim : Limits} {l : List Tok} {t : Tok} (hs : labelOk lim l = true) : t ∈ l →
    match t with
    | .lit c => c ≠ RBR
    | .param n => InsScan.nameOk n = true ∧ ∀ b ∈ n, b ≠ DOT
    | .catchAll _ => False := by
  intro ht
  unfold labelOk at hs
  cases hsh : shape l with
  | none => rw [hsh] at hs; cases hs
  | some p =>
    obtain ⟨txt, w⟩ := p
    obtain ⟨hmw, hml⟩ := shape_mem l txt w hsh
    rw [hsh] at hs
    simp only [Bool.and_eq_true, List.all_eq_true] at hs
    cases t with
    | lit c => exact isLDH_ne_rbr (hs.1.1.1.1 c (hml c ht))
    | param n =>
      have hn := hs.2
      rw [hmw _ ht rfl] at hn
      exact ⟨(specNameOk hn).1, (specNameOk hn).2 rfl⟩
    | catchAll n =>
      have hn := hs.2
      rw [hmw _ ht rfl] at hn
      cases hn

/-- literal tokens are never the wildcard delimiters -/
def litsOk (toks : List Tok) : Bool :=
  toks.all fun | .lit b => b != STAR && b != LBR | _ => true

theorem litsOk_of_tokenize {s : Bytes} {toks : List Tok} (h : tokenize s = some toks) : litsOk toks = true := by
  refine tokenize_ind (P := fun _ toks => litsOk toks = true) rfl ?_ ?_ h
  · intro b bs ts h1 h2 _ ih
    exact Bool.and_eq_true_iff.2 ⟨Bool.and_eq_true_iff.2 ⟨bne_iff_ne.2 h2, bne_iff_ne.2 h1⟩, ih⟩
  · intro ca n r ts _ _ ih
    cases ca <;> exact ih

theorem litsOk_append (a b : List Tok) : litsOk (a ++ b) = (litsOk a && litsOk b) := List.all_append

/-- the grammar as the theorems below use it: the path part begins with '/', its segments are well formed, and the
    hostname part is empty or made of well-formed labels -/
theorem pieces_of_valid {lim : Limits} {toks : List Tok} (h : validToks lim toks = true) :
    (∃ p', toks.dropWhile (!isSlash ·) = .lit SLASH :: p') ∧
    (∀ l ∈ splitAtLit SLASH (toks.dropWhile (!isSlash ·)), segOk lim l = true) ∧
    (toks.takeWhile (!isSlash ·) = [] ∨ ∀ l ∈ splitAtLit DOT (toks.takeWhile (!isSlash ·)), labelOk lim l = true) := by
  simp only [validToks, Bool.and_eq_true, Bool.or_eq_true, List.all_eq_true] at h
  obtain ⟨⟨⟨⟨h1, h2⟩, h3⟩, _⟩, _⟩ := h
  refine ⟨?_, h3, h2.imp List.isEmpty_iff.1 fun h2 => ?_⟩
  · rcases dropWhile_head toks with hp | ⟨p, hp⟩
    · rw [hp] at h1; cases h1
    · exact ⟨p, hp⟩
  · simp only [hostOk, Bool.and_eq_true, List.all_eq_true] at h2
    exact h2.1.1

/-- **What the grammar says about the shape of a pattern**: split at the first literal '/', the path part is not
    empty (so it starts with '/'), each path wildcard ends its segment, the hostname part has no catch-all and each
    hostname `{param}` ends its label. -/
theorem shape_of_valid {lim : Limits} {toks : List Tok} (h : validToks lim toks = true) :
    (∃ p', toks.dropWhile (!isSlash ·) = .lit SLASH :: p') ∧
    wildAtEnd SLASH (toks.dropWhile (!isSlash ·)) = true ∧
    NoCatch (toks.takeWhile (!isSlash ·)) ∧
    wildAtEnd DOT (toks.takeWhile (!isSlash ·)) = true := by
  obtain ⟨hp, hsegs, hlabels⟩ := pieces_of_valid h
  refine ⟨hp, wildAtEnd_of_shape SLASH _ (List.all_eq_true.2 fun l hl => segOk_shape (hsegs l hl)), ?_⟩
  rcases hlabels with he | hlabels
  · rw [he]; exact ⟨fun _ ht => (nomatch ht), rfl⟩
  · refine ⟨fun t ht => ?_, wildAtEnd_of_shape DOT _ (List.all_eq_true.2 fun l hl => labelOk_shape (hlabels l hl))⟩
    cases t with
    | lit _ | param _ => rfl
    | catchAll n =>
      -- a label admits no catch-all
      obtain ⟨l, hlm, htl⟩ := mem_splitAtLit DOT _ _ ht nofun
      exact (labelOk_tok (hlabels l hlm) htl).elim

/-- token by token: every token is one of the grammar, and the hostname part consists of hostname tokens -/
theorem toks_of_valid {lim : Limits} {toks : List Tok} (hv : validToks lim toks = true) (hl : litsOk toks = true) :
    (∀ t ∈ toks.takeWhile (!isSlash ·), tokOk t = true ∧ hostTok t) ∧
    ∀ t ∈ toks.dropWhile (!isSlash ·), tokOk t = true := by
  obtain ⟨_, hsegs, hlabels⟩ := pieces_of_valid hv
  have hsplit : toks = toks.takeWhile (!isSlash ·) ++ toks.dropWhile (!isSlash ·) := (List.takeWhile_append_dropWhile).symm
  have hlit : ∀ b, Tok.lit b ∈ toks → tokOk (.lit b) = true := by
    intro b hb
    have := List.all_eq_true.1 hl _ hb
    simp only [Bool.and_eq_true] at this
    exact Bool.and_eq_true_iff.2 ⟨this.2, this.1⟩
  refine ⟨fun t ht => ?_, fun t ht => ?_⟩
  · rcases hlabels with he | hlabels
    · rw [he] at ht; cases ht
    · have hlabel : t ≠ .lit DOT → _ := fun hne =>
        let ⟨l, hlm, htl⟩ := mem_splitAtLit DOT _ _ ht hne
        labelOk_tok (hlabels l hlm) htl
      cases t with
      | lit b =>
        refine ⟨hlit b (hsplit ▸ List.mem_append_left _ ht), ?_⟩
        by_cases hd : b = DOT
        · subst hd; exact (by decide : DOT ≠ RBR)
        · exact hlabel (fun e => hd (Tok.lit.inj e))
      | param n => exact hlabel (fun e => nomatch e)
      | catchAll n => exact (hlabel (fun e => nomatch e)).elim
  · cases hw : isWild t with
    | false =>
      cases t with
      | lit b => exact hlit b (hsplit ▸ List.mem_append_right _ ht)
      | param n => cases hw
      | catchAll n => cases hw
    | true =>
      obtain ⟨l, hlm, htl⟩ := mem_splitAtLit SLASH _ _ ht (fun e => by rw [e] at hw; cases hw)
      exact segOk_wild (hsegs l hlm) htl hw

theorem splitAtLit_last_sep (d : UInt8) : ∀ ts : List Tok, ts.getLast? = some (.lit d) →
    ∃ l ls, splitAtLit d ts = l :: ls ∧ [] ∈ ls := by
  intro ts
  induction ts with
  | nil => intro h; cases h
  | cons t ts ih =>
    intro h
    cases ts with
    | nil =>
      obtain rfl : t = .lit d := Option.some.inj h
      exact ⟨[], [[]], splitAtLit_sep d [], List.mem_singleton.2 rfl⟩
    | cons t2 rest =>
      rw [List.getLast?_cons_cons] at h
      obtain ⟨l, ls, e, hm⟩ := ih h
      by_cases ht : t = .lit d
      · subst ht
        exact ⟨[], l :: ls, by rw [splitAtLit_sep, e], List.mem_cons_of_mem _ hm⟩
      · obtain ⟨l', ls', e1, e2⟩ := splitAtLit_cons (t2 :: rest) ht
        obtain ⟨rfl, rfl⟩ := List.cons.inj (e.symm.trans e1)
        exact ⟨t :: l, ls, e2, hm⟩

/-- the hostname part does not end with '.': the label after it would be empty -/
theorem host_no_trailing_dot {lim : Limits} {toks : List Tok} (h : validToks lim toks = true) :
    (toks.takeWhile (!isSlash ·)).getLast? ≠ some (.lit DOT) := by
  intro hl
  rcases (pieces_of_valid h).2.2 with he | hlabels
  · rw [he] at hl; cases hl
  · obtain ⟨l, ls, e, hm⟩ := splitAtLit_last_sep DOT _ hl
    have : labelOk lim [] = true := hlabels [] (e ▸ List.mem_cons_of_mem _ hm)
    cases this

end Fox.C10
