import FoxModel.Lemmas.Walk
import FoxModel.Lemmas.SpecF
/-
  Refinement of the radix-tree walk to the specification, for direct matches:

      directs (walk n pre k pr es path ps) = specAll (sufsFrom n k) path ps

  i.e. the direct-match events of the model's depth-first walk over a well-formed (sub)tree are exactly, and in the
  same order, the matches enumerated by the specification over the set of pattern suffixes stored in that subtree.

  Three ingredients before the induction (`walk_refines_all`): what the node invariant gives the walk (children of
  distinct kinds, so a selector answers to at most one: `filter_kind`); the suffix sets `sufsFrom` / `sufsNode` / `sufsKids`
  and their uniform heads; the specification on the suffixes below a list of children (`specAll_kids_f`).
-/
namespace Fox.Model
open Fox Fox.Spec

def directs : List Ev → Res
  | [] => []
  | .direct r ps :: evs => (r, ps) :: directs evs
  | _ :: evs => directs evs

@[simp] theorem directs_nil : directs [] = [] := rfl
@[simp] theorem directs_direct (r ps evs) : directs (.direct r ps :: evs) = (r, ps) :: directs evs := rfl
@[simp] theorem directs_tsr (r ps evs) : directs (.tsr r ps :: evs) = directs evs := rfl
@[simp] theorem directs_bad (evs) : directs (.bad :: evs) = directs evs := rfl

theorem directs_append (a b : List Ev) : directs (a ++ b) = directs a ++ directs b := by
  induction a with
  | nil => simp
  | cons e a ih => cases e <;> simp [ih]

theorem directs_append_nil {a b : List Ev} : directs (a ++ b) = [] ↔ directs a = [] ∧ directs b = [] := by
  rw [directs_append]; exact List.append_eq_nil_iff

/-! ### what the node invariant gives the walk

  `wfNode` unfolded into the parts the inductions use, selectors against the kinds of the children (distinct, so at most
  one child answers), no child key starting with '*', a single "/" child below a key ending in a catch-all. -/

theorem wfKids_cons {c : Node} {cs : List Node} : wfKids (c :: cs) = true ↔ wfNode c = true ∧ wfKids cs = true := by
  simp [wfKids]

theorem nodupB_cons {α} [BEq α] {x : α} {xs : List α} :
    nodupB (x :: xs) = true ↔ xs.contains x = false ∧ nodupB xs = true := by
  simp [nodupB]

theorem kindsOf_cons (c : Node) (cs : List Node) : kindsOf (c :: cs) = kindOf c.key :: kindsOf cs := by
  cases c; simp [kindsOf, Node.key]

theorem mem_kindsOf {cs : List Node} {x : Node} (h : x ∈ cs) : kindOf x.key ∈ kindsOf cs := by
  rw [kindsOf_eq_map]; exact List.mem_map_of_mem h

theorem sel_matches_iff (sel : Sel) (k : List Tok) : sel.matches k = true ↔ kindOf k = some sel := by
  cases sel <;> cases k with
  | nil => simp [Sel.matches, kindOf]
  | cons t ts => cases t <;> simp [Sel.matches, kindOf]

theorem startsWithSlash_eq_matches (k : List Tok) : startsWithSlash k = (Sel.static SLASH).matches k := by
  cases k with
  | nil => rfl
  | cons t k' => cases t <;> rfl

theorem matches_cons (sel : Sel) (t : Tok) (k : List Tok) : sel.matches (t :: k) = sel.matches [t] := by
  cases sel <;> cases t <;> rfl

theorem kindOf_cons_static {t : Tok} {k' : List Tok} {b : UInt8} : kindOf (t :: k') = some (.static b) ↔ t = .lit b := by
  cases t <;> simp [kindOf]

theorem wfNode_parts {c : Node} (h : wfNode c = true) :
    wfKids c.children = true ∧ nodupB (kindsOf c.children) = true ∧
      (endsWithCatchAll c.key = true → c.route.isSome = true ∧ allSlash c.children = true) := by
  obtain ⟨k, r, cs⟩ := c
  obtain ⟨_, _, hd, hc, hw⟩ := (wfNode_iff k r cs).mp h
  exact ⟨hw, (nodupB_iff _).mpr hd, hc⟩

theorem wfRoot_parts {root : Node} (h : wfRoot root = true) :
    wfKids root.children = true ∧ nodupB (kindsOf root.children) = true := by
  simp only [wfRoot, Bool.and_eq_true] at h
  exact ⟨h.2, h.1.2⟩

theorem wfNode_kids {k r cs} (h : wfNode (.mk k r cs) = true) :
    wfKids cs = true ∧ nodupB (kindsOf cs) = true ∧ (endsWithCatchAll k = true → r.isSome = true ∧ allSlash cs = true) :=
  wfNode_parts h

theorem nodup_others {cs : List Node} {c : Node} {s : Sel}
    (hd : nodupB (kindsOf (c :: cs)) = true) (hk : kindOf c.key = some s) :
    ∀ x ∈ cs, kindOf x.key ≠ some s := by
  intro x hx hxk
  rw [kindsOf_cons, nodupB_cons] at hd
  have := mem_kindsOf hx
  rw [hxk, ← hk] at this
  have hc : (kindsOf cs).contains (kindOf c.key) = true := List.contains_iff_mem.mpr this
  rw [hd.1] at hc; cases hc

theorem nodup_tail {cs : List Node} {c : Node} (hd : nodupB (kindsOf (c :: cs)) = true) :
    nodupB (kindsOf cs) = true := by
  rw [kindsOf_cons, nodupB_cons] at hd; exact hd.2

theorem filter_none {cs : List Node} {s : Sel} (h : ∀ x ∈ cs, kindOf x.key ≠ some s) :
    cs.filter (fun c => s.matches c.key) = [] := by
  rw [List.filter_eq_nil_iff]
  intro x hx
  rw [sel_matches_iff]; exact h x hx

theorem matches_false {c : Node} {s : Sel} (hk : kindOf c.key ≠ some s) : s.matches c.key = false :=
  Bool.eq_false_iff.mpr fun h => hk ((sel_matches_iff _ _).mp h)

/-- children have distinct kinds: at most one answers to a selector -/
theorem filter_kind {cs : List Node} (hd : nodupB (kindsOf cs) = true) (sel : Sel) :
    cs.filter (fun c => sel.matches c.key) = [] ∨
      ∃ c, c ∈ cs ∧ sel.matches c.key = true ∧ cs.filter (fun c => sel.matches c.key) = [c] := by
  induction cs with
  | nil => exact Or.inl rfl
  | cons c cs ih =>
    rw [List.filter_cons]
    by_cases hm : sel.matches c.key = true
    · rw [if_pos hm, filter_none (nodup_others hd ((sel_matches_iff _ _).mp hm))]
      exact Or.inr ⟨c, List.mem_cons_self, hm, rfl⟩
    · rw [if_neg hm]
      rcases ih (nodup_tail hd) with h | ⟨x, hx, hxm, h⟩
      · exact Or.inl h
      · exact Or.inr ⟨x, List.mem_cons_of_mem _ hx, hxm, h⟩

/-- the child the walk finds by `startsWithSlash` is the one the selector '/' answers to -/
theorem find_slash_eq (cs : List Node) :
    cs.find? (fun c => startsWithSlash c.key) = (cs.filter (fun c => (Sel.static SLASH).matches c.key)).head? := by
  rw [← List.head?_filter]
  congr
  funext c
  exact startsWithSlash_eq_matches c.key

theorem keyOk_head_ne_star {k : List Tok} (h : keyOk k = true) : kindOf k ≠ some (.static STAR) := by
  cases k with
  | nil => simp [kindOf]
  | cons t k' =>
    intro hk
    rw [kindOf_cons_static.mp hk] at h
    exact (keyOk_lit_ne h).1 rfl

theorem kids_no_star {cs : List Node} (hw : wfKids cs = true) : ∀ c ∈ cs, kindOf c.key ≠ some (.static STAR) := by
  intro c hc
  exact keyOk_head_ne_star (wfNode_key (wfKids_mem hw hc)).2

theorem allSlash_single {c : Node} {tail : List Node}
    (ha : allSlash (c :: tail) = true) (hd : nodupB (kindsOf (c :: tail)) = true) : tail = [] := by
  cases tail with
  | nil => rfl
  | cons x xs =>
    rw [allSlash_iff_kinds] at ha
    refine absurd ?_ (nodup_others hd (ha _ (mem_kindsOf List.mem_cons_self)) x List.mem_cons_self)
    exact ha _ (mem_kindsOf (List.mem_cons_of_mem _ List.mem_cons_self))

/-- a condition on keys ending in a catch-all passes to the rest of the key -/
theorem of_catchAll_tail {P : Prop} {t : Tok} {k : List Tok} (hc : endsWithCatchAll (t :: k) = true → P) :
    endsWithCatchAll k = true → P := by
  intro h
  have hk : k ≠ [] := by rintro rfl; rw [endsWithCatchAll_nil] at h; cases h
  exact hc ((endsWithCatchAll_append [t] hk).trans h)

/-! ### the suffix set from a position inside a node's key: own route first, then the children's sets behind the rest of the key -/

@[simp] theorem sufsKids_nil : sufsKids [] = [] := by simp [sufsKids]
attribute [simp] sufsKids_cons

theorem sufsNode_eq (n : Node) : sufsNode n = sufsFrom n n.key := by
  cases n; simp [sufsNode, sufsFrom, Node.key, Node.route, Node.children]

theorem sufsNode_infix (n : Node) (k : List Tok) : sufsNode (.mk k n.route n.children) = sufsFrom n k :=
  sufsNode_eq _

/-- the node's own member of `sufsFrom n k`: the rest `k` of its key, if the node is a leaf -/
def routeSuf (o : Option Route) (k : List Tok) : SufSet :=
  match o with
  | some r => [(k, r)]
  | none => []

theorem sufsFrom_eq (n : Node) (k : List Tok) :
    sufsFrom n k = routeSuf n.route k ++ (sufsKids n.children).map (fun sr => (k ++ sr.1, sr.2)) := by
  unfold sufsFrom routeSuf; cases n.route <;> rfl

theorem sufsFrom_nil (n : Node) : sufsFrom n [] = routeSuf n.route [] ++ sufsKids n.children := by
  rw [sufsFrom_eq]; simp

theorem sufsFrom_cons_map (n : Node) (t : Tok) (k : List Tok) :
    (sufsFrom n k).map (fun sr => (t :: sr.1, sr.2)) = sufsFrom n (t :: k) := by
  unfold sufsFrom
  cases n.route <;> simp [Function.comp_def]

theorem tails_sufsFrom (n : Node) (t : Tok) (k : List Tok) : tails (sufsFrom n (t :: k)) = sufsFrom n k := by
  unfold sufsFrom tails
  cases n.route <;> simp [Function.comp_def]

theorem mem_sufsFrom {n : Node} {k : List Tok} {sr : List Tok × Route} (h : sr ∈ sufsFrom n k) :
    ∃ s, sr.1 = k ++ s := by
  rw [sufsFrom_eq, List.mem_append] at h
  rcases h with h | h
  · cases hr : n.route with
    | none => rw [hr] at h; cases h
    | some r => rw [hr, routeSuf, List.mem_singleton] at h; exact ⟨[], by rw [h]; simp⟩
  · obtain ⟨x, _, rfl⟩ := List.mem_map.mp h
    exact ⟨x.1, rfl⟩

theorem allHead_sufsFrom (n : Node) (t : Tok) (k : List Tok) : AllHead t (sufsFrom n (t :: k)) :=
  fun _ h => (mem_sufsFrom h).elim fun s hs => ⟨k ++ s, hs⟩

theorem allInfix_sufsFrom (n : Node) (nm : Bytes) (t : Tok) (k : List Tok) :
    AllInfix nm (sufsFrom n (.catchAll nm :: t :: k)) :=
  fun _ h => (mem_sufsFrom h).elim fun s hs => ⟨t, k ++ s, hs⟩

theorem wfNode_head {c : Node} (h : wfNode c = true) : ∃ t k', c.key = t :: k' ∧ AllHead t (sufsNode c) := by
  obtain ⟨t, k', hk⟩ := List.exists_cons_of_ne_nil (wfNode_key h).1
  exact ⟨t, k', hk, by rw [sufsNode_eq, hk]; exact allHead_sufsFrom c t k'⟩

theorem tails_flt_sufsFrom (p) (n : Node) (t : Tok) (k : List Tok) :
    tails (flt p (sufsFrom n (t :: k))) = flt p (sufsFrom n k) := by
  rw [tails_flt, tails_sufsFrom]

theorem wfNode_head_flt {c : Node} (h : wfNode c = true) (p) :
    ∃ t k', c.key = t :: k' ∧ AllHead t (flt p (sufsNode c)) := by
  obtain ⟨t, k', hk, hh⟩ := wfNode_head h
  exact ⟨t, k', hk, hh.flt p⟩

/-! ### the alternatives of the specification on the suffixes below a list of children

  Stated for the set filtered by a predicate on the routes (`flt_true` gives the whole set): the search with a slash
  added runs on the routes ending in '/'. Each set operation sees the children of one kind only, and there is at most
  one child of a kind. -/

/-- A set operation that is additive and blind to sets whose head is of another kind sees, below a list of children,
    the children of its own kind only. -/
theorem op_kids {β} (op : SufSet → List β) (hadd : ∀ S T, op (S ++ T) = op S ++ op T) (hnil : op [] = []) (sel : Sel) (p)
    (hother : ∀ {t S}, AllHead t S → sel.matches [t] = false → op S = [])
    {cs : List Node} (hw : wfKids cs = true) :
    op (flt p (sufsKids cs)) = (cs.filter (fun c => sel.matches c.key)).flatMap (fun c => op (flt p (sufsNode c))) := by
  induction cs with
  | nil => exact hnil
  | cons c cs ih =>
    have hw' := wfKids_cons.mp hw
    rw [sufsKids_cons, flt_append, hadd, ih hw'.2, List.filter_cons]
    by_cases hm : sel.matches c.key = true
    · rw [if_pos hm]; rfl
    · obtain ⟨t, k', hk, hh⟩ := wfNode_head_flt hw'.1 p
      rw [if_neg hm, hother hh (by rw [← matches_cons sel t k', ← hk]; exact Bool.eq_false_iff.mpr hm)]; rfl

theorem advLit_of_head {b : UInt8} {t : Tok} {S : SufSet} (hh : AllHead t S) (hm : (Sel.static b).matches [t] = false) :
    advLit b S = [] := by
  cases t with
  | lit c0 => rw [advLit_allHead_lit hh, if_neg (by simpa [Sel.matches] using hm)]
  | param n => exact advLit_allHead_other hh (by intro c; simp)
  | catchAll n => exact advLit_allHead_other hh (by intro c; simp)

theorem advLit_kids {cs : List Node} (hw : wfKids cs = true) (p) (b : UInt8) :
    advLit b (flt p (sufsKids cs)) =
      (cs.filter (fun c => (Sel.static b).matches c.key)).flatMap (fun c => advLit b (flt p (sufsNode c))) :=
  op_kids (advLit b) (advLit_append b) rfl _ p advLit_of_head hw

theorem advParam_kids {cs : List Node} (hw : wfKids cs = true) (p) :
    advParam (flt p (sufsKids cs)) =
      (cs.filter (fun c => Sel.param.matches c.key)).flatMap (fun c => advParam (flt p (sufsNode c))) :=
  op_kids advParam advParam_append rfl .param p
    (fun hh hm => advParam_allHead_other hh fun n hn => by subst hn; cases hm) hw

theorem advInfix_kids {cs : List Node} (hw : wfKids cs = true) (p) :
    advInfix (flt p (sufsKids cs)) =
      (cs.filter (fun c => Sel.catchAll.matches c.key)).flatMap (fun c => advInfix (flt p (sufsNode c))) :=
  op_kids advInfix advInfix_append rfl .catchAll p
    (fun hh hm => advInfix_allHead_other hh fun n hn => by subst hn; cases hm) hw

theorem suffixCatch_kids {cs : List Node} (hw : wfKids cs = true) (p) (pa ps) :
    suffixCatch (flt p (sufsKids cs)) pa ps =
      (cs.filter (fun c => Sel.catchAll.matches c.key)).flatMap (fun c => suffixCatch (flt p (sufsNode c)) pa ps) :=
  op_kids (suffixCatch · pa ps) (fun S T => suffixCatch_append S T pa ps) rfl .catchAll p
    (fun hh hm => suffixCatch_allHead_other hh (fun n hn => by subst hn; cases hm) pa ps) hw

/-- the suffixes of a child a selector answers to begin as the selector says -/
theorem allHead_of_static {c : Node} (h : wfNode c = true) (p) {b : UInt8} (hm : (Sel.static b).matches c.key = true) :
    AllHead (.lit b) (flt p (sufsNode c)) := by
  obtain ⟨t, k', hk, hh⟩ := wfNode_head_flt h p
  rw [hk] at hm
  cases t with
  | lit c0 => rwa [show c0 = b by simpa [Sel.matches] using hm] at hh
  | param n => cases hm
  | catchAll n => cases hm

theorem allHead_of_param {c : Node} (h : wfNode c = true) (p) (hm : Sel.param.matches c.key = true) :
    ∃ n, AllHead (.param n) (flt p (sufsNode c)) := by
  obtain ⟨t, k', hk, hh⟩ := wfNode_head_flt h p
  rw [hk] at hm
  cases t with
  | param n => exact ⟨n, hh⟩
  | lit c0 => cases hm
  | catchAll n => cases hm

theorem allHead_of_catch {c : Node} (h : wfNode c = true) (p) (hm : Sel.catchAll.matches c.key = true) :
    ∃ n, AllHead (.catchAll n) (flt p (sufsNode c)) := by
  obtain ⟨t, k', hk, hh⟩ := wfNode_head_flt h p
  rw [hk] at hm
  cases t with
  | catchAll n => exact ⟨n, hh⟩
  | lit c0 => cases hm
  | param n => cases hm

/-- the specification on the union of the children's suffix sets is the three ordered alternatives of the model (static,
    `{param}`, catch-all child), each on the suffix set of the one child of that kind; the `_f` lemmas are stated for the
    set filtered by a predicate `p` on the routes -/
theorem specAll_kids_f {cs : List Node} (hw : wfKids cs = true) (hd : nodupB (kindsOf cs) = true) (p)
    (b : UInt8) (rest : Bytes) (ps : Binds) :
    specAll (flt p (sufsKids cs)) (b :: rest) ps =
      (cs.filter (fun c => (Sel.static b).matches c.key)).flatMap (fun c => specAll (flt p (sufsNode c)) (b :: rest) ps)
      ++ (cs.filter (fun c => Sel.param.matches c.key)).flatMap (fun c => specAll (flt p (sufsNode c)) (b :: rest) ps)
      ++ (cs.filter (fun c => Sel.catchAll.matches c.key)).flatMap (fun c => specAll (flt p (sufsNode c)) (b :: rest) ps) := by
  rw [specAll_cons, List.append_assoc (_ ++ _)]
  congr 1
  congr 1
  · rw [advLit_kids hw]
    rcases filter_kind hd (.static b) with h | ⟨c, hc, hm, h⟩
    · rw [h]; exact specAll_nil _ _
    · rw [h, List.flatMap_singleton, List.flatMap_singleton,
        specAll_eq_advLit (allHead_of_static (wfKids_mem hw hc) p hm)]
  · rcases filter_kind hd .param with h | ⟨c, hc, hm, h⟩
    · rw [h]; exact paramPart_of_advParam_nil (by rw [advParam_kids hw, h]; rfl) _ _
    · obtain ⟨n, hh⟩ := allHead_of_param (wfKids_mem hw hc) p hm
      rw [h, List.flatMap_singleton, specAll_eq_paramPart hh]
      exact paramPart_congr (by rw [advParam_kids hw, h, List.flatMap_singleton]) _ _
  · rw [suffixCatch_kids hw]
    rcases filter_kind hd .catchAll with h | ⟨c, hc, hm, h⟩
    · rw [h, infixPart_of_advInfix_nil (by rw [advInfix_kids hw, h]; rfl)]; rfl
    · obtain ⟨n, hh⟩ := allHead_of_catch (wfKids_mem hw hc) p hm
      rw [h, List.flatMap_singleton, List.flatMap_singleton, specAll_eq_catchPart hh,
        infixPart_congr (S' := flt p (sufsNode c)) (by rw [advInfix_kids hw, h, List.flatMap_singleton])]

theorem mem_sufsKids {cs : List Node} {sr : List Tok × Route} :
    sr ∈ sufsKids cs ↔ ∃ c ∈ cs, sr ∈ sufsNode c := by
  rw [sufsKids_eq_flatMap]; exact List.mem_flatMap

theorem endsHere_allNonempty {S : SufSet} (h : ∀ sr ∈ S, sr.1 ≠ []) (ps) : endsHere S ps = [] := by
  unfold endsHere
  rw [List.filterMap_eq_nil_iff]
  intro sr hsr
  simp [h sr hsr]

/-- at the end of the path only the route of the node itself is left -/
theorem specAll_sufsFrom_nil_nil_f (p) (n : Node) (ps : Binds) (hw : wfKids n.children = true) :
    specAll (flt p (sufsFrom n [])) [] ps =
      (match n.route with | some r => if p r then [(r, ps)] else [] | none => []) := by
  rw [specAll_nil_path, sufsFrom_nil, flt_append, endsHere_append,
    endsHere_allNonempty (S := flt p (sufsKids n.children)) fun sr h => sufsKids_ne_nil hw sr (List.mem_filter.mp h).1,
    List.append_nil]
  cases n.route with
  | none => rfl
  | some r => by_cases hp : p r = true <;> simp [routeSuf, flt, endsHere, hp]

theorem specAll_sufsFrom_nil_nil (n : Node) (ps : Binds) (hw : wfKids n.children = true) :
    specAll (sufsFrom n []) [] ps = (match n.route with | some r => [(r, ps)] | none => []) := by
  have := specAll_sufsFrom_nil_nil_f (fun _ => true) n ps hw
  simpa only [flt_true, if_true] using this

/-- at a non-empty path the route of the node itself (suffix `[]`) plays no part -/
theorem specAll_sufsFrom_nil_cons_f (p) (n : Node) (b rest ps) :
    specAll (flt p (sufsFrom n [])) (b :: rest) ps = specAll (flt p (sufsKids n.children)) (b :: rest) ps := by
  rw [sufsFrom_nil, flt_append]
  cases n.route with
  | none => rfl
  | some r =>
    by_cases hp : p r = true
    · have : flt p (routeSuf (some r) []) = [([], r)] := by simp [routeSuf, flt, hp]
      rw [this]; exact specAll_cons_nil r _ b rest ps
    · have : flt p (routeSuf (some r) []) = [] := by simp [routeSuf, flt, hp]
      rw [this]; rfl

theorem specAll_sufsFrom_nil_cons (n : Node) (b rest ps) :
    specAll (sufsFrom n []) (b :: rest) ps = specAll (sufsKids n.children) (b :: rest) ps := by
  have := specAll_sufsFrom_nil_cons_f (fun _ => true) n b rest ps
  simpa only [flt_true] using this

/-- A node's own suffix `[*{nm}]` is seen by the suffix catch-all alone. -/
theorem specAll_routeSuf_catch (o : Option Route) (nm : Bytes) {S : SufSet} (b rest ps)
    (hS : suffixCatch S (b :: rest) ps = []) :
    specAll (routeSuf o [.catchAll nm] ++ S) (b :: rest) ps =
      specAll S (b :: rest) ps ++ (match o with | some r => [(r, ps ++ [(nm, b :: rest)])] | none => []) := by
  cases o with
  | none => simp [routeSuf]
  | some r =>
    rw [specAll_cons, specAll_cons S, suffixCatch_append, hS,
      show advLit b (routeSuf (some r) [.catchAll nm] ++ S) = advLit b S from rfl,
      paramPart_congr (show advParam (routeSuf (some r) [.catchAll nm] ++ S) = advParam S from rfl),
      infixPart_congr (show advInfix (routeSuf (some r) [.catchAll nm] ++ S) = advInfix S from rfl)]
    simp [suffixCatch, routeSuf]

/-! ### the direct matches of the walk's equations, and the induction -/

theorem directs_tsrIf (o c ps) : directs (tsrIf o c ps) = [] := by
  cases o with
  | none => rfl
  | some r => cases c <;> rfl

theorem directs_midKeyEnd (n pre k pr es ps) : directs (midKeyEnd n pre k pr es ps) = [] := by
  rw [midKeyEnd_eq]
  split <;> exact directs_tsrIf _ _ _

theorem directs_walk_nil_nil (n pre pr es ps) :
    directs (walk n pre [] pr es [] ps) = (match n.route with | some r => [(r, ps)] | none => []) := by
  rw [walk_nil_nil]
  cases n.route with
  | some r => rfl
  | none =>
    simp only
    split
    · exact directs_tsrIf _ _ _
    · split
      · exact directs_tsrIf _ _ _
      · rfl

theorem directs_walk_nil_cons (n pre pr es b rest ps) :
    directs (walk n pre [] pr es (b :: rest) ps) =
      directs (if b == STAR then [] else walkKids (.static b) n.children n.route es (b :: rest) ps)
      ++ directs (walkKids .param n.children n.route es (b :: rest) ps)
      ++ directs (walkKids .catchAll n.children n.route es (b :: rest) ps) := by
  rw [walk_nil_cons, directs_append, directs_append, directs_append]
  show directs (tsrIf n.route _ ps) ++ _ ++ _ ++ _ = _
  rw [directs_tsrIf]
  rfl

/-! Motives of the induction, one per function of the walk: `M1` for `walk`, `M2` for `walkInfix`, `M3` for `walkKids`.
  The hypothesis on keys ending in a catch-all (the children all start with '/', hence there is at most one) is what makes
  `walk` right in entering the first child only after a suffix catch-all. -/

def M1 (es : Bool) (n : Node) (pre k : List Tok) (pr : Option Route) (path : Bytes) (ps : Binds) : Prop :=
  wfKids n.children = true → nodupB (kindsOf n.children) = true →
  (endsWithCatchAll k = true → allSlash n.children = true) →
  directs (walk n pre k pr es path ps) = specAll (sufsFrom n k) path ps

def M2 (es : Bool) (inode : Node) (nm acc rest : Bytes) (ps : Binds) : Prop :=
  wfKids inode.children = true → nodupB (kindsOf inode.children) = true →
  (endsWithCatchAll inode.key = true → allSlash inode.children = true) →
  directs (walkInfix inode nm acc rest es ps) = specInfix (sufsNode inode) nm acc rest ps

def M3 (es : Bool) (sel : Sel) (cs : List Node) (pr : Option Route) (path : Bytes) (ps : Binds) : Prop :=
  wfKids cs = true →
  directs (walkKids sel cs pr es path ps) =
    (cs.filter (fun c => sel.matches c.key)).flatMap (fun c => specAll (sufsNode c) path ps)

theorem walk_refines_all (es : Bool) :
    (∀ n pre k pr path ps, M1 es n pre k pr path ps) ∧
    (∀ inode nm acc rest ps, M2 es inode nm acc rest ps) ∧
    (∀ sel cs pr path ps, M3 es sel cs pr path ps) := by
  apply walk_induct (P1 := M1 es) (P2 := M2 es) (P3 := M3 es)
  case nil_nil =>
    intro n pre pr ps hw _ _
    rw [specAll_sufsFrom_nil_nil _ _ hw, directs_walk_nil_nil]
  case nil_cons =>
    -- the three ordered alternatives over the children; no child key starts with '*'
    intro n pre pr ps b rest ih1 ih2 ih3 hw hd _
    have hK := specAll_kids_f hw hd (fun _ => true) b rest ps
    simp only [flt_true] at hK
    rw [specAll_sufsFrom_nil_cons, hK, directs_walk_nil_cons, ih2 hw, ih3 hw]
    by_cases hb : b = STAR
    · subst hb
      rw [filter_none (kids_no_star hw)]
      rfl
    · rw [if_neg (by simpa using hb), ih1 hw]
  case cons_nil =>
    intro n pre t k pr ps _ _ _
    rw [walk_cons_nil, directs_midKeyEnd, specAll_head_nil (allHead_sufsFrom n _ _)]
  case lit_eq =>
    intro n pre pr ps k' b rest ih hw hd hc
    rw [walk_lit_eq, ih hw hd (of_catchAll_tail hc), specAll_lit (allHead_sufsFrom n _ _),
      tails_sufsFrom, if_pos rfl]
  case lit_ne =>
    intro n pre pr ps c k' b rest hcb _ _ _
    rw [walk_lit_ne (h := hcb), specAll_lit (allHead_sufsFrom n _ _), if_neg hcb]
    rfl
  case param_zero =>
    intro n pre pr ps nm k' b rest he _ _ _
    rw [walk_param_zero (h := he), specAll_param (allHead_sufsFrom n _ _), if_pos he]
    rfl
  case param_step =>
    intro n pre pr ps nm k' b rest he ih hw hd hc
    rw [walk_param_step (h := he), ih hw hd (of_catchAll_tail hc),
      specAll_param (allHead_sufsFrom n _ _), tails_sufsFrom, if_neg he]
  case catch_leaf =>
    -- [*{nm}] without children: the whole rest
    intro n pre pr ps nm b rest hcs _ _ _
    rw [sufsFrom_eq, hcs, sufsKids_nil, List.map_nil, specAll_routeSuf_catch _ _ _ _ _ rfl, specAll_nil]
    cases hr : n.route with
    | some r => rw [walk_catch_leaf_some hcs hr]; rfl
    | none => rw [walk_catch_leaf_none hcs hr]; rfl
  case catch_child =>
    -- [*{nm}] with a child (the only one, starting with '/'): continuations below the child, then the whole rest
    intro n pre pr ps nm b rest c tail hcs ih hw hd hc
    have hall : allSlash n.children = true := hc rfl
    rw [hcs] at hw hd hall
    have htail : tail = [] := allSlash_single hall hd
    subst htail
    have hwc := (wfKids_cons.mp hw).1
    obtain ⟨t, k', hck, _⟩ := wfNode_head hwc
    have hkc := wfNode_parts hwc
    -- below the child, the suffixes from here are those of the child's key with the catch-all in front
    have hS : sufsFrom n [Tok.catchAll nm] =
        routeSuf n.route [Tok.catchAll nm] ++ sufsFrom c (Tok.catchAll nm :: t :: k') := by
      rw [sufsFrom_eq, hcs, sufsKids_cons, sufsKids_nil, List.append_nil, sufsNode_eq, hck]
      exact congrArg _ (sufsFrom_cons_map c _ _)
    rw [hS, specAll_routeSuf_catch _ _ _ _ _ (suffixCatch_allInfix (allInfix_sufsFrom c nm t k') _ _),
      specAll_infix (allInfix_sufsFrom c nm t k'), tails_sufsFrom, ← hck, ← sufsNode_eq]
    have hkid : directs (if b = SLASH then [] else walkInfix c nm [b] rest es ps) =
        if b = SLASH then [] else specInfix (sufsNode c) nm [b] rest ps := by
      split
      · rfl
      · exact ih hkc.1 hkc.2.1 fun e => (hkc.2.2 e).2
    cases hr : n.route with
    | some r => rw [walk_catch_child_some hcs hr, directs_append, hkid]; rfl
    | none => rw [walk_catch_child_none hcs hr, directs_append, hkid]; rfl
  case catch_infix =>
    -- *{nm} followed by more key: continuations on the sub-node
    intro n pre pr ps nm b rest t k'' ih hw hd hc
    rw [specAll_infix (allInfix_sufsFrom n nm t k''), tails_sufsFrom]
    by_cases hb : b = SLASH
    · subst hb; rw [walk_catch_infix_slash, if_pos rfl]; rfl
    · rw [walk_catch_infix (hb := hb), if_neg hb, directs_append,
        ih hw hd (of_catchAll_tail hc), sufsNode_infix]
      split
      · exact List.append_nil _
      · rw [directs_tsrIf, List.append_nil]
  case infix_nil =>
    intro inode nm acc ps _ _ _
    rw [walkInfix_nil, specInfix]
    rfl
  case infix_stop =>
    intro inode nm acc ps rest hacc _ _ _
    rw [walkInfix_slash_stop (h := hacc), specInfix, if_pos rfl, if_pos hacc]
    rfl
  case infix_go =>
    intro inode nm acc ps rest hacc ih1 ih2 hw hd hc
    rw [walkInfix_slash_go (h := hacc), specInfix, if_pos rfl, if_neg hacc, directs_append, ih1 hw hd hc,
      ih2 hw hd hc, sufsNode_eq]
  case infix_other =>
    intro inode nm acc ps b rest hb ih hw hd hc
    rw [walkInfix_other (hb := hb), specInfix, if_neg hb]
    exact ih hw hd hc
  case kids_nil =>
    intro sel pr path ps _
    rw [walkKids_nil]
    rfl
  case kids_cons =>
    intro sel pr path ps c cs ih1 ih3 hw
    have hw' := wfKids_cons.mp hw
    have hkc := wfNode_parts hw'.1
    rw [walkKids_cons, directs_append, ih3 hw'.2, List.filter_cons]
    by_cases hm : sel.matches c.key = true
    · rw [if_pos hm, if_pos hm, List.flatMap_cons, ih1 hkc.1 hkc.2.1 fun e => (hkc.2.2 e).2, sufsNode_eq]
    · rw [if_neg hm, if_neg hm]
      rfl

theorem walk_direct {c : Node} (h : wfNode c = true) (es : Bool) (path : Bytes) (ps : Binds) :
    directs (walk c [] c.key none es path ps) = specAll (sufsNode c) path ps := by
  have hp := wfNode_parts h
  rw [(walk_refines_all es).1 c [] c.key none path ps hp.1 hp.2.1 fun e => (hp.2.2 e).2, sufsNode_eq]

theorem pathEvents_direct {c : Node} (h : wfNode c = true) (path : Bytes) (ps : Binds) :
    directs (pathEvents c path ps) = specAll (sufsNode c) path ps :=
  walk_direct h _ path ps

end Fox.Model
