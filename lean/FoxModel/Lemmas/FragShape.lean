import FoxModel.Model.InsScan
/-
  FoxModel.Lemmas.FragShape — the shape of a pattern fragment, once for both delimiters: every wildcard is the last token
  or is followed by the literal delimiter (`wildAtEnd d`). The two checkers of `Model/InsScan` are this shape for '/'
  (`fragOkPath_eq`) and, together with a condition on each token, for '.' (`fragOkHost_iff`); the grammar yields it for
  both parts of a pattern (`Lemmas/GrammarShape`).
-/
namespace Fox.Model.InsScan
open Fox Fox.Model

/-! ### tokens of the grammar -/

theorem nameOk_iff_forall {n : Bytes} :
    nameOk n = true ↔ ∀ b ∈ n, b ≠ RBR ∧ b ≠ SLASH ∧ b ≠ LBR ∧ b ≠ STAR := by
  simp only [nameOk, List.all_eq_true, Bool.and_eq_true, bne_iff_ne, ne_eq, and_assoc]

theorem tokOk_lit {c : UInt8} (h : tokOk (.lit c) = true) : c ≠ LBR ∧ c ≠ STAR := by
  simp only [tokOk, Bool.and_eq_true, bne_iff_ne] at h
  exact h

theorem toksOk_append {a b : List Tok} (h : toksOk (a ++ b) = true) : toksOk a = true ∧ toksOk b = true := by
  simp only [toksOk, List.all_append, Bool.and_eq_true] at h
  exact h

theorem toksOk_cons {a : Tok} {b : List Tok} (h : toksOk (a :: b) = true) : tokOk a = true ∧ toksOk b = true := by
  simp only [toksOk, List.all_cons, Bool.and_eq_true] at h
  exact h

/-! ### wildcards at the end of their segment or label -/

def nextIsLit (d : UInt8) : List Tok → Bool
  | [] => true
  | t :: _ => t == .lit d

/-- every wildcard is the last token of the list or is followed by the literal `d` -/
def wildAtEnd (d : UInt8) : List Tok → Bool
  | [] => true
  | .lit _ :: ts => wildAtEnd d ts
  | .param _ :: ts => nextIsLit d ts && wildAtEnd d ts
  | .catchAll _ :: ts => nextIsLit d ts && wildAtEnd d ts

theorem wildAtEnd_cons {d : UInt8} {t : Tok} {ts : List Tok} :
    wildAtEnd d (t :: ts) = true ↔ (isWild t = true → nextIsLit d ts = true) ∧ wildAtEnd d ts = true := by
  cases t with
  | lit c => exact ⟨fun h => ⟨nofun, h⟩, fun h => h.2⟩
  | param n | catchAll n => exact Bool.and_eq_true_iff.trans (and_congr_left' ⟨fun h _ => h, fun h => h rfl⟩)

theorem wildAtEnd_append {d : UInt8} {a b : List Tok} (h : wildAtEnd d (a ++ b) = true) :
    wildAtEnd d a = true ∧ wildAtEnd d b = true := by
  induction a with
  | nil => exact ⟨rfl, h⟩
  | cons t a ih =>
    obtain ⟨h1, h2⟩ := wildAtEnd_cons.1 h
    refine ⟨wildAtEnd_cons.2 ⟨fun hw => ?_, (ih h2).1⟩, (ih h2).2⟩
    cases a with
    | nil => rfl
    | cons x a' => exact h1 hw

/-- what follows a wildcard inside a fragment is the delimiter -/
theorem wildAtEnd_adj {d : UInt8} (a : List Tok) {w x : Tok} {b : List Tok} (h : wildAtEnd d (a ++ w :: x :: b) = true)
    (hw : isWild w = true) : x = .lit d := by
  induction a with
  | nil => exact beq_iff_eq.1 ((wildAtEnd_cons.1 h).1 hw)
  | cons t a ih => exact ih (wildAtEnd_cons.1 h).2

theorem fragOkPath_eq : ∀ p : List Tok, fragOkPath p = wildAtEnd SLASH p
  | [] => rfl
  | .lit _ :: ts => fragOkPath_eq ts
  | [.param _] => rfl
  | [.catchAll _] => rfl
  | .param _ :: x :: xs => congrArg ((x == .lit SLASH) && ·) (fragOkPath_eq (x :: xs))
  | .catchAll _ :: x :: xs => congrArg ((x == .lit SLASH) && ·) (fragOkPath_eq (x :: xs))

/-- a token of a hostname fragment: text other than '}', or a parameter whose name has no '.' -/
def hostTok : Tok → Prop
  | .lit c => c ≠ RBR
  | .param n => ∀ b ∈ n, b ≠ DOT
  | .catchAll _ => False

theorem fragOkHost_iff {k : List Tok} : fragOkHost k = true ↔ wildAtEnd DOT k = true ∧ ∀ t ∈ k, hostTok t := by
  induction k with
  | nil => exact ⟨fun _ => ⟨rfl, nofun⟩, fun _ => rfl⟩
  | cons t ts ih =>
    rw [List.forall_mem_cons]
    cases t with
    | lit c =>
      show ((c != RBR) && fragOkHost ts) = true ↔ _
      rw [Bool.and_eq_true, ih, bne_iff_ne]
      exact and_left_comm
    | param n =>
      have hn : (n.all (· != DOT) = true) ↔ ∀ b ∈ n, b ≠ DOT := by simp only [List.all_eq_true, bne_iff_ne]
      show ((n.all (· != DOT) && nextIsLit DOT ts) && fragOkHost ts) = true ↔ (nextIsLit DOT ts && wildAtEnd DOT ts) = true ∧ _
      rw [Bool.and_eq_true, Bool.and_eq_true, Bool.and_eq_true, ih, hn]
      exact ⟨fun ⟨⟨h1, h2⟩, h3, h4⟩ => ⟨⟨h2, h3⟩, h1, h4⟩, fun ⟨⟨h2, h3⟩, h1, h4⟩ => ⟨⟨h1, h2⟩, h3, h4⟩⟩
    | catchAll n => exact ⟨fun h => (nomatch h), fun h => h.2.1.elim⟩

end Fox.Model.InsScan
