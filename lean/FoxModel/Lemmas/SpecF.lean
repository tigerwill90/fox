import FoxModel.Lemmas.SpecAlg
/-
  Suffix sets filtered by a predicate on the route (e.g. "the route's pattern ends with a literal '/'", the set the
  slash-adding search runs on). Such a filter commutes with every set operation of `specAll`, so a uniform head survives it.
-/
namespace Fox.Spec
open Fox

def flt (p : Route → Bool) (S : SufSet) : SufSet := S.filter (fun sr => p sr.2)

@[simp] theorem flt_nil (p) : flt p [] = [] := rfl
theorem flt_append (p) (S T : SufSet) : flt p (S ++ T) = flt p S ++ flt p T := by simp [flt]

theorem AllHead.flt {t : Tok} {S : SufSet} (h : AllHead t S) (p) : AllHead t (flt p S) := by
  intro sr hsr; exact h sr (List.mem_filter.mp hsr).1

theorem AllInfix.flt {n : Bytes} {S : SufSet} (h : AllInfix n S) (p) : AllInfix n (flt p S) := by
  intro sr hsr; exact h sr (List.mem_filter.mp hsr).1

theorem tails_flt (p) (S : SufSet) : tails (flt p S) = flt p (tails S) := by
  unfold tails flt
  rw [List.filter_map]
  rfl

theorem flt_true (S : SufSet) : flt (fun _ => true) S = S := by simp [flt]

theorem flt_filter_comm (p : Route → Bool) (q : List Tok × Route → Bool) (S : SufSet) :
    (flt p S).filter q = flt p (S.filter q) := by
  simp only [flt, List.filter_filter]
  congr 1
  funext x
  exact Bool.and_comm _ _

/-! On a set with a uniform head the search consists of the one alternative that head belongs to. -/

theorem specAll_eq_advLit {b : UInt8} {S : SufSet} (h : AllHead (.lit b) S) (rest ps) :
    specAll S (b :: rest) ps = specAll (advLit b S) rest ps := by
  rw [specAll_lit h, advLit_allHead_lit h, if_pos rfl, if_pos rfl]

theorem specAll_eq_paramPart {n : Bytes} {S : SufSet} (h : AllHead (.param n) S) (b rest ps) :
    specAll S (b :: rest) ps = paramPart S (b :: rest) ps := by
  rw [specAll_cons, advLit_allHead_other h (by intro c; simp),
    infixPart_of_advInfix_nil (advInfix_allHead_other h (by intro m; simp)),
    suffixCatch_allHead_other h (by intro m; simp), specAll_nil]
  simp

theorem specAll_eq_catchPart {n : Bytes} {S : SufSet} (h : AllHead (.catchAll n) S) (b rest ps) :
    specAll S (b :: rest) ps = infixPart S b rest ps ++ suffixCatch S (b :: rest) ps := by
  rw [specAll_cons, advLit_allHead_other h (by intro c; simp),
    paramPart_of_advParam_nil (advParam_allHead_other h (by intro m; simp)), specAll_nil]
  simp

theorem specHost_eq_advLit {b : UInt8} {S : SufSet} (h : AllHead (.lit b) S) (rest path ps) :
    specHost S (b :: rest) path ps = specHost (advLit b S) rest path ps := by
  rw [specHost_lit h, advLit_allHead_lit h, if_pos rfl, if_pos rfl]

theorem specHost_eq_paramPart {n : Bytes} {S : SufSet} (h : AllHead (.param n) S) (b rest path ps) :
    specHost S (b :: rest) path ps = hostParamPart S (b :: rest) path ps := by
  rw [specHost_cons, advLit_allHead_other h (by intro c; simp), specHost_nil]
  rfl

end Fox.Spec
