import FoxModel.Props.C01Spec
import FoxModel.Lemmas.SpecPerm
import FoxModel.Lemmas.TreeOps
import FoxModel.Props.C10
import FoxModel.Lemmas.GrammarShape
/-
  FoxModel.Lemmas.Routable — the second half of property C10 ("every accepted pattern is routable"), stated in
  `FoxModel/Props/C10Routable.lean`.

  First the vocabulary: substitutions (`instantiate`, `valsOk`) and the request an instance stands for (`reqHost`,
  `reqPath`). A pattern of the grammar splits in front of its first literal '/' into a hostname part without
  catch-all and a path part, and every wildcard is the last token of its label / segment (`shape_of_valid`, in
  `Lemmas/GrammarShape`). A well-formed substitution splits with it, so the instantiated text, cut at its first '/',
  matches the two parts with the substituted values as captures (`instance_split`); for the route that carries the
  pattern this is a
  direct match (`Direct`, `instance_matches`), the only one if no catch-all is followed by further pattern text
  (`match_unique`, `Direct.unique`, `instance_unique`). `Spec.route` never leaves a registered route that matches
  directly without an answer (`route_of_match`). Two facts the tree-level theorems need close the file: the
  instantiated hostname does not end with '.' (`reqHost_no_trailing_dot`), and a grammatical pattern with the
  recorded split is a `C02.validPattern` (`validPattern_of_valid`).
-/
namespace Fox.C10
open Fox Fox.Model Fox.Spec
open Fox.Model.InsScan (nextIsLit wildAtEnd)

/-- the pattern with the i-th value substituted for the i-th wildcard (literals stand for themselves;
    a wildcard without a value contributes nothing) -/
def instantiate : List Tok → List Bytes → Bytes
  | [], _ => []
  | .lit b :: ts, vs => b :: instantiate ts vs
  | .param _ :: ts, v :: vs => v ++ instantiate ts vs
  | .catchAll _ :: ts, v :: vs => v ++ instantiate ts vs
  | .param _ :: ts, [] => instantiate ts []
  | .catchAll _ :: ts, [] => instantiate ts []

/-- a `{param}` value: non-empty, without '/', and in the hostname part without '.' -/
def paramValOk (inHost : Bool) (v : Bytes) : Bool :=
  !v.isEmpty && !v.contains SLASH && !(inHost && v.contains DOT)

/-- a catch-all value: non-empty if the catch-all ends the pattern; for a catch-all followed by more pattern text
    the value must be one the router can capture there (`InfixCap`): non-empty, not starting with '/', not ending
    with '/', without empty segment "//" -/
def catchValOk (last : Bool) (v : Bytes) : Bool :=
  if last then !v.isEmpty else decide (InfixCap v)

/-- well-formed substitution, token by token; `inHost` = still in front of the first literal '/' (hostname part).
    Exactly one value per wildcard. A catch-all in the hostname part is never well-formed (the grammar has none). -/
def valsOkAux : Bool → List Tok → List Bytes → Bool
  | _, [], vs => vs.isEmpty
  | inHost, .lit b :: ts, vs => valsOkAux (inHost && b != SLASH) ts vs
  | inHost, .param _ :: ts, v :: vs => paramValOk inHost v && valsOkAux inHost ts vs
  | inHost, .catchAll _ :: ts, v :: vs => !inHost && catchValOk ts.isEmpty v && valsOkAux inHost ts vs
  | _, .param _ :: _, [] => false
  | _, .catchAll _ :: _, [] => false

/-- **well-formed substitution** for a whole pattern `hostpattern/pathpattern` -/
def valsOk (toks : List Tok) (vals : List Bytes) : Bool := valsOkAux true toks vals

theorem paramValOk_iff {inHost : Bool} {v : Bytes} :
    paramValOk inHost v = true ↔ v ≠ [] ∧ SLASH ∉ v ∧ (inHost = true → DOT ∉ v) := by
  simp only [paramValOk, Bool.and_eq_true, Bool.not_eq_true', List.isEmpty_eq_false_iff, List.contains_eq_mem,
    decide_eq_false_iff_not, Bool.and_eq_false_imp, and_assoc]

theorem catchValOk_ne_nil {last : Bool} {v : Bytes} (h : catchValOk last v = true) : v ≠ [] := by
  unfold catchValOk at h
  split at h
  · simpa [List.isEmpty_iff] using h
  · exact (of_decide_eq_true h).1

theorem valsOkAux_true_lit {b : UInt8} (hb : b ≠ SLASH) (ts : List Tok) (vs : List Bytes) :
    valsOkAux true (.lit b :: ts) vs = valsOkAux true ts vs := by
  rw [valsOkAux, bne_iff_ne.2 hb]; rfl

theorem valsOkAux_true_slash (ts : List Tok) (vs : List Bytes) :
    valsOkAux true (.lit SLASH :: ts) vs = valsOkAux false (.lit SLASH :: ts) vs := rfl

/-- a well-formed substitution has a value for a leading `{param}` ... -/
theorem valsOkAux_param {inHost : Bool} {n : Bytes} {ts : List Tok} {vals : List Bytes}
    (h : valsOkAux inHost (.param n :: ts) vals = true) :
    ∃ v vs, vals = v :: vs ∧ paramValOk inHost v = true ∧ valsOkAux inHost ts vs = true := by
  cases vals with
  | nil => cases h
  | cons v vs => exact ⟨v, vs, rfl, Bool.and_eq_true_iff.1 h⟩

/-- ... and for a leading catch-all, which it only admits in the path part -/
theorem valsOkAux_catch {inHost : Bool} {n : Bytes} {ts : List Tok} {vals : List Bytes}
    (h : valsOkAux inHost (.catchAll n :: ts) vals = true) :
    inHost = false ∧ ∃ v vs, vals = v :: vs ∧ catchValOk ts.isEmpty v = true ∧ valsOkAux inHost ts vs = true := by
  cases vals with
  | nil => cases h
  | cons v vs =>
    simp only [valsOkAux, Bool.and_eq_true, Bool.not_eq_true'] at h
    exact ⟨h.1.1, v, vs, rfl, h.1.2, h.2⟩

/-- the request an instantiated pattern stands for: Host = the bytes before the first '/', path = the rest -/
def reqHost (x : Bytes) : Bytes := x.takeWhile (· != SLASH)
def reqPath (x : Bytes) : Bytes := x.dropWhile (· != SLASH)

theorem reqHost_append_reqPath (x : Bytes) : reqHost x ++ reqPath x = x := List.takeWhile_append_dropWhile

theorem slash_not_mem_reqHost (x : Bytes) : SLASH ∉ reqHost x := fun h =>
  have : (SLASH != SLASH) = true := List.all_eq_true.1 (List.all_takeWhile (p := (· != SLASH)) (l := x)) SLASH h
  absurd rfl (bne_iff_ne.1 this)

theorem req_append {v : Bytes} (hv : SLASH ∉ v) (y : Bytes) :
    reqHost (v ++ y) = v ++ reqHost y ∧ reqPath (v ++ y) = reqPath y :=
  have hp : ∀ c ∈ v, (c != SLASH) = true := fun _ hc => bne_iff_ne.2 fun e => hv (e ▸ hc)
  ⟨List.takeWhile_append_of_pos hp, List.dropWhile_append_of_pos hp⟩

theorem req_cons {b : UInt8} (hb : b ≠ SLASH) (y : Bytes) :
    reqHost (b :: y) = b :: reqHost y ∧ reqPath (b :: y) = reqPath y :=
  req_append (v := [b]) (fun h => hb (List.mem_singleton.1 h).symm) y

/-- what follows a wildcard in the text is what follows it in the pattern -/
theorem _root_.Fox.Match.head_of_nextIsLit {d : UInt8} {ts : List Tok} {s : Bytes} {bs : Binds} (h : Match d ts s bs)
    (hn : nextIsLit d ts = true) : ∀ c, s.head? = some c → c = d := by
  intro c hc
  cases h with
  | nil => cases hc
  | lit _ =>
    obtain rfl := Tok.lit.inj (beq_iff_eq.1 hn)
    exact (Option.some.inj hc).symm
  | param _ _ _ _ | suffix _ | «infix» _ _ _ _ => cases hn

/-- the path part: a well-formed instance of a pattern whose wildcards end their segments matches, with the
    substituted values as captures -/
theorem match_path : ∀ (p : List Tok) (vp : List Bytes), wildAtEnd SLASH p = true → valsOkAux false p vp = true →
    Match SLASH p (instantiate p vp) ((wildNames p).zip vp) := by
  intro p
  induction p with
  | nil =>
    intro vp _ hv
    obtain rfl : vp = [] := List.isEmpty_iff.1 hv
    exact Match.nil
  | cons t ts ih =>
    intro vp hw hv
    cases t with
    | lit b => exact Match.lit (ih vp hw hv)
    | param n =>
      obtain ⟨v, vs, rfl, hv1, hv2⟩ := valsOkAux_param hv
      obtain ⟨hw1, hw2⟩ := Bool.and_eq_true_iff.1 hw
      obtain ⟨h1, h2, _⟩ := paramValOk_iff.1 hv1
      have m := ih vs hw2 hv2
      exact Match.param h1 h2 (m.head_of_nextIsLit hw1) m
    | catchAll n =>
      obtain ⟨_, v, vs, rfl, hv1, hv2⟩ := valsOkAux_catch hv
      obtain ⟨hw1, hw2⟩ := Bool.and_eq_true_iff.1 hw
      cases ts with
      | nil =>
        obtain rfl : vs = [] := List.isEmpty_iff.1 hv2
        simp only [instantiate, wildNames, List.zip_cons_cons, List.zip_nil_right, List.append_nil]
        exact Match.suffix (catchValOk_ne_nil hv1)
      | cons t' ts' =>
        obtain rfl : t' = .lit SLASH := beq_iff_eq.1 hw1
        exact Match.infix (of_decide_eq_true hv1) (List.cons_ne_nil _ _) rfl (ih vs hw2 hv2)

/-- The values of the hostname part contain no '/', so the first '/' of the instance is the first literal '/' of the
    pattern: the text in front of it matches the hostname part label-wise, the rest matches the path part. -/
theorem host_split {p' : List Tok} (hwP : wildAtEnd SLASH p' = true) : ∀ (h : List Tok) (vals : List Bytes),
    Tok.lit SLASH ∉ h → wildAtEnd DOT h = true → valsOkAux true (h ++ .lit SLASH :: p') vals = true →
    ∃ bh bp, (wildNames (h ++ .lit SLASH :: p')).zip vals = bh ++ bp ∧
      Match DOT h (reqHost (instantiate (h ++ .lit SLASH :: p') vals)) bh ∧
      Match SLASH (.lit SLASH :: p') (reqPath (instantiate (h ++ .lit SLASH :: p') vals)) bp := by
  intro h
  induction h with
  | nil =>
    intro vals _ _ hv
    rw [List.nil_append, valsOkAux_true_slash] at hv
    exact ⟨[], _, rfl, Match.nil, match_path _ vals hwP hv⟩
  | cons t ts ih =>
    intro vals hs hw hv
    obtain ⟨ht, hs'⟩ := not_or.1 (mt List.mem_cons.2 hs)
    cases t with
    | lit b =>
      have hb : b ≠ SLASH := fun e => ht (by rw [e])
      rw [List.cons_append, valsOkAux_true_lit hb] at hv
      obtain ⟨bh, bp, eb, mh, mp⟩ := ih vals hs' hw hv
      obtain ⟨r1, r2⟩ := req_cons hb (instantiate (ts ++ .lit SLASH :: p') vals)
      exact ⟨bh, bp, eb, r1 ▸ Match.lit mh, r2 ▸ mp⟩
    | param n =>
      obtain ⟨v, vs, rfl, hv1, hv2⟩ := valsOkAux_param hv
      obtain ⟨hw1, hw2⟩ := Bool.and_eq_true_iff.1 hw
      obtain ⟨h1, h2, h3⟩ := paramValOk_iff.1 hv1
      obtain ⟨bh, bp, eb, mh, mp⟩ := ih vs hs' hw2 hv2
      obtain ⟨r1, r2⟩ := req_append h2 (instantiate (ts ++ .lit SLASH :: p') vs)
      exact ⟨(n, v) :: bh, bp, congrArg ((n, v) :: ·) eb,
        r1 ▸ Match.param h1 (h3 rfl) (mh.head_of_nextIsLit hw1) mh, r2 ▸ mp⟩
    | catchAll n => exact nomatch (valsOkAux_catch hv).1

/-- **The instance of a grammatical pattern, cut at its first '/'**: the text in front matches the hostname part
    label-wise, the rest matches the path part, and the captures are the substituted values. -/
theorem instance_split {lim : Limits} {toks : List Tok} {vals : List Bytes}
    (hv : validToks lim toks = true) (hvals : valsOk toks vals = true) :
    ∃ bh bp, (wildNames toks).zip vals = bh ++ bp ∧
      Match DOT (toks.takeWhile (!isSlash ·)) (reqHost (instantiate toks vals)) bh ∧
      Match SLASH (toks.dropWhile (!isSlash ·)) (reqPath (instantiate toks vals)) bp := by
  obtain ⟨⟨p', hp⟩, hwP, _, hwH⟩ := shape_of_valid hv
  have hno := takeWhile_no_slash toks
  have htoks : toks.takeWhile (!isSlash ·) ++ toks.dropWhile (!isSlash ·) = toks := List.takeWhile_append_dropWhile
  rw [hp] at htoks hwP ⊢
  generalize toks.takeWhile (!isSlash ·) = h at htoks hwH hno ⊢
  subst htoks
  exact host_split (p' := p') hwP h vals hno hwH hvals

/-- `r` matches the request by itself, without trailing-slash adjustment: a hostname route the non-empty host and
    the path, a path-only route the path -/
def Direct (r : Route) (host path : Bytes) (bs : Binds) : Prop :=
  (r.hostToks ≠ 0 ∧ host ≠ [] ∧ MatchHP r.pattern host path bs) ∨ (r.hostToks = 0 ∧ Match SLASH r.pattern path bs)

/-- the split of a pattern in front of its first literal '/' is unique -/
theorem split_first_slash {a : List Tok} (ha : Tok.lit SLASH ∉ a) (b' : List Tok) :
    (a ++ .lit SLASH :: b').takeWhile (!isSlash ·) = a ∧
    (a ++ .lit SLASH :: b').dropWhile (!isSlash ·) = .lit SLASH :: b' := by
  have hp : ∀ t ∈ a, (!isSlash t) = true := fun t ht => by
    cases hs : isSlash t with
    | false => rfl
    | true => exact absurd ((isSlash_iff t).1 hs ▸ ht) ha
  rw [List.takeWhile_append_of_pos hp, List.dropWhile_append_of_pos hp]
  exact ⟨List.append_nil a, rfl⟩

/-- the recorded split of a `splitOk` route is the split at the first literal '/' -/
theorem splitOk_split {r : Route} (h : splitOk r = true) :
    ∃ p', r.pattern = r.hostPart ++ .lit SLASH :: p' ∧
      r.pattern.takeWhile (!isSlash ·) = r.hostPart ∧ r.pattern.dropWhile (!isSlash ·) = .lit SLASH :: p' ∧
      (r.hostToks = 0 ↔ r.hostPart = []) := by
  obtain ⟨h1, h2⟩ := Bool.and_eq_true_iff.1 h
  obtain ⟨p', hp'⟩ := startsWithSlash_iff_cons.1 h1
  have hp : r.pattern = r.hostPart ++ .lit SLASH :: p' := hp' ▸ (List.take_append_drop ..).symm
  have hno : Tok.lit SLASH ∉ r.hostPart := noSlashTok_iff.1 h2
  obtain ⟨e1, e2⟩ := split_first_slash hno p'
  rw [← hp] at e1 e2
  refine ⟨p', hp, e1, e2, fun h0 => ?_, fun h0 => ?_⟩
  · rw [Route.hostPart, h0]; rfl
  · rcases List.take_eq_nil_iff.1 h0 with h0 | h0
    · exact h0
    · rw [h0] at hp; exact nomatch (List.append_eq_nil_iff.1 hp.symm).2

/-- A well-formed instance of a grammatical pattern is a direct match of the route that carries the pattern (with
    the split in front of the first literal '/'), with exactly the substituted values as captures. For a path-only
    route the Host is immaterial. -/
theorem instance_matches {lim : Limits} {r : Route} {vals : List Bytes}
    (hv : validToks lim r.pattern = true) (hs : splitOk r = true) (hvals : valsOk r.pattern vals = true)
    {host : Bytes} (hh : r.hostToks ≠ 0 → host = reqHost (instantiate r.pattern vals)) :
    Direct r host (reqPath (instantiate r.pattern vals)) ((wildNames r.pattern).zip vals) := by
  obtain ⟨p', s1, s3, s4, s5⟩ := splitOk_split hs
  obtain ⟨bh, bp, eb, mh, mp⟩ := instance_split hv hvals
  obtain ⟨_, _, hnc, _⟩ := shape_of_valid hv
  rw [s3] at mh hnc
  rw [s4] at mp
  rw [eb]
  by_cases h0 : r.hostToks = 0
  · rw [s5.1 h0] at mh s1
    obtain ⟨_, rfl⟩ := mh.nil_inv
    exact Or.inr ⟨h0, s1 ▸ mp⟩
  · rw [hh h0]
    refine Or.inl ⟨h0, fun e => ?_, r.hostPart, _, bh, bp, s1, rfl, hnc, mh, mp, rfl⟩
    rw [e] at mh
    exact h0 (s5.2 mh.of_nil.1)

theorem reqHost_pathOnly {r : Route} (hs : splitOk r = true) (h0 : r.hostToks = 0) (vals : List Bytes) :
    reqHost (instantiate r.pattern vals) = [] := by
  obtain ⟨p', s1, _, _, s5⟩ := splitOk_split hs
  rw [s1, s5.1 h0]; rfl

/-- no catch-all is followed by further pattern text (a catch-all, if any, is the last token) -/
def noInfix : List Tok → Bool
  | [] => true
  | .lit _ :: ts => noInfix ts
  | .param _ :: ts => noInfix ts
  | .catchAll _ :: ts => ts.isEmpty

/-- Without infix catch-all the captures are determined by the text: a `{param}` value ends at the first delimiter
    (`Spec.param_split_unique`), and a final catch-all takes all that is left. (An infix catch-all may end at several
    places, see `Ex` in Props/C10Routable.) -/
theorem match_unique {d : UInt8} : ∀ (s : List Tok) (x : Bytes) (bs bs' : Binds), noInfix s = true →
    Match d s x bs → Match d s x bs' → bs = bs' := by
  intro s
  induction s with
  | nil =>
    intro x bs bs' _ h1 h2
    rw [h1.nil_inv.2, h2.nil_inv.2]
  | cons t ts ih =>
    intro x bs bs' hn h1 h2
    cases t with
    | lit b =>
      obtain ⟨s1, e1, m1⟩ := h1.lit_inv
      obtain ⟨s2, e2, m2⟩ := h2.lit_inv
      obtain rfl : s1 = s2 := List.tail_eq_of_cons_eq (e1.symm.trans e2)
      exact ih _ _ _ hn m1 m2
    | param n =>
      obtain ⟨v1, s1, b1, e1, rfl, _, d1, hd1, m1⟩ := h1.param_inv
      obtain ⟨v2, s2, b2, e2, rfl, _, d2, hd2, m2⟩ := h2.param_inv
      obtain ⟨rfl, rfl⟩ := Spec.param_split_unique (e1.symm.trans e2) d1 d2 hd1 hd2
      rw [ih _ _ _ hn m1 m2]
    | catchAll n =>
      obtain rfl : ts = [] := List.isEmpty_iff.1 hn
      rcases h1.catch_inv with ⟨_, _, rfl⟩ | ⟨hne, _⟩
      · rcases h2.catch_inv with ⟨_, _, rfl⟩ | ⟨hne, _⟩
        · rfl
        · exact absurd rfl hne
      · exact absurd rfl hne

theorem noInfix_of_noCatch {h : List Tok} (hc : NoCatch h) : noInfix h = true := by
  induction h with
  | nil => rfl
  | cons t ts ih =>
    cases t with
    | lit b | param n => exact ih hc.tail
    | catchAll n => exact nomatch hc.head

theorem noInfix_append_right {h p : List Tok} (hc : NoCatch h) (hn : noInfix (h ++ p) = true) :
    noInfix p = true := by
  induction h with
  | nil => exact hn
  | cons t ts ih =>
    cases t with
    | lit b | param n => exact ih hc.tail hn
    | catchAll n => exact nomatch hc.head

/-- For a host without '/' the split of the pattern into hostname and path part is forced
    (`C01Spec.matchHP_split_unique`), so `match_unique` applies to each part. -/
theorem matchHP_unique {pat : List Tok} {host path : Bytes} {bs bs' : Binds} (hn : noInfix pat = true)
    (hh : SLASH ∉ host) (h : MatchHP pat host path bs) (h' : MatchHP pat host path bs') : bs = bs' := by
  obtain ⟨hs, pp, bh, bp, rfl, h2, h3, h4, h5, rfl⟩ := h
  obtain ⟨_, bh', bp', m1, m2, rfl⟩ :=
    C01Spec.matchHP_split_unique h' hh rfl h2 (C01Spec.no_litSlash_of_match h4 h3 hh)
  rw [match_unique _ _ _ _ (noInfix_of_noCatch h3) h4 m1, match_unique _ _ _ _ (noInfix_append_right h3 hn) h5 m2]

theorem Direct.unique {r : Route} {host path : Bytes} {bs bs' : Binds} (hn : noInfix r.pattern = true)
    (hh : r.hostToks ≠ 0 → SLASH ∉ host) (h : Direct r host path bs) (h' : Direct r host path bs') : bs = bs' := by
  rcases h with ⟨h0, _, hM⟩ | ⟨h0, hM⟩ <;> rcases h' with ⟨h0', _, hM'⟩ | ⟨h0', hM'⟩
  · exact matchHP_unique hn (hh h0) hM hM'
  · exact absurd h0' h0
  · exact absurd h0 h0'
  · exact match_unique _ _ _ _ hn hM hM'

/-- without infix catch-all the captures of `instance_matches` are the only ones -/
theorem instance_unique {lim : Limits} {r : Route} {vals : List Bytes} {host : Bytes} {ps : Binds}
    (hv : validToks lim r.pattern = true) (hs : splitOk r = true) (hvals : valsOk r.pattern vals = true)
    (hni : noInfix r.pattern = true) (hh : r.hostToks ≠ 0 → host = reqHost (instantiate r.pattern vals))
    (hd : Direct r host (reqPath (instantiate r.pattern vals)) ps) : ps = (wildNames r.pattern).zip vals :=
  Direct.unique hni (fun h0 => hh h0 ▸ slash_not_mem_reqHost _) hd (instance_matches hv hs hvals hh)

theorem Direct.subst {r : Route} {host path : Bytes} {bs : Binds} (h : Direct r host path bs) :
    subst r.pattern bs = some (if r.hostToks = 0 then path else host ++ path) := by
  rcases h with ⟨h0, _, hM⟩ | ⟨h0, hM⟩
  · rw [if_neg h0]; exact C01Spec.matchHP_subst hM
  · rw [if_pos h0]; exact C01Spec.subst_of_match hM

theorem Direct.names {r : Route} {host path : Bytes} {bs : Binds} (h : Direct r host path bs) :
    bs.map Prod.fst = wildNames r.pattern := by
  rcases h with ⟨_, _, hM⟩ | ⟨_, hM⟩
  · exact C01Spec.matchHP_names hM
  · exact C01Spec.names_of_match hM

theorem mem_hostRoutes {rs : List Route} {r : Route} : r ∈ C01Spec.hostRoutes rs ↔ r ∈ rs ∧ r.hostToks ≠ 0 := by
  simp [C01Spec.hostRoutes, isHostRoute]

theorem mem_pathRoutes {rs : List Route} {r : Route} : r ∈ C01Spec.pathRoutes rs ↔ r ∈ rs ∧ r.hostToks = 0 := by
  simp [C01Spec.pathRoutes, isHostRoute]

/-- the path-only stage answers directly when a path-only route matches -/
theorem pathOutcome_of_match {rs : List Route} {host path : Bytes} {o : Option Found} {r : Route} {bs : Binds}
    (hp : C01Spec.PathOutcome C01Spec.HitP (C01Spec.pathRoutes rs) path o) (hr : r ∈ rs) (h0 : r.hostToks = 0)
    (hM : Match SLASH r.pattern path bs) :
    ∃ f, o = some f ∧ f.route ∈ rs ∧ f.tsr = false ∧ Direct f.route host path f.params := by
  have hrP := mem_pathRoutes.2 ⟨hr, h0⟩
  cases o with
  | none => exact absurd hM (hp.1 r hrP bs)
  | some f =>
    rcases hp with ⟨ht, hq⟩ | ⟨_, hn, _⟩
    · obtain ⟨hf, hf0⟩ := mem_pathRoutes.1 hq.1
      exact ⟨f, rfl, hf, ht, Or.inr ⟨hf0, hq.2⟩⟩
    · exact absurd hM (hn r hrP bs)

/-- **A registered route that matches a request is never dead**: if some route `r` of the list matches the request
    directly, `Spec.route` answers, with a registered route that matches the request directly - except that a
    path-only `r` may be outranked by a slash-adjusted match of a *hostname* route (hostname routes are staged
    first, C09). -/
theorem route_of_match {rs : List Route} {r : Route} {hostPort path : Bytes} {bs : Binds} (hr : r ∈ rs)
    (hm : Direct r (stripHostPort hostPort) path bs) :
    ∃ f, Spec.route rs hostPort path = some f ∧ f.route ∈ rs ∧
      ((f.tsr = false ∧ Direct f.route (stripHostPort hostPort) path f.params) ∨
       (f.tsr = true ∧ r.hostToks = 0 ∧ f.route.hostToks ≠ 0 ∧ C01Spec.HostMode rs hostPort)) := by
  -- `route_outcome_hit` lists what `Spec.route` can answer. In hostname mode: a direct hostname match, else a
  -- slash-adjusted one, else whatever the path-only stage says; outside it the path-only stage alone. The stage
  -- that `r` belongs to cannot have come up empty, which leaves the answers claimed.
  have ho := C01Spec.route_outcome_hit rs hostPort path
  by_cases hmode : C01Spec.HostMode rs hostPort
  · rcases ho.1 hmode with ⟨f, e, ht, hq⟩ | ⟨hn, f, e, ht, p', added, ha, hq⟩ | ⟨hn, _, hp⟩
    · obtain ⟨hf, hf0⟩ := mem_hostRoutes.1 hq.1
      exact ⟨f, e, hf, Or.inl ⟨ht, Or.inl ⟨hf0, hmode.2, hq.2⟩⟩⟩
    · rcases hm with ⟨h0, _, hM⟩ | ⟨h0, _⟩
      · exact absurd hM (hn r (mem_hostRoutes.2 ⟨hr, h0⟩) bs)
      · obtain ⟨hf, hf0⟩ := mem_hostRoutes.1 (C01Spec.mem_cand hq.1)
        exact ⟨f, e, hf, Or.inr ⟨ht, h0, hf0, hmode⟩⟩
    · rcases hm with ⟨h0, _, hM⟩ | ⟨h0, hM⟩
      · exact absurd hM (hn r (mem_hostRoutes.2 ⟨hr, h0⟩) bs)
      · obtain ⟨f, e, hf, ht, hd⟩ := pathOutcome_of_match hp hr h0 hM
        exact ⟨f, e, hf, Or.inl ⟨ht, hd⟩⟩
  · rcases hm with ⟨h0, hne, _⟩ | ⟨h0, hM⟩
    · -- a hostname route with a non-empty host puts the method in hostname mode
      exact absurd ⟨List.ne_nil_of_mem (mem_hostRoutes.2 ⟨hr, h0⟩), hne⟩ hmode
    · obtain ⟨f, e, hf, ht, hd⟩ := pathOutcome_of_match (ho.2 hmode) hr h0 hM
      exact ⟨f, e, hf, Or.inl ⟨ht, hd⟩⟩

theorem getLast?_append_of_ne_nil {α} (a : List α) {b : List α} (h : b ≠ []) :
    (a ++ b).getLast? = b.getLast? := by
  rw [List.getLast?_append]
  cases hb : b.getLast? with
  | none => exact absurd (List.getLast?_eq_none_iff.1 hb) h
  | some x => rfl

/-- a match of a catch-all free pattern that does not end with the literal delimiter does not end with the
    delimiter -/
theorem _root_.Fox.Match.getLast_ne {d : UInt8} {ts : List Tok} {x : Bytes} {bs : Binds} (h : Match d ts x bs)
    (hc : NoCatch ts) (hl : ts.getLast? ≠ some (.lit d)) : x.getLast? ≠ some d := by
  induction h with
  | nil => exact nofun
  | @lit b ts s bs m ih =>
    cases ts with
    | nil =>
      obtain ⟨rfl, _⟩ := m.nil_inv
      exact fun e => hl (congrArg (some ∘ Tok.lit) (Option.some.inj e))
    | cons t ts' =>
      have hs : s ≠ [] := fun e => nomatch (e ▸ m).of_nil.1
      rw [List.getLast?_cons_cons] at hl
      show ([b] ++ s).getLast? ≠ some d
      rw [getLast?_append_of_ne_nil [b] hs]
      exact ih hc.tail hl
  | @param n v ts s bs hv hd _ m ih =>
    cases ts with
    | nil =>
      obtain ⟨rfl, _⟩ := m.nil_inv
      rw [List.append_nil]
      exact fun e => hd (List.mem_of_getLast? e)
    | cons t ts' =>
      have hs : s ≠ [] := fun e => nomatch (e ▸ m).of_nil.1
      rw [List.getLast?_cons_cons] at hl
      rw [getLast?_append_of_ne_nil v hs]
      exact ih hc.tail hl
  | suffix _ | «infix» _ _ _ _ _ => exact nomatch hc.head

theorem reqHost_no_trailing_dot {lim : Limits} {toks : List Tok} {vals : List Bytes}
    (hv : validToks lim toks = true) (hvals : valsOk toks vals = true) :
    (reqHost (instantiate toks vals)).getLast? ≠ some DOT := by
  obtain ⟨bh, bp, _, mh, _⟩ := instance_split hv hvals
  obtain ⟨_, _, hnc, _⟩ := shape_of_valid hv
  exact mh.getLast_ne hnc (host_no_trailing_dot hv)

theorem keyOk_path : ∀ p : List Tok, litsOk p = true → wildAtEnd SLASH p = true → keyOk p = true := by
  intro p
  induction p with
  | nil => intro _ _; rfl
  | cons t ts ih =>
    intro hl hw
    obtain ⟨hb, hl'⟩ := Bool.and_eq_true_iff.1 (List.all_cons.symm.trans hl)
    cases t with
    | lit b => exact Bool.and_eq_true_iff.2 ⟨hb, ih hl' hw⟩
    | param n => exact ih hl' (Bool.and_eq_true_iff.1 hw).2
    | catchAll n =>
      obtain ⟨hw, hw'⟩ := Bool.and_eq_true_iff.1 hw
      refine Bool.and_eq_true_iff.2 ⟨?_, ih hl' hw'⟩
      cases ts with
      | nil => rfl
      | cons t' ts' => exact hw

theorem keyOk_append : ∀ h p : List Tok, NoCatch h → litsOk h = true → keyOk p = true → keyOk (h ++ p) = true := by
  intro h
  induction h with
  | nil => intro p _ _ hp; exact hp
  | cons t ts ih =>
    intro p hc hl hp
    obtain ⟨hb, hl'⟩ := Bool.and_eq_true_iff.1 (List.all_cons.symm.trans hl)
    cases t with
    | lit b => exact Bool.and_eq_true_iff.2 ⟨hb, ih p hc.tail hl' hp⟩
    | param n => exact ih p hc.tail hl' hp
    | catchAll n => exact nomatch hc.head

theorem endsWithCatchAll_of_noCatch {h : List Tok} (hc : NoCatch h) : endsWithCatchAll h = false := by
  unfold endsWithCatchAll
  cases hg : h.getLast? with
  | none => rfl
  | some t =>
    have := hc t (List.mem_of_getLast? hg)
    cases t with
    | lit _ | param _ => rfl
    | catchAll _ => cases this

theorem validPattern_of_valid {lim : Limits} {r : Route} (hv : validToks lim r.pattern = true)
    (hs : splitOk r = true) (hl : litsOk r.pattern = true) : C02.validPattern r = true := by
  obtain ⟨p', s1, s3, s4, _⟩ := splitOk_split hs
  obtain ⟨_, hwP, hnc, _⟩ := shape_of_valid hv
  rw [s3] at hnc
  rw [s4] at hwP
  rw [s1, litsOk_append, Bool.and_eq_true] at hl
  obtain ⟨h1, h2⟩ := Bool.and_eq_true_iff.1 hs
  refine (C02.validPattern_iff r).2 ⟨?_, h1, h2, endsWithCatchAll_of_noCatch hnc⟩
  rw [s1]
  exact keyOk_append _ _ hnc hl.1 (keyOk_path _ hl.2 hwP)

end Fox.C10
