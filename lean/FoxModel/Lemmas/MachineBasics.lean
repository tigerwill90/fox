import FoxModel.Lemmas.Walk
import FoxModel.Model.Machine
/-
  Tools for relating the state machine of `Model/Machine.lean` to the enumerating walk of `Model/Lookup.lean`:

  * `pickC t evs`  — the answer of the Go function when the events `evs` are still to be explored and `t` is the
                      trailing-slash candidate recorded so far ("first candidate wins", "first direct match returns");
  * the algebra of `pickC` over concatenation (a block of events can be replaced by its own answer);
  * `walk_prefix_all` — the walk only ever appends to the parameters it starts with, so the events of a sub-lookup
                      started on no parameters can be prefixed afterwards (`Ev.pre`, `pickC_block`).
-/
namespace Fox.Model
open Fox

abbrev Cand := Option (Route × Binds)

def orTsr (t : Cand) (x : Route × Binds) : Cand :=
  match t with
  | some y => some y
  | none => some x

def fin (t : Cand) : Result :=
  match t with
  | some (r, ps) => .found r ps true
  | none => .none

def pickC (t : Cand) : List Ev → Result
  | [] => fin t
  | .direct r ps :: _ => .found r ps false
  | .bad :: _ => .bad
  | .tsr r ps :: evs => pickC (orTsr t (r, ps)) evs

@[simp] theorem orTsr_some (y x) : orTsr (some y) x = some y := rfl
@[simp] theorem orTsr_none (x) : orTsr none x = some x := rfl
@[simp] theorem orTsr_orTsr (t x y) : orTsr (orTsr t x) y = orTsr t x := by cases t <;> rfl
@[simp] theorem pickC_nil (t) : pickC t [] = fin t := rfl
@[simp] theorem pickC_direct (t r ps evs) : pickC t (.direct r ps :: evs) = .found r ps false := rfl
@[simp] theorem pickC_bad (t evs) : pickC t (.bad :: evs) = .bad := rfl
@[simp] theorem pickC_tsr (t r ps evs) : pickC t (.tsr r ps :: evs) = pickC (orTsr t (r, ps)) evs := rfl

/-- a block of events can be replaced by its own answer -/
theorem pickC_append (t : Cand) (A B : List Ev) :
    pickC t (A ++ B) = (match pickC none A with
      | .none => pickC t B
      | .found r ps true => pickC (orTsr t (r, ps)) B
      | res => res) := by
  induction A generalizing t B with
  | nil => rfl
  | cons e A ih =>
    cases e with
    | direct r ps => rfl
    | bad => rfl
    | tsr r ps =>
      -- with a candidate recorded, later ones are ignored: the induction hypothesis for `some _` and nothing behind `A`
      have hsome := ih (some (r, ps)) []
      rw [List.append_nil] at hsome
      rw [List.cons_append, pickC_tsr, pickC_tsr, ih, orTsr_none, hsome]
      cases pickC none A with
      | none => rfl
      | bad => rfl
      | found r' ps' tsr' => cases tsr' <;> cases t <;> rfl

theorem pickC_append_nil_left (t : Cand) {A : List Ev} (B : List Ev) (h : A = []) : pickC t (A ++ B) = pickC t B := by
  subst h; rfl

theorem pickC_dup (t : Cand) (A B : List Ev) : pickC t (A ++ (A ++ B)) = pickC t (A ++ B) := by
  rw [pickC_append t A (A ++ B)]
  cases h : pickC none A with
  | none => rfl
  | bad => rw [pickC_append t A B, h]
  | found r ps tsr =>
    cases tsr with
    | false => rw [pickC_append t A B, h]
    | true =>
      dsimp only
      rw [pickC_append _ A B, pickC_append t A B, h]
      simp

/-- `pickC` in the form of `pick`: the first event that is not a candidate decides; without one, the recorded candidate or
    else the first of the list -/
theorem pickC_eq_find (t : Cand) (evs : List Ev) :
    pickC t evs = (match evs.find? nonTsr with
      | some (.direct r ps) => Result.found r ps false
      | some _ => .bad
      | none => match t with | some (r, ps) => .found r ps true | none => firstTsr evs) := by
  induction evs generalizing t with
  | nil => cases t <;> rfl
  | cons e evs ih =>
    cases e with
    | direct r ps => rfl
    | bad => rfl
    | tsr r ps =>
      rw [pickC_tsr, ih, List.find?_cons]
      cases evs.find? nonTsr with
      | some e' => cases e' <;> rfl
      | none => cases t <;> rfl

theorem pickC_none_eq_pick (evs : List Ev) : pickC none evs = pick evs := by
  rw [pickC_eq_find]; rfl

/-- prefix a parameter list to every event -/
def Ev.pre (ps0 : Binds) : Ev → Ev
  | .direct r ps => .direct r (ps0 ++ ps)
  | .tsr r ps => .tsr r (ps0 ++ ps)
  | .bad => .bad

def Result.pre (ps0 : Binds) : Result → Result
  | .found r ps tsr => .found r (ps0 ++ ps) tsr
  | .none => .none
  | .bad => .bad

theorem pickC_map_pre (ps0 : Binds) (t : Cand) (evs : List Ev) :
    pickC (t.map fun x => (x.1, ps0 ++ x.2)) (evs.map (Ev.pre ps0)) = (pickC t evs).pre ps0 := by
  induction evs generalizing t with
  | nil => cases t <;> rfl
  | cons e evs ih =>
    cases e with
    | direct r ps => rfl
    | bad => rfl
    | tsr r ps =>
      simp only [List.map_cons, Ev.pre, pickC_tsr]
      rw [← ih]
      cases t <;> rfl

theorem pickC_none_map_pre (ps0 : Binds) (evs : List Ev) : pickC none (evs.map (Ev.pre ps0)) = (pickC none evs).pre ps0 :=
  pickC_map_pre ps0 none evs

/-- a block of events that is the image of a sub-lookup started with no parameters -/
theorem pickC_block (t : Cand) (ps : Binds) (E X : List Ev) :
    pickC t (E.map (Ev.pre ps) ++ X) =
      (match pickC none E with
       | .none => pickC t X
       | .found r sps true => pickC (orTsr t (r, ps ++ sps)) X
       | .found r sps false => .found r (ps ++ sps) false
       | .bad => .bad) := by
  rw [pickC_append, pickC_none_map_pre]
  cases pickC none E with
  | none => rfl
  | bad => rfl
  | found r sps tsr => cases tsr <;> rfl

/-- a candidate site does not look at the parameters it reports -/
theorem tsrIf_pre (ps0 : Binds) (o : Option Route) (c : Bool) (ps : Binds) :
    tsrIf o c (ps0 ++ ps) = (tsrIf o c ps).map (Ev.pre ps0) := by
  cases o <;> cases c <;> rfl

theorem map_ite_nil {α β} (f : α → β) (c : Prop) [Decidable c] (l : List α) :
    (if c then [] else l.map f) = (if c then [] else l).map f := by
  split <;> rfl

theorem walk_prefix_all (es : Bool) (ps0 : Binds) :
    (∀ n pre k pr path ps, walk n pre k pr es path (ps0 ++ ps) = (walk n pre k pr es path ps).map (Ev.pre ps0)) ∧
    (∀ inode nm acc rest ps, walkInfix inode nm acc rest es (ps0 ++ ps) = (walkInfix inode nm acc rest es ps).map (Ev.pre ps0)) ∧
    (∀ sel cs pr path ps, walkKids sel cs pr es path (ps0 ++ ps) = (walkKids sel cs pr es path ps).map (Ev.pre ps0)) := by
  apply walk_induct
  · intro n pre pr ps
    rw [walk_nil_nil, walk_nil_nil]
    cases n.route with
    | some r => rfl
    | none =>
      cases es with
      | true => exact tsrIf_pre ..
      | false =>
        cases n.children.find? (fun c => startsWithSlash c.key) with
        | none => rfl
        | some c => exact tsrIf_pre ..
  · intro n pre pr ps b rest ih1 ih2 ih3
    rw [walk_nil_cons, walk_nil_cons, ih1, ih2, ih3, map_ite_nil, List.map_append, List.map_append, List.map_append]
    exact congrArg (· ++ _ ++ _ ++ _) (tsrIf_pre ps0 n.route (rest == [] && b == SLASH) ps)
  · intro n pre t k pr ps
    rw [walk_cons_nil, walk_cons_nil, midKeyEnd_eq, midKeyEnd_eq]
    cases es <;> exact tsrIf_pre ..
  · intro n pre pr ps k' b rest ih; rw [walk_lit_eq, walk_lit_eq]; exact ih
  · intro n pre pr ps c k' b rest hcb; rw [walk_lit_ne _ _ _ _ _ _ _ _ _ hcb, walk_lit_ne _ _ _ _ _ _ _ _ _ hcb]; rfl
  · intro n pre pr ps nm k' b rest h0; rw [walk_param_zero _ _ _ _ _ _ _ _ _ h0, walk_param_zero _ _ _ _ _ _ _ _ _ h0]; rfl
  · intro n pre pr ps nm k' b rest h0 ih
    rw [walk_param_step _ _ _ _ _ _ _ _ _ h0, walk_param_step _ _ _ _ _ _ _ _ _ h0, List.append_assoc]; exact ih
  · intro n pre pr ps nm b rest hcs
    cases hr : n.route with
    | some r => rw [walk_catch_leaf_some hcs hr, walk_catch_leaf_some hcs hr, List.append_assoc]; rfl
    | none => rw [walk_catch_leaf_none hcs hr, walk_catch_leaf_none hcs hr]; rfl
  · intro n pre pr ps nm b rest c tail hcs ih
    cases hr : n.route with
    | some r =>
      rw [walk_catch_child_some hcs hr, walk_catch_child_some hcs hr, List.map_append, ← map_ite_nil, ← ih, List.append_assoc]; rfl
    | none =>
      rw [walk_catch_child_none hcs hr, walk_catch_child_none hcs hr, List.map_append, ← map_ite_nil, ← ih]; rfl
  · intro n pre pr ps nm b rest t k'' ih
    rw [walk_catch_infix_eq, walk_catch_infix_eq, List.map_append, ← map_ite_nil, ← map_ite_nil, ← ih, ← tsrIf_pre, List.append_assoc]
  · intro inode nm acc ps; rw [walkInfix_nil, walkInfix_nil]; rfl
  · intro inode nm acc ps rest h; rw [walkInfix_slash_stop _ _ _ _ _ _ h, walkInfix_slash_stop _ _ _ _ _ _ h]; rfl
  · intro inode nm acc ps rest h ih1 ih2
    rw [walkInfix_slash_go _ _ _ _ _ _ h, walkInfix_slash_go _ _ _ _ _ _ h, List.append_assoc, ih1, ih2, List.map_append]
  · intro inode nm acc ps b rest hb ih
    rw [walkInfix_other _ _ _ _ _ _ _ hb, walkInfix_other _ _ _ _ _ _ _ hb]; exact ih
  · intro sel pr path ps; rw [walkKids_nil, walkKids_nil]; rfl
  · intro sel pr path ps c cs' ih1 ih2
    rw [walkKids_cons, walkKids_cons, ih2, List.map_append]
    split
    · rw [ih1]
    · rfl

theorem walk_prefix (es : Bool) (ps0 : Binds) (n pre k pr path) :
    walk n pre k pr es path ps0 = (walk n pre k pr es path []).map (Ev.pre ps0) := by
  have := (walk_prefix_all es ps0).1 n pre k pr path []
  simpa using this

end Fox.Model
