import FoxModel.Lemmas.SpecAlg
import FoxModel.Spec.Match
/-
  The set operations of `Spec/Route.lean`: what is in each derived set (`mem_advLit`, `mem_advParamNamed`, ...), and
  `Coherent` sets, whose members agree on the wildcard name at every position where two of them both have one: coherence
  passes to every derived set and leaves at most one `{param}` name and one infix name to try (`Coherent.paramNames`,
  `Coherent.infixNames`). Route lists enter through `sufsOf`.
-/
namespace Fox.Spec
open Fox

/-! ### the set operations -/

theorem mem_names {x : Bytes} {l : List Bytes} : x ∈ names l ↔ x ∈ l := by
  induction l with
  | nil => simp [names]
  | cons y ys ih =>
    simp only [names, List.mem_cons, List.mem_filter, ih]
    by_cases h : x = y <;> simp [h]

theorem mem_filterMap_fst_eq {α β} [DecidableEq α] {n : α} {y : β} {l : List (α × β)} :
    y ∈ l.filterMap (fun x => if x.1 = n then some x.2 else none) ↔ (n, y) ∈ l := by
  rw [List.mem_filterMap]
  constructor
  · rintro ⟨⟨m, y'⟩, hm, hg⟩
    split at hg
    · rename_i hk; subst hk; cases hg; exact hm
    · cases hg
  · intro h; exact ⟨(n, y), h, if_pos rfl⟩

theorem mem_advLit {b : UInt8} {S : SufSet} {s' : List Tok} {r : Route} :
    (s', r) ∈ advLit b S ↔ (.lit b :: s', r) ∈ S := by
  simp only [advLit, List.mem_filterMap]
  constructor
  · rintro ⟨⟨s, r0⟩, hm, hf⟩
    match s, hf with
    | .lit c :: ts, hf =>
      by_cases hc : c = b
      · subst hc; simp at hf; obtain ⟨rfl, rfl⟩ := hf; exact hm
      · simp [hc] at hf
    | [], hf | .param _ :: _, hf | .catchAll _ :: _, hf => simp at hf
  · intro h; exact ⟨_, h, by simp⟩

theorem mem_advParam {n : Bytes} {S : SufSet} {s' : List Tok} {r : Route} :
    (n, (s', r)) ∈ advParam S ↔ (.param n :: s', r) ∈ S := by
  simp only [advParam, List.mem_filterMap]
  constructor
  · rintro ⟨⟨s, r0⟩, hm, hf⟩
    match s, hf with
    | .param k :: ts, hf => simp at hf; obtain ⟨rfl, rfl, rfl⟩ := hf; exact hm
    | [], hf | .lit _ :: _, hf | .catchAll _ :: _, hf => simp at hf
  · intro h; exact ⟨_, h, by simp⟩

theorem mem_advParamNamed {n : Bytes} {S : SufSet} {s' : List Tok} {r : Route} :
    (s', r) ∈ advParamNamed n S ↔ (.param n :: s', r) ∈ S :=
  mem_filterMap_fst_eq.trans mem_advParam

theorem mem_paramNames {n : Bytes} {S : SufSet} :
    n ∈ paramNames S ↔ ∃ s' r, (.param n :: s', r) ∈ S := by
  simp only [paramNames, mem_names, List.mem_map]
  constructor
  · rintro ⟨⟨m, s', r⟩, hm, rfl⟩; exact ⟨s', r, mem_advParam.1 hm⟩
  · rintro ⟨s', r, h⟩; exact ⟨(n, (s', r)), mem_advParam.2 h, rfl⟩

theorem mem_advInfix {n : Bytes} {S : SufSet} {s' : List Tok} {r : Route} :
    (n, (s', r)) ∈ advInfix S ↔ s' ≠ [] ∧ (.catchAll n :: s', r) ∈ S := by
  simp only [advInfix, List.mem_filterMap]
  constructor
  · rintro ⟨⟨s, r0⟩, hm, hf⟩
    match s, hf with
    | .catchAll k :: t :: ts, hf => simp at hf; obtain ⟨rfl, rfl, rfl⟩ := hf; exact ⟨by simp, hm⟩
    | [], hf | [.catchAll _], hf | .lit _ :: _, hf | .param _ :: _, hf => simp at hf
  · rintro ⟨hne, h⟩
    cases s' with
    | nil => exact absurd rfl hne
    | cons t ts => exact ⟨_, h, by simp⟩

theorem mem_advInfixNamed {n : Bytes} {S : SufSet} {s' : List Tok} {r : Route} :
    (s', r) ∈ advInfixNamed n S ↔ s' ≠ [] ∧ (.catchAll n :: s', r) ∈ S :=
  mem_filterMap_fst_eq.trans mem_advInfix

theorem mem_infixNames {n : Bytes} {S : SufSet} :
    n ∈ infixNames S ↔ ∃ s' r, s' ≠ [] ∧ (.catchAll n :: s', r) ∈ S := by
  simp only [infixNames, mem_names, List.mem_map]
  constructor
  · rintro ⟨⟨m, s', r⟩, hm, rfl⟩; exact ⟨s', r, mem_advInfix.1 hm⟩
  · rintro ⟨s', r, h⟩; exact ⟨(n, (s', r)), mem_advInfix.2 h, rfl⟩

theorem mem_endsHere {S : SufSet} {ps : Binds} {r : Route} {bs : Binds} :
    (r, bs) ∈ endsHere S ps ↔ ([], r) ∈ S ∧ bs = ps := by
  simp only [endsHere, List.mem_filterMap]
  constructor
  · rintro ⟨⟨s, r0⟩, hm, hf⟩
    by_cases hs : s = []
    · subst hs; simp at hf; obtain ⟨rfl, rfl⟩ := hf; exact ⟨hm, rfl⟩
    · simp [hs] at hf
  · rintro ⟨h, rfl⟩; exact ⟨_, h, by simp⟩

theorem mem_suffixCatch {S : SufSet} {path : Bytes} {ps : Binds} {r : Route} {bs : Binds} :
    (r, bs) ∈ suffixCatch S path ps ↔ ∃ n, ([.catchAll n], r) ∈ S ∧ bs = ps ++ [(n, path)] := by
  simp only [suffixCatch, List.mem_filterMap]
  constructor
  · rintro ⟨⟨s, r0⟩, hm, hf⟩
    match s, hf with
    | [.catchAll n], hf => simp at hf; obtain ⟨rfl, rfl⟩ := hf; exact ⟨n, hm, rfl⟩
    | [], hf | .lit _ :: _, hf | .param _ :: _, hf | .catchAll _ :: _ :: _, hf => simp at hf
  · rintro ⟨n, h, rfl⟩; exact ⟨_, h, by simp⟩

theorem mem_filter_headSlash {S : SufSet} {s : List Tok} {r : Route} :
    (s, r) ∈ S.filter headSlash ↔ (s, r) ∈ S ∧ s.head? = some (.lit SLASH) := by
  rw [List.mem_filter]
  refine and_congr_right fun _ => ?_
  unfold headSlash
  match s with
  | .lit c :: ts => simp
  | [] | .param _ :: _ | .catchAll _ :: _ => simp

/-! ### name coherence -/

/-- pairwise name coherence of a suffix set (see `cohPair`) -/
def Coherent (S : SufSet) : Prop := ∀ x ∈ S, ∀ y ∈ S, cohPair x.1 y.1 = true

theorem cohPair_lit (b : UInt8) (s1 s2 : List Tok) : cohPair (.lit b :: s1) (.lit b :: s2) = cohPair s1 s2 := by
  rw [cohPair, bne_self_eq_false, Bool.false_or]

theorem cohPair_param {n1 n2 : Bytes} {s1 s2 : List Tok} (h : cohPair (.param n1 :: s1) (.param n2 :: s2) = true) :
    n1 = n2 ∧ cohPair s1 s2 = true := by
  rw [cohPair, Bool.and_eq_true, beq_iff_eq] at h; exact h

theorem cohPair_infix {n1 n2 : Bytes} {s1 s2 : List Tok} (h1 : s1 ≠ []) (h2 : s2 ≠ [])
    (h : cohPair (.catchAll n1 :: s1) (.catchAll n2 :: s2) = true) : n1 = n2 ∧ cohPair s1 s2 = true := by
  rw [cohPair, List.isEmpty_eq_false_iff.2 h1, List.isEmpty_eq_false_iff.2 h2, Bool.false_or, Bool.false_or,
    Bool.and_eq_true, beq_iff_eq] at h
  exact h

theorem Coherent.advLit {S : SufSet} (h : Coherent S) (b : UInt8) : Coherent (advLit b S) := by
  intro ⟨s1, r1⟩ h1 ⟨s2, r2⟩ h2
  exact (cohPair_lit b s1 s2).symm.trans (h _ (mem_advLit.1 h1) _ (mem_advLit.1 h2))

theorem Coherent.advParamNamed {S : SufSet} (h : Coherent S) (n : Bytes) : Coherent (advParamNamed n S) := by
  intro ⟨s1, r1⟩ h1 ⟨s2, r2⟩ h2
  exact (cohPair_param (h _ (mem_advParamNamed.1 h1) _ (mem_advParamNamed.1 h2))).2

theorem Coherent.advInfixNamed {S : SufSet} (h : Coherent S) (n : Bytes) : Coherent (advInfixNamed n S) := by
  intro ⟨s1, r1⟩ h1 ⟨s2, r2⟩ h2
  obtain ⟨hn1, h1⟩ := mem_advInfixNamed.1 h1
  obtain ⟨hn2, h2⟩ := mem_advInfixNamed.1 h2
  exact (cohPair_infix hn1 hn2 (h _ h1 _ h2)).2

theorem Coherent.filter {S : SufSet} (h : Coherent S) (q : List Tok × Route → Bool) : Coherent (S.filter q) :=
  fun x hx y hy => h x (List.mem_filter.1 hx).1 y (List.mem_filter.1 hy).1

theorem names_of_all_eq {l : List Bytes} (h : ∀ x ∈ l, ∀ y ∈ l, x = y) : names l = [] ∨ ∃ n, names l = [n] := by
  cases l with
  | nil => exact Or.inl rfl
  | cons x xs =>
    exact Or.inr ⟨x, (names_const fun y hy => h y hy x (List.mem_cons_self ..)).trans (if_neg (List.cons_ne_nil x xs))⟩

theorem Coherent.paramNames {S : SufSet} (h : Coherent S) : paramNames S = [] ∨ ∃ n, paramNames S = [n] := by
  apply names_of_all_eq
  intro x hx y hy
  simp only [List.mem_map] at hx hy
  obtain ⟨⟨n1, s1, r1⟩, hm1, rfl⟩ := hx
  obtain ⟨⟨n2, s2, r2⟩, hm2, rfl⟩ := hy
  exact (cohPair_param (h _ (mem_advParam.1 hm1) _ (mem_advParam.1 hm2))).1

theorem Coherent.infixNames {S : SufSet} (h : Coherent S) : infixNames S = [] ∨ ∃ n, infixNames S = [n] := by
  apply names_of_all_eq
  intro x hx y hy
  simp only [List.mem_map] at hx hy
  obtain ⟨⟨n1, s1, r1⟩, hm1, rfl⟩ := hx
  obtain ⟨⟨n2, s2, r2⟩, hm2, rfl⟩ := hy
  obtain ⟨hn1, hm1⟩ := mem_advInfix.1 hm1
  obtain ⟨hn2, hm2⟩ := mem_advInfix.1 hm2
  exact (cohPair_infix hn1 hn2 (h _ hm1 _ hm2)).1

/-! ### route lists -/

theorem coherent_sufsOf {R : List Route} (h : CoherentRoutes R) : Coherent (sufsOf R) := by
  intro ⟨s1, r1⟩ h1 ⟨s2, r2⟩ h2
  obtain ⟨m1, rfl⟩ := mem_sufsOf.1 h1
  obtain ⟨m2, rfl⟩ := mem_sufsOf.1 h2
  exact h r1 m1 r2 m2

theorem _root_.Fox.CoherentRoutes.filter {R : List Route} (h : CoherentRoutes R) (p : Route → Bool) :
    CoherentRoutes (R.filter p) :=
  fun r1 h1 r2 h2 => h r1 (List.mem_filter.1 h1).1 r2 (List.mem_filter.1 h2).1

theorem sufsOf_append (R1 R2 : List Route) : sufsOf (R1 ++ R2) = sufsOf R1 ++ sufsOf R2 := by simp [sufsOf]

theorem sufsOf_filter_ne (R1 R2 : List Route) (r : Route) :
    (sufsOf (R1 ++ r :: R2)).filter (fun x => decide (x ≠ (r.pattern, r))) =
    (sufsOf (R1 ++ R2)).filter (fun x => decide (x ≠ (r.pattern, r))) := by
  simp [sufsOf]

theorem CoherentRoutes.remove {R1 R2 : List Route} {r : Route} (h : CoherentRoutes (R1 ++ r :: R2)) :
    CoherentRoutes (R1 ++ R2) := by
  have sub : ∀ a ∈ R1 ++ R2, a ∈ R1 ++ r :: R2 := fun a ha =>
    (List.mem_append.1 ha).elim (List.mem_append_left _) fun h' => List.mem_append_right _ (List.mem_cons_of_mem _ h')
  exact fun a ha b hb => h a (sub a ha) b (sub b hb)

end Fox.Spec
