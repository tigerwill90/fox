import FoxModel.Lemmas.Spec.Search
import FoxModel.Lemmas.Spec.SetOps
import FoxModel.Lemmas.Spec.MatchRel
/-
  What the traced copy `specAllT` of the path search reports: exactly the declarative matches of the members, each with
  the trace of its match (`specAllT_sound`, `specAllT_complete`), and on a coherent set in non-decreasing trace order
  (`specAllT_sorted`).
-/
namespace Fox.Spec
open Fox

/-! ### soundness -/

theorem specAllT_sound (path : Bytes) : ∀ S ps r bs tr, (r, bs, tr) ∈ specAllT S path ps →
    ∃ s bs', (s, r) ∈ S ∧ bs = ps ++ bs' ∧ Match SLASH s path bs' ∧ tr = trace s bs' := by
  induction path using search_induct SLASH with
  | nil =>
    intro S ps r bs tr h
    rw [specAllT_nil_path, mem_tagWith, mem_endsHere] at h
    obtain ⟨rfl, hm, rfl⟩ := h
    exact ⟨[], [], hm, (List.append_nil _).symm, Match.nil, rfl⟩
  | cons b rest ih1 ih2 ih3 =>
    intro S ps r bs tr h
    rw [specAllT_cons] at h
    simp only [List.mem_append] at h
    rcases h with ((h | h) | h) | h
    · obtain ⟨tr', rfl, h'⟩ := mem_tag.1 h
      obtain ⟨s', bs', hm, rfl, hM, rfl⟩ := ih1 _ _ r bs tr' h'
      exact ⟨.lit b :: s', bs', mem_advLit.1 hm, rfl, Match.lit hM, rfl⟩
    · split at h
      · cases h
      · rename_i he
        obtain ⟨n, _, hn⟩ := List.mem_flatMap.1 h
        obtain ⟨tr', rfl, hn'⟩ := mem_tag.1 hn
        obtain ⟨s', bs', hm, rfl, hM, rfl⟩ := ih2 he _ _ r bs tr' hn'
        exact ⟨.param n :: s', _ :: bs', mem_advParamNamed.1 hm, List.append_assoc .., match_param_seg he hM, rfl⟩
    · obtain ⟨n, _, hn⟩ := List.mem_flatMap.1 h
      obtain ⟨⟨v, s⟩, hc, hx⟩ := List.mem_flatMap.1 hn
      obtain ⟨tr', rfl, hx'⟩ := mem_tag.1 hx
      obtain ⟨ts, bs', hm, rfl, hM, rfl⟩ := ih3 _ hc _ _ r bs tr' hx'
      obtain ⟨hp, hcap, hhd⟩ := mem_caps.1 hc
      obtain ⟨hts, hm⟩ := mem_advInfixNamed.1 hm
      rw [hp]
      exact ⟨.catchAll n :: ts, (n, v) :: bs', hm, List.append_assoc .., Match.infix hcap hts hhd hM,
        (trace_infix hts _ _).symm⟩
    · rw [mem_tagWith, mem_suffixCatch] at h
      obtain ⟨rfl, n, hm, rfl⟩ := h
      exact ⟨[.catchAll n], [(n, b :: rest)], hm, rfl, Match.suffix (List.cons_ne_nil b rest), rfl⟩

/-! ### completeness -/

theorem specAllT_complete (path : Bytes) : ∀ S ps s r bs', (s, r) ∈ S → Match SLASH s path bs' →
    (r, ps ++ bs', trace s bs') ∈ specAllT S path ps := by
  induction path using search_induct SLASH with
  | nil =>
    intro S ps s r bs' hm hM
    obtain ⟨rfl, rfl⟩ := hM.of_nil
    rw [specAllT_nil_path]
    exact mem_tagWith.2 ⟨rfl, mem_endsHere.2 ⟨hm, List.append_nil ps⟩⟩
  | cons b rest ih1 ih2 ih3 =>
    intro S ps s r bs' hm hM
    rw [specAllT_cons]
    simp only [List.mem_append]
    cases s with
    | nil => exact nomatch hM.nil_inv.1
    | cons t ts =>
    cases t with
    | lit c =>
      obtain ⟨s0, hx, hM'⟩ := hM.lit_inv
      obtain ⟨rfl, rfl⟩ := List.cons.inj hx
      exact Or.inl (Or.inl (Or.inl (mem_tag.2 ⟨_, rfl, ih1 _ _ ts r bs' (mem_advLit.2 hm) hM'⟩)))
    | param n =>
      obtain ⟨he, bs0, rfl, hM'⟩ := hM.param_seg
      refine Or.inl (Or.inl (Or.inr ?_))
      rw [if_neg he]
      refine List.mem_flatMap.2 ⟨n, mem_paramNames.2 ⟨ts, r, hm⟩, mem_tag.2 ⟨_, rfl, ?_⟩⟩
      rw [List.append_cons ps _ bs0]
      exact ih2 he _ _ ts r bs0 (mem_advParamNamed.2 hm) hM'
    | catchAll n =>
      rcases hM.catch_inv with ⟨rfl, _, rfl⟩ | ⟨hts, v, s0, bs0, hx, rfl, hc, hhd, hM'⟩
      · exact Or.inr (mem_tagWith.2 ⟨rfl, mem_suffixCatch.2 ⟨n, hm, rfl⟩⟩)
      · refine Or.inl (Or.inr ?_)
        have hcut : (v, s0) ∈ caps (b :: rest) := mem_caps.2 ⟨hx, hc, hhd⟩
        refine List.mem_flatMap.2 ⟨n, mem_infixNames.2 ⟨ts, r, hts, hm⟩,
          List.mem_flatMap.2 ⟨_, hcut, mem_tag.2 ⟨_, trace_infix hts _ _, ?_⟩⟩⟩
        rw [List.append_cons ps _ bs0]
        exact ih3 _ hcut _ _ ts r bs0 (mem_advInfixNamed.2 ⟨hts, hm⟩) hM'

/-! ### priority: the enumeration is sorted by choice trace -/

def SortedT (l : ResT) : Prop := l.Pairwise fun x y => traceLe x.2.2 y.2.2

/-- every trace in `l` starts with a choice whose rank satisfies `P` -/
def Rk (P : Nat → Prop) (l : ResT) : Prop := ∀ x ∈ l, ∃ c tr', x.2.2 = c :: tr' ∧ P c.rank

theorem Rk.append {P : Nat → Prop} {a b : ResT} (ha : Rk P a) (hb : Rk P b) : Rk P (a ++ b) := by
  intro x hx; rcases List.mem_append.1 hx with h | h
  · exact ha x h
  · exact hb x h

theorem Rk.mono {P Q : Nat → Prop} {a : ResT} (ha : Rk P a) (h : ∀ i, P i → Q i) : Rk Q a := by
  intro x hx; obtain ⟨c, tr', h1, h2⟩ := ha x hx; exact ⟨c, tr', h1, h _ h2⟩

theorem Rk.nil (P : Nat → Prop) : Rk P [] := by intro x hx; simp at hx

theorem Rk.tag (c : Choice) (l : ResT) : Rk (· = c.rank) (tag c l) := by
  intro ⟨r, bs, tr⟩ hx
  obtain ⟨tr', rfl, _⟩ := mem_tag.1 hx
  exact ⟨c, tr', rfl, rfl⟩

theorem Rk.tagWith (c : Choice) (l : Res) : Rk (· = c.rank) (tagWith [c] l) := by
  intro ⟨r, bs, tr⟩ hx
  obtain ⟨rfl, _⟩ := mem_tagWith.1 hx
  exact ⟨c, [], rfl, rfl⟩

theorem SortedT.append {a b : ResT} {P Q : Nat → Prop} (ha : SortedT a) (hb : SortedT b)
    (hP : Rk P a) (hQ : Rk Q b) (hlt : ∀ i j, P i → Q j → i < j) : SortedT (a ++ b) := by
  refine List.pairwise_append.2 ⟨ha, hb, ?_⟩
  intro x hx y hy
  obtain ⟨c, tr1, e1, h1⟩ := hP x hx
  obtain ⟨c', tr2, e2, h2⟩ := hQ y hy
  rw [e1, e2]
  exact Or.inl (Or.inl (hlt _ _ h1 h2))

theorem SortedT.tag {l : ResT} (h : SortedT l) (c : Choice) : SortedT (tag c l) := by
  unfold SortedT Spec.tag
  rw [List.pairwise_map]
  exact h.imp fun hxy => (traceLe_cons_cons _ _ _).2 hxy

theorem SortedT.tagWith (t : List Choice) (l : Res) : SortedT (tagWith t l) := by
  unfold SortedT Spec.tagWith
  rw [List.pairwise_map]
  exact List.pairwise_of_forall (fun _ _ => traceLe_refl t)

theorem SortedT.nil : SortedT [] := List.Pairwise.nil

theorem sorted4 {A B C D : ResT} (hA : SortedT A) (hB : SortedT B) (hC : SortedT C) (hD : SortedT D)
    (rA : Rk (· = 0) A) (rB : Rk (· = 1) B) (rC : Rk (· = 2) C) (rD : Rk (· = 3) D) :
    SortedT (A ++ B ++ C ++ D) := by
  have hAB := SortedT.append hA hB rA rB fun i j hi hj => Nat.lt_of_le_of_lt (Nat.le_of_eq hi) (Nat.le_of_eq hj.symm)
  have hABr : Rk (· ≤ 1) (A ++ B) :=
    (rA.mono fun i hi => Nat.le_trans (Nat.le_of_eq hi) (Nat.zero_le 1)).append (rB.mono fun i hi => Nat.le_of_eq hi)
  have hABC := SortedT.append hAB hC hABr rC fun i j hi hj => Nat.lt_of_le_of_lt hi (Nat.le_of_eq hj.symm)
  have hABCr : Rk (· ≤ 2) (A ++ B ++ C) :=
    (hABr.mono fun i hi => Nat.le_succ_of_le hi).append (rC.mono fun i hi => Nat.le_of_eq hi)
  exact SortedT.append hABC hD hABCr rD fun i j hi hj => Nat.lt_of_le_of_lt hi (Nat.le_of_eq hj.symm)

theorem SortedT.flatMap_names {l : List Bytes} (hl : l = [] ∨ ∃ n, l = [n]) {f : Bytes → ResT}
    (hf : ∀ n, SortedT (f n)) : SortedT (l.flatMap f) := by
  rcases hl with rfl | ⟨n, rfl⟩
  · exact SortedT.nil
  · rw [List.flatMap_cons, List.flatMap_nil, List.append_nil]; exact hf n

theorem Rk.flatMap {α} {P : Nat → Prop} {l : List α} {f : α → ResT} (hf : ∀ a, Rk P (f a)) :
    Rk P (l.flatMap f) := by
  intro x hx
  obtain ⟨a, _, hx⟩ := List.mem_flatMap.1 hx
  exact hf a x hx

/-- continuations of an infix catch-all, the shorter capture first -/
theorem SortedT.flatMap_infix {l : List (Bytes × Bytes)} (hl : l.Pairwise fun c c' => c.1.length < c'.1.length)
    {f : Bytes × Bytes → ResT} (hf : ∀ c ∈ l, SortedT (f c)) :
    SortedT (l.flatMap fun c => Spec.tag (.infix c.1.length) (f c)) := by
  induction l with
  | nil => exact SortedT.nil
  | cons c l ih =>
    obtain ⟨hc, hl⟩ := List.pairwise_cons.1 hl
    rw [List.flatMap_cons]
    refine List.pairwise_append.2 ⟨(hf c (List.mem_cons_self ..)).tag _,
      ih hl fun c' hc' => hf c' (List.mem_cons_of_mem _ hc'), ?_⟩
    intro ⟨r, bs, tr⟩ hx y hy
    obtain ⟨tr', rfl, _⟩ := mem_tag.1 hx
    obtain ⟨c', hc', hy⟩ := List.mem_flatMap.1 hy
    obtain ⟨tr2, e, _⟩ := mem_tag.1 (show (y.1, y.2.1, y.2.2) ∈ _ from hy)
    rw [e]
    exact Or.inl (Or.inr ⟨rfl, hc c' hc'⟩)

/-- The four alternatives are ordered by the rank of their first choice (`sorted4`). Inside the `{param}` and the infix
    alternative the search goes name by name, and two names would interleave the traces: coherence leaves at most one
    name (`Coherent.paramNames`, `Coherent.infixNames`), so each is a single block. -/
theorem specAllT_sorted (path : Bytes) : ∀ S ps, Coherent S → SortedT (specAllT S path ps) := by
  induction path using search_induct SLASH with
  | nil => intro S ps _; rw [specAllT_nil_path]; exact SortedT.tagWith _ _
  | cons b rest ih1 ih2 ih3 =>
    intro S ps hS
    rw [specAllT_cons]
    refine sorted4 ((ih1 _ _ (hS.advLit b)).tag _) ?_
      (.flatMap_names hS.infixNames fun n => .flatMap_infix (caps_sorted _) fun c hc => ih3 c hc _ _ (hS.advInfixNamed n))
      (SortedT.tagWith _ _) (Rk.tag .static _) ?_ (Rk.flatMap fun n => Rk.flatMap fun c => Rk.tag _ _)
      (Rk.tagWith .suffix _)
    · split
      · exact SortedT.nil
      · rename_i he
        exact .flatMap_names hS.paramNames fun n => (ih2 he _ _ (hS.advParamNamed n)).tag _
    · split
      · exact Rk.nil _
      · exact Rk.flatMap fun n => Rk.tag .param _

end Fox.Spec
