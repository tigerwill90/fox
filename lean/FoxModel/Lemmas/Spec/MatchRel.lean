import FoxModel.Lemmas.SpecAlg
import FoxModel.Spec.Match
/-
  The declarative vocabulary of `Spec/Match.lean` by itself, nothing about the search: a `{param}` takes exactly the first
  segment (`segEnd_append`, `match_param_seg`), `Match` inverted token by token, what a match gives (substitution, names,
  capture shape), the rules of the whole-pattern match `MatchHP` read off its host (`nil_host`, `lit`, `param_seg`,
  `cons_inv`), and the choice order `traceLe` as a total order.
-/
namespace Fox.Spec
open Fox

/-! ### segments -/

theorem segEnd_drop_head (d : UInt8) (p : Bytes) : ∀ c, (p.drop (segEnd d p)).head? = some c → c = d := by
  induction p with
  | nil => simp [segEnd]
  | cons x xs ih =>
    simp only [segEnd]
    split
    · rename_i hx; intro c; simp; intro h; rw [← h, hx]
    · rw [Nat.add_comm, List.drop_succ_cons]; exact ih

theorem segEnd_append (d : UInt8) (v s : Bytes) (hv : d ∉ v) (hs : ∀ c, s.head? = some c → c = d) :
    segEnd d (v ++ s) = v.length := by
  induction v with
  | nil =>
    cases s with
    | nil => simp [segEnd]
    | cons c s' => have := hs c (by simp); subst this; simp [segEnd]
  | cons x xs ih =>
    simp at hv
    have hx : ¬ x = d := fun h => hv.1 h.symm
    simp [segEnd, hx, ih hv.2]; omega

theorem match_param_seg {d : UInt8} {p : Bytes} {n : Bytes} {s' : List Tok} {bs : Binds}
    (he : ¬ segEnd d p = 0) (hM : Match d s' (p.drop (segEnd d p)) bs) :
    Match d (.param n :: s') p ((n, p.take (segEnd d p)) :: bs) := by
  have := Match.param (n := n) (fun hnil => he (by
      have := congrArg List.length hnil
      rw [List.length_take, List.length_nil] at this
      have hle := segEnd_le d p
      omega))
    (segEnd_take_no_delim d p) (segEnd_drop_head d p) hM
  rwa [List.take_append_drop] at this

/-! ### inversion of `Match` -/

theorem _root_.Fox.Match.of_nil {d : UInt8} {s : List Tok} {bs : Binds} (h : Match d s [] bs) : s = [] ∧ bs = [] := by
  generalize hx : ([] : Bytes) = x at h
  cases h with
  | nil => exact ⟨rfl, rfl⟩
  | lit _ => simp at hx
  | param hv _ _ _ => simp at hx; exact absurd hx.1 hv
  | suffix hv => exact absurd hx.symm hv
  | «infix» hc _ _ _ => simp at hx; exact absurd hx.1 hc.1

theorem _root_.Fox.Match.nil_inv {d : UInt8} {x : Bytes} {bs : Binds} (h : Match d [] x bs) : x = [] ∧ bs = [] := by
  cases h; exact ⟨rfl, rfl⟩

theorem _root_.Fox.Match.lit_inv {d : UInt8} {b : UInt8} {ts : List Tok} {x : Bytes} {bs : Binds}
    (h : Match d (.lit b :: ts) x bs) : ∃ s, x = b :: s ∧ Match d ts s bs := by
  cases h with
  | lit h => exact ⟨_, rfl, h⟩

theorem _root_.Fox.Match.param_inv {d : UInt8} {n : Bytes} {ts : List Tok} {x : Bytes} {bs : Binds}
    (h : Match d (.param n :: ts) x bs) :
    ∃ v s bs', x = v ++ s ∧ bs = (n, v) :: bs' ∧ v ≠ [] ∧ d ∉ v ∧ (∀ c, s.head? = some c → c = d) ∧
      Match d ts s bs' := by
  cases h with
  | param h1 h2 h3 h4 => exact ⟨_, _, _, rfl, rfl, h1, h2, h3, h4⟩

theorem _root_.Fox.Match.catch_inv {d : UInt8} {n : Bytes} {ts : List Tok} {x : Bytes} {bs : Binds}
    (h : Match d (.catchAll n :: ts) x bs) :
    (ts = [] ∧ x ≠ [] ∧ bs = [(n, x)]) ∨
    (ts ≠ [] ∧ ∃ v s bs', x = v ++ s ∧ bs = (n, v) :: bs' ∧ InfixCap v ∧ s.head? = some SLASH ∧
      Match d ts s bs') := by
  cases h with
  | suffix h => exact Or.inl ⟨rfl, h, rfl⟩
  | «infix» h1 h2 h3 h4 => exact Or.inr ⟨h2, _, _, _, rfl, rfl, h1, h3, h4⟩

theorem _root_.Fox.Match.param_seg {d : UInt8} {n : Bytes} {ts : List Tok} {x : Bytes} {bs : Binds}
    (h : Match d (.param n :: ts) x bs) :
    ¬ segEnd d x = 0 ∧ ∃ bs', bs = (n, x.take (segEnd d x)) :: bs' ∧ Match d ts (x.drop (segEnd d x)) bs' := by
  obtain ⟨v, s, bs', rfl, rfl, hv, hd, hs, hM⟩ := h.param_inv
  rw [segEnd_append d v s hd hs, List.take_left' rfl, List.drop_left' rfl]
  exact ⟨fun h0 => hv (List.eq_nil_of_length_eq_zero h0), bs', rfl, hM⟩

/-! ### consequences of a match: substitution, names, capture shape -/

theorem subst_of_match {d : UInt8} {s : List Tok} {x : Bytes} {bs : Binds} (h : Match d s x bs) :
    subst s bs = some x := by
  induction h with
  | nil => rfl
  | lit _ ih | param _ _ _ _ ih | «infix» _ _ _ _ ih => simp [subst, ih]
  | suffix _ => simp [subst]

theorem subst_append {a b : List Tok} {ba bb : Binds} {x y : Bytes}
    (ha : subst a ba = some x) (hb : subst b bb = some y) : subst (a ++ b) (ba ++ bb) = some (x ++ y) := by
  induction a generalizing ba x with
  | nil =>
    cases ba with
    | nil => simp [subst] at ha; subst ha; simpa using hb
    | cons _ _ => simp [subst] at ha
  | cons t ts ih =>
    cases t with
    | lit c =>
      simp only [subst, Option.map_eq_some_iff] at ha
      obtain ⟨x', hx', rfl⟩ := ha
      simp [subst, ih hx']
    | param n | catchAll n =>
      cases ba with
      | nil => simp [subst] at ha
      | cons p ba' =>
        obtain ⟨m, v⟩ := p
        simp only [subst] at ha
        split at ha
        · rename_i hn
          simp only [Option.map_eq_some_iff] at ha
          obtain ⟨x', hx', rfl⟩ := ha
          simp [subst, hn, ih hx']
        · simp at ha

theorem names_of_match {d : UInt8} {s : List Tok} {x : Bytes} {bs : Binds} (h : Match d s x bs) :
    bs.map Prod.fst = wildNames s := by
  induction h with
  | nil => rfl
  | lit _ ih => simpa [wildNames] using ih
  | param _ _ _ _ ih | «infix» _ _ _ _ ih => simp [wildNames, ih]
  | suffix _ => simp [wildNames]

theorem wildNames_append (a b : List Tok) : wildNames (a ++ b) = wildNames a ++ wildNames b := by
  induction a with
  | nil => rfl
  | cons t ts ih => cases t <;> simp [wildNames, ih]

theorem wildNames_length (s : List Tok) : (wildNames s).length = (s.filter isWild).length := by
  induction s with
  | nil => rfl
  | cons t ts ih => cases t <;> simp [wildNames, isWild, List.filter_cons, ih]

theorem caps_of_match {d : UInt8} {s : List Tok} {x : Bytes} {bs : Binds} (h : Match d s x bs) :
    CapsOK d s bs := by
  induction h with
  | nil => trivial
  | lit _ ih => simpa [CapsOK] using ih
  | param h1 h2 _ _ ih => exact ⟨rfl, h1, h2, ih⟩
  | suffix h1 => exact ⟨rfl, h1, trivial⟩
  | «infix» h1 _ _ _ ih => exact ⟨rfl, h1.1, ih⟩

theorem values_subset {d : UInt8} {s : List Tok} {x : Bytes} {bs : Binds} (h : Match d s x bs) :
    ∀ nv ∈ bs, ∀ c ∈ nv.2, c ∈ x := by
  induction h with
  | nil => simp
  | lit _ ih => intro nv hnv c hc; exact List.mem_cons_of_mem _ (ih nv hnv c hc)
  | param _ _ _ _ ih | «infix» _ _ _ _ ih =>
    intro nv hnv c hc
    rcases List.mem_cons.1 hnv with rfl | hnv
    · exact List.mem_append_left _ hc
    · exact List.mem_append_right _ (ih nv hnv c hc)
  | suffix _ => intro nv hnv c hc; obtain rfl := List.mem_singleton.1 hnv; exact hc

/-! ### the hostname part -/

theorem _root_.Fox.NoCatch.nil : NoCatch [] := fun _ h => nomatch h

theorem _root_.Fox.NoCatch.cons {t : Tok} {ts : List Tok} (ht : t.isCatch = false) (h : NoCatch ts) :
    NoCatch (t :: ts) := by
  intro x hx
  rcases List.mem_cons.1 hx with rfl | hx
  · exact ht
  · exact h x hx

theorem _root_.Fox.NoCatch.tail {t : Tok} {ts : List Tok} (h : NoCatch (t :: ts)) : NoCatch ts :=
  fun x hx => h x (List.mem_cons_of_mem _ hx)

theorem _root_.Fox.NoCatch.head {t : Tok} {ts : List Tok} (h : NoCatch (t :: ts)) : t.isCatch = false :=
  h t (List.mem_cons_self ..)

theorem trace_infix {n : Bytes} {ts : List Tok} (hts : ts ≠ []) (v : Bytes) (bs : Binds) :
    trace (.catchAll n :: ts) ((n, v) :: bs) = .infix v.length :: trace ts bs := by
  cases ts with
  | nil => exact absurd rfl hts
  | cons t ts' => simp [trace]

theorem trace_append {d : UInt8} {hs : List Tok} {x : Bytes} {bh : Binds} (h : Match d hs x bh)
    (hnc : NoCatch hs) (pp : List Tok) (bp : Binds) :
    trace (hs ++ pp) (bh ++ bp) = trace hs bh ++ trace pp bp := by
  induction h with
  | nil => simp [trace]
  | lit _ ih | param _ _ _ _ ih =>
    simp only [List.cons_append, trace, List.cons.injEq, true_and]
    exact ih hnc.tail
  | suffix _ | «infix» _ _ _ _ _ => exact nomatch hnc.head

/-- a whole-pattern match has the introduction rules of `Match` on its hostname part … -/
theorem _root_.Fox.MatchHP.nil_host {s : List Tok} {path : Bytes} {bs : Binds} :
    MatchHP s [] path bs ↔ s.head? = some (.lit SLASH) ∧ Match SLASH s path bs := by
  constructor
  · rintro ⟨hs, pp, bh, bp, rfl, hh, -, hMh, hMp, rfl⟩
    obtain ⟨rfl, rfl⟩ := hMh.of_nil
    exact ⟨hh, hMp⟩
  · rintro ⟨hh, hM⟩
    exact ⟨[], s, [], bs, rfl, hh, NoCatch.nil, Match.nil, hM, rfl⟩

theorem _root_.Fox.MatchHP.lit {s : List Tok} {b : UInt8} {host path : Bytes} {bs : Binds}
    (h : MatchHP s host path bs) : MatchHP (.lit b :: s) (b :: host) path bs := by
  obtain ⟨hs, pp, bh, bp, rfl, hh, hnc, hMh, hMp, rfl⟩ := h
  exact ⟨.lit b :: hs, pp, bh, bp, rfl, hh, hnc.cons rfl, Match.lit hMh, hMp, rfl⟩

theorem _root_.Fox.MatchHP.param_seg {s : List Tok} {n host path : Bytes} {bs : Binds} (he : ¬ segEnd DOT host = 0)
    (h : MatchHP s (host.drop (segEnd DOT host)) path bs) :
    MatchHP (.param n :: s) host path ((n, host.take (segEnd DOT host)) :: bs) := by
  obtain ⟨hs, pp, bh, bp, rfl, hh, hnc, hMh, hMp, rfl⟩ := h
  exact ⟨.param n :: hs, pp, _ :: bh, bp, rfl, hh, hnc.cons rfl, match_param_seg he hMh, hMp, rfl⟩

/-- … and on a non-empty host it was made by one of the two -/
theorem _root_.Fox.MatchHP.cons_inv {s : List Tok} {b : UInt8} {rest path : Bytes} {bs : Binds}
    (h : MatchHP s (b :: rest) path bs) :
    (∃ s', s = .lit b :: s' ∧ MatchHP s' rest path bs) ∨
    (∃ n s' bs', s = .param n :: s' ∧ ¬ segEnd DOT (b :: rest) = 0 ∧
      bs = (n, (b :: rest).take (segEnd DOT (b :: rest))) :: bs' ∧
      MatchHP s' ((b :: rest).drop (segEnd DOT (b :: rest))) path bs') := by
  obtain ⟨hs, pp, bh, bp, rfl, hh, hnc, hMh, hMp, rfl⟩ := h
  cases hs with
  | nil => exact nomatch hMh.nil_inv.1
  | cons t ts =>
    cases t with
    | lit c =>
      obtain ⟨s0, hx, hM'⟩ := hMh.lit_inv
      obtain ⟨rfl, rfl⟩ := List.cons.inj hx
      exact Or.inl ⟨_, rfl, ts, pp, bh, bp, rfl, hh, hnc.tail, hM', hMp, rfl⟩
    | param n =>
      obtain ⟨he, bs0, rfl, hM'⟩ := hMh.param_seg
      exact Or.inr ⟨n, _, _, rfl, he, rfl, ts, pp, bs0, bp, rfl, hh, hnc.tail, hM', hMp, rfl⟩
    | catchAll n => exact nomatch hnc.head

/-! ### the order on choice traces -/

theorem _root_.Fox.Choice.lt_irrefl (c : Choice) : ¬ c.lt c := by simp [Choice.lt]

theorem traceLe_refl (t : List Choice) : traceLe t t := by
  induction t with
  | nil => trivial
  | cons c t ih => exact Or.inr ⟨rfl, ih⟩

theorem traceLe_cons_cons (c : Choice) (a b : List Choice) : traceLe (c :: a) (c :: b) ↔ traceLe a b := by
  simp [traceLe, Choice.lt_irrefl]

theorem _root_.Fox.Choice.eq_of_rank_len {a b : Choice} (h1 : a.rank = b.rank) (h2 : a.len = b.len) : a = b := by
  cases a <;> cases b <;> simp_all [Choice.rank, Choice.len]

theorem _root_.Fox.Choice.lt_trans {a b c : Choice} (h1 : a.lt b) (h2 : b.lt c) : a.lt c := by
  unfold Choice.lt at *; omega

theorem _root_.Fox.Choice.lt_trichotomy (a b : Choice) : a.lt b ∨ a = b ∨ b.lt a := by
  by_cases h1 : a.rank = b.rank
  · by_cases h2 : a.len = b.len
    · exact Or.inr (Or.inl (Choice.eq_of_rank_len h1 h2))
    · unfold Choice.lt; omega
  · unfold Choice.lt; omega

theorem traceLe_trans {a b c : List Choice} (h1 : traceLe a b) (h2 : traceLe b c) : traceLe a c := by
  induction a generalizing b c with
  | nil => trivial
  | cons x xs ih =>
    cases b with
    | nil => exact absurd h1 id
    | cons y ys =>
      cases c with
      | nil => exact absurd h2 id
      | cons z zs =>
        simp only [traceLe] at *
        rcases h1 with h1 | ⟨rfl, h1⟩
        · rcases h2 with h2 | ⟨rfl, _⟩
          · exact Or.inl (Choice.lt_trans h1 h2)
          · exact Or.inl h1
        · rcases h2 with h2 | ⟨rfl, h2⟩
          · exact Or.inl h2
          · exact Or.inr ⟨rfl, ih h1 h2⟩

theorem traceLe_total (a b : List Choice) : traceLe a b ∨ traceLe b a := by
  induction a generalizing b with
  | nil => exact Or.inl trivial
  | cons x xs ih =>
    cases b with
    | nil => exact Or.inr trivial
    | cons y ys =>
      simp only [traceLe]
      rcases Choice.lt_trichotomy x y with h | rfl | h
      · exact Or.inl (Or.inl h)
      · rcases ih ys with h | h
        · exact Or.inl (Or.inr ⟨rfl, h⟩)
        · exact Or.inr (Or.inr ⟨rfl, h⟩)
      · exact Or.inr (Or.inl h)

theorem traceLe_antisymm {a b : List Choice} (h1 : traceLe a b) (h2 : traceLe b a) : a = b := by
  induction a generalizing b with
  | nil =>
    cases b with
    | nil => rfl
    | cons _ _ => exact absurd h2 id
  | cons x xs ih =>
    cases b with
    | nil => exact absurd h1 id
    | cons y ys =>
      simp only [traceLe] at h1 h2
      rcases h1 with h1 | ⟨rfl, h1⟩
      · rcases h2 with h2 | ⟨rfl, _⟩
        · exact absurd (Choice.lt_trans h1 h2) (Choice.lt_irrefl _)
        · exact absurd h1 (Choice.lt_irrefl _)
      · rcases h2 with h2 | ⟨_, h2⟩
        · exact absurd h2 (Choice.lt_irrefl _)
        · rw [ih h1 h2]

end Fox.Spec
