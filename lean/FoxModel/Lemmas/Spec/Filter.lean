import FoxModel.Lemmas.Spec.Search
import FoxModel.Lemmas.Spec.SetOps
import FoxModel.Lemmas.Spec.MatchRel
/-
  Members of a coherent suffix set that have no match at the path can be filtered out without changing what the search
  reports (`specAll_filter`): every set operation commutes with the filter, and a name that only dead members offered
  contributes nothing.
-/
namespace Fox.Spec
open Fox

theorem filterMap_filter_comm {α β} (f : α → Option β) (q : α → Bool) (q' : β → Bool)
    (h : ∀ x y, f x = some y → q x = q' y) (l : List α) :
    (l.filter q).filterMap f = (l.filterMap f).filter q' := by
  rw [List.filterMap_filter, List.filter_filterMap]
  refine filterMap_congr fun x _ => ?_
  cases hf : f x with
  | none => rw [ite_self]; rfl
  | some y => rw [h x y hf]; rfl

theorem filterMap_filter_of_none {α β} (f : α → Option β) (q : α → Bool) (l : List α)
    (h : ∀ x ∈ l, q x = false → f x = none) : (l.filter q).filterMap f = l.filterMap f := by
  rw [List.filterMap_filter]
  refine filterMap_congr fun x hx => ?_
  cases hq : q x with
  | true => rfl
  | false => exact (h x hx hq).symm

/-- a set operation that strips one leading token `t`, written as a single `filterMap` -/
theorem adv_filter_comm (op : SufSet → SufSet) (F : (List Tok × Route) → Option (List Tok × Route))
    (hop : ∀ S, op S = S.filterMap F) (t : Tok)
    (hmem : ∀ S y, y ∈ op S → (t :: y.1, y.2) ∈ S) (q : List Tok × Route → Bool) (S : SufSet) :
    op (S.filter q) = (op S).filter (fun y => q (t :: y.1, y.2)) := by
  rw [hop, hop]
  apply filterMap_filter_comm
  intro x y hf
  have : y ∈ op [x] := by rw [hop]; simp [hf]
  have := hmem [x] y this
  simp at this
  rw [this]

theorem advLit_filter (b : UInt8) (q : List Tok × Route → Bool) (S : SufSet) :
    advLit b (S.filter q) = (advLit b S).filter (fun y => q (.lit b :: y.1, y.2)) :=
  adv_filter_comm (advLit b) _ (fun _ => rfl) _ (fun _ _ h => mem_advLit.1 h) q S

theorem advParamNamed_filter (n : Bytes) (q : List Tok × Route → Bool) (S : SufSet) :
    advParamNamed n (S.filter q) = (advParamNamed n S).filter (fun y => q (.param n :: y.1, y.2)) :=
  adv_filter_comm (advParamNamed n) _ (fun _ => by unfold advParamNamed advParam; rw [List.filterMap_filterMap])
    _ (fun _ _ h => mem_advParamNamed.1 h) q S

theorem advInfixNamed_filter (n : Bytes) (q : List Tok × Route → Bool) (S : SufSet) :
    advInfixNamed n (S.filter q) = (advInfixNamed n S).filter (fun y => q (.catchAll n :: y.1, y.2)) :=
  adv_filter_comm (advInfixNamed n) _ (fun _ => by unfold advInfixNamed advInfix; rw [List.filterMap_filterMap])
    _ (fun _ _ h => (mem_advInfixNamed.1 h).2) q S

/-- two enumerations over at most one name each agree if they agree name by name and a name missing from the
    second contributes nothing -/
theorem flatMap_names_filter {g g' : Bytes → Res} {l l' : List Bytes} (hl : l = [] ∨ ∃ n, l = [n])
    (hl' : l' = [] ∨ ∃ n, l' = [n]) (hsub : ∀ m ∈ l', m ∈ l) (hg : ∀ m, g m = g' m)
    (hdead : ∀ m, m ∉ l' → g' m = []) : l.flatMap g = l'.flatMap g' := by
  rcases hl with rfl | ⟨n, rfl⟩
  · rcases hl' with rfl | ⟨n', rfl⟩
    · rfl
    · exact absurd (hsub n' (List.mem_cons_self ..)) List.not_mem_nil
  · rcases hl' with rfl | ⟨n', rfl⟩
    · simp only [List.flatMap_cons, List.flatMap_nil, hg, hdead n List.not_mem_nil, List.append_nil]
    · obtain rfl := List.mem_singleton.1 (hsub n' (List.mem_cons_self ..))
      simp only [List.flatMap_cons, List.flatMap_nil, hg]

theorem paramNames_filter_sub {S : SufSet} {q : List Tok × Route → Bool} :
    ∀ m ∈ paramNames (S.filter q), m ∈ paramNames S := by
  intro m hm
  obtain ⟨s', r, h⟩ := mem_paramNames.1 hm
  exact mem_paramNames.2 ⟨s', r, (List.mem_filter.1 h).1⟩

theorem infixNames_filter_sub {S : SufSet} {q : List Tok × Route → Bool} :
    ∀ m ∈ infixNames (S.filter q), m ∈ infixNames S := by
  intro m hm
  obtain ⟨s', r, hne, h⟩ := mem_infixNames.1 hm
  exact mem_infixNames.2 ⟨s', r, hne, (List.mem_filter.1 h).1⟩

theorem advParamNamed_nil_of_not_mem {S : SufSet} {n : Bytes} (h : n ∉ paramNames S) : advParamNamed n S = [] := by
  apply List.eq_nil_iff_forall_not_mem.2
  intro ⟨s', r⟩ hm
  exact h (mem_paramNames.2 ⟨s', r, mem_advParamNamed.1 hm⟩)

theorem advInfixNamed_nil_of_not_mem {S : SufSet} {n : Bytes} (h : n ∉ infixNames S) : advInfixNamed n S = [] := by
  apply List.eq_nil_iff_forall_not_mem.2
  intro ⟨s', r⟩ hm
  obtain ⟨hne, hm⟩ := mem_advInfixNamed.1 hm
  exact h (mem_infixNames.2 ⟨s', r, hne, hm⟩)

/-- members without a match at `path` can be filtered out of a coherent set without changing the enumeration. Coherence is
    needed because removing a member can change the order in which the names are tried. -/
theorem specAll_filter (path : Bytes) : ∀ S ps (q : List Tok × Route → Bool),
    (∀ x ∈ S, q x = false → ¬ ∃ bs, Match SLASH x.1 path bs) → Coherent S →
    specAll S path ps = specAll (S.filter q) path ps := by
  induction path using search_induct SLASH with
  | nil =>
    intro S ps q hq hS
    rw [specAll_nil_path, specAll_nil_path]
    refine (filterMap_filter_of_none _ q S fun ⟨s, r⟩ hx hqx => ?_).symm
    cases s with
    | nil => exact absurd ⟨[], Match.nil⟩ (hq _ hx hqx)
    | cons t ts => exact if_neg (List.cons_ne_nil t ts)
  | cons b rest ih1 ih2 ih3 =>
    intro S ps q hq hS
    rw [specAll_cons S, specAll_cons (S.filter q), infixPart_eq, infixPart_eq]
    unfold paramPart
    refine append_congr (append_congr (append_congr ?_ ?_) ?_) ?_
    · rw [advLit_filter]
      refine ih1 _ _ _ (fun x hx hqx h => ?_) (hS.advLit b)
      exact hq _ (mem_advLit.1 hx) hqx ⟨h.choose, Match.lit h.choose_spec⟩
    · split
      · rfl
      · rename_i he
        refine flatMap_names_filter hS.paramNames (hS.filter q).paramNames paramNames_filter_sub (fun n => ?_)
          fun m hm' => by rw [advParamNamed_nil_of_not_mem hm', specAll_nil]
        rw [advParamNamed_filter]
        refine ih2 he _ _ _ (fun x hx hqx h => ?_) (hS.advParamNamed n)
        exact hq _ (mem_advParamNamed.1 hx) hqx ⟨_, match_param_seg he h.choose_spec⟩
    · refine flatMap_names_filter hS.infixNames (hS.filter q).infixNames infixNames_filter_sub (fun n => ?_)
        fun m hm' => by
          rw [advInfixNamed_nil_of_not_mem hm']
          exact List.flatMap_eq_nil_iff.2 fun _ _ => specAll_nil ..
      rw [advInfixNamed_filter]
      refine flatMap_congr fun c hc => ih3 c hc _ _ _ (fun x hx hqx ⟨bs, hM⟩ => ?_) (hS.advInfixNamed n)
      obtain ⟨hp, hcap, hhd⟩ := mem_caps.1 hc
      obtain ⟨hts, hx⟩ := mem_advInfixNamed.1 hx
      exact hq _ hx hqx ⟨(n, c.1) :: bs, hp ▸ Match.infix hcap hts hhd hM⟩
    · refine (filterMap_filter_of_none _ q S fun ⟨s, r⟩ hx hqx => ?_).symm
      have := hq _ hx hqx
      cases s with
      | nil => rfl
      | cons t ts =>
        cases t with
        | lit _ => rfl
        | param _ => rfl
        | catchAll n =>
          cases ts with
          | nil => exact absurd ⟨_, Match.suffix (List.cons_ne_nil b rest)⟩ this
          | cons _ _ => rfl

end Fox.Spec
