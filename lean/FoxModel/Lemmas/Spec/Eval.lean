import FoxModel.Lemmas.Spec.Search
/-
  Running the search on concrete requests. `specAll` and `specHost` recurse on a measure, which the kernel does not unfold.
  The copies here recurse on a step bound instead (`path.length + 1` steps suffice, resp. `host.length + 1`), so a statement
  about a concrete route set and request is settled by `decide +kernel` after rewriting with `specAll_eq_run` /
  `specHost_eq_run`.
-/
namespace Fox.Spec
open Fox

def specAllRun : Nat → SufSet → Bytes → Binds → Res
  | 0, _, _, _ => []
  | _ + 1, S, [], ps => endsHere S ps
  | k + 1, S, b :: rest, ps =>
    specAllRun k (advLit b S) rest ps
    ++ (if segEnd SLASH (b :: rest) = 0 then [] else
         (paramNames S).flatMap fun n =>
           specAllRun k (advParamNamed n S) ((b :: rest).drop (segEnd SLASH (b :: rest)))
             (ps ++ [(n, (b :: rest).take (segEnd SLASH (b :: rest)))]))
    ++ ((infixNames S).flatMap fun n => (caps (b :: rest)).flatMap fun c =>
         specAllRun k (advInfixNamed n S) c.2 (ps ++ [(n, c.1)]))
    ++ suffixCatch S (b :: rest) ps

def specHostRun : Nat → SufSet → Bytes → Bytes → Binds → Res
  | 0, _, _, _, _ => []
  | _ + 1, S, [], path, ps => specAllRun (path.length + 1) (S.filter headSlash) path ps
  | k + 1, S, b :: rest, path, ps =>
    specHostRun k (advLit b S) rest path ps
    ++ (if segEnd DOT (b :: rest) = 0 then [] else
         (paramNames S).flatMap fun n =>
           specHostRun k (advParamNamed n S) ((b :: rest).drop (segEnd DOT (b :: rest))) path
             (ps ++ [(n, (b :: rest).take (segEnd DOT (b :: rest)))]))

theorem specAll_eq_run_of_lt (path : Bytes) : ∀ S ps k, path.length < k → specAll S path ps = specAllRun k S path ps := by
  induction path using search_induct SLASH with
  | nil =>
    intro S ps k hk
    match k, hk with
    | k + 1, _ => rw [specAll_nil_path, specAllRun]
  | cons b rest ih1 ih2 ih3 =>
    intro S ps k hk
    match k, hk with
    | k + 1, hk =>
      have hk : rest.length < k := Nat.lt_of_succ_lt_succ hk
      rw [specAll_cons, specAllRun, ih1 _ _ k hk, infixPart_eq, paramPart]
      refine append_congr (append_congr (append_congr rfl ?_) ?_) rfl
      · split
        · rfl
        · rename_i he
          exact flatMap_congr fun n _ =>
            ih2 he _ _ k (Nat.lt_of_le_of_lt (Nat.le_of_lt_succ (length_drop_segEnd_lt he)) hk)
      · exact flatMap_congr fun n _ => flatMap_congr fun c hc =>
          ih3 c hc _ _ k (Nat.lt_of_le_of_lt (Nat.le_of_lt_succ (length_lt_of_mem_caps hc)) hk)

theorem specAll_eq_run (S : SufSet) (path : Bytes) (ps : Binds) :
    specAll S path ps = specAllRun (path.length + 1) S path ps :=
  specAll_eq_run_of_lt path S ps _ (Nat.lt_succ_self _)

theorem specHost_eq_run_of_lt (S : SufSet) (host path : Bytes) (ps : Binds) :
    ∀ k, host.length < k → specHost S host path ps = specHostRun k S host path ps := by
  induction S, host, ps using specHost.induct with
  | case1 S ps =>
    intro k hk
    match k, hk with
    | k + 1, _ => unfold specHost specHostRun; exact specAll_eq_run _ _ _
  | case2 S ps b rest ih1 ih2 =>
    intro k hk
    match k, hk with
    | k + 1, hk =>
      have hk : rest.length < k := Nat.lt_of_succ_lt_succ hk
      rw [specHost_cons, specHostRun, ih1 k hk]
      unfold hostParamPart
      by_cases he : segEnd DOT (b :: rest) = 0
      · simp only [if_pos he]
      · have hlt := Nat.lt_of_le_of_lt (Nat.le_of_lt_succ (length_drop_segEnd_lt he)) hk
        simp only [if_neg he, fun n => ih2 he n k hlt]

theorem specHost_eq_run (S : SufSet) (host path : Bytes) (ps : Binds) :
    specHost S host path ps = specHostRun (host.length + 1) S host path ps :=
  specHost_eq_run_of_lt S host path ps _ (Nat.lt_succ_self _)

end Fox.Spec
