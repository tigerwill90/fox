import FoxModel.Lemmas.SpecMeaning
/-
  Staging of `Spec.route`. The path-only stage and the hostname stage are the same function `stage` (direct search, else the
  best slash-adjusted search over the candidates `cand`) of two different searches, and `route` is one after the other
  (`route_eq`, `route_eq_orElse`). What a stage may answer is said once for any notion of "selected match" that the first
  report of a search has (`PathOutcome`, `RouteOutcome`, `route_outcome_of`); a route that is dead for the request and its
  adjusted form can be dropped from a stage (`stage_filter_irrelevant`). This is the vocabulary of the C08 / C09 statements
  of `Props/C01Spec`.
-/
namespace Fox.C01Spec
open Fox Fox.Spec

/-- the hostname routes of a method -/
def hostRoutes (rs : List Route) : List Route := rs.filter isHostRoute
/-- its path-only routes -/
def pathRoutes (rs : List Route) : List Route := rs.filter (fun r => !isHostRoute r)

/-- hostname mode applies: the method has a hostname route and the request host (port and one trailing dot
    removed) is non-empty -/
def HostMode (rs : List Route) (hostPort : Bytes) : Prop := hostRoutes rs ≠ [] ∧ stripHostPort hostPort ≠ []

/-- candidates for a slash-adjusted match: when a slash was *added* to the request path only patterns that end
    in a literal '/' qualify -/
def cand (R : List Route) (added : Bool) : List Route := if added then R.filter endsWithLitSlash else R

theorem mem_cand {R : List Route} {added : Bool} {r : Route} (h : r ∈ cand R added) : r ∈ R := by
  unfold cand at h; split at h
  · exact (List.mem_filter.1 h).1
  · exact h

theorem cand_removed (R : List Route) : cand R false = R := by simp [cand]

theorem cand_append (R1 R2 : List Route) (added : Bool) : cand (R1 ++ R2) added = cand R1 added ++ cand R2 added := by
  unfold cand; split <;> simp

theorem cand_single (r : Route) (added : Bool) :
    cand [r] added = if (added = true → endsWithLitSlash r = true) then [r] else [] := by
  unfold cand
  cases added <;> cases h : endsWithLitSlash r <;> simp [h]

theorem cand_coherent {R : List Route} (h : CoherentRoutes R) (added : Bool) : CoherentRoutes (cand R added) := by
  unfold cand; split
  · exact h.filter _
  · exact h

def NoDirectP (P : List Route) (path : Bytes) : Prop := ∀ r ∈ P, ∀ bs, ¬ Match SLASH r.pattern path bs
def NoDirectH (H : List Route) (h path : Bytes) : Prop := ∀ r ∈ H, ∀ bs, ¬ MatchHP r.pattern h path bs
def NoTsrP (P : List Route) (path : Bytes) : Prop :=
  ∀ p' added, adjust path = some (p', added) → NoDirectP (cand P added) p'
def NoTsrH (H : List Route) (h path : Bytes) : Prop :=
  ∀ p' added, adjust path = some (p', added) → NoDirectH (cand H added) h p'

/-- a (not necessarily best) direct match -/
def HitP (R : List Route) (path : Bytes) (r : Route) (bs : Binds) : Prop := r ∈ R ∧ Match SLASH r.pattern path bs
def HitH (R : List Route) (h path : Bytes) (r : Route) (bs : Binds) : Prop := r ∈ R ∧ MatchHP r.pattern h path bs

/-- What the path-only stage may answer, in terms of a notion `Q` of "selected direct match":
    a direct match; or, only if there is no direct match, a slash-adjusted match; or nothing, only if there is
    neither. -/
def PathOutcome (Q : List Route → Bytes → Route → Binds → Prop) (P : List Route) (path : Bytes) :
    Option Found → Prop
  | some f => (f.tsr = false ∧ Q P path f.route f.params) ∨
      (f.tsr = true ∧ NoDirectP P path ∧
        ∃ p' added, adjust path = some (p', added) ∧ Q (cand P added) p' f.route f.params)
  | none => NoDirectP P path ∧ NoTsrP P path

/-- What `Spec.route` may answer: in hostname mode a direct hostname match; else a slash-adjusted hostname
    match; else (no hostname route matches directly or slash-adjusted) whatever the path-only stage answers.
    Outside hostname mode the path-only stage alone. -/
def RouteOutcome (QH : List Route → Bytes → Bytes → Route → Binds → Prop)
    (QP : List Route → Bytes → Route → Binds → Prop) (rs : List Route) (hostPort path : Bytes)
    (o : Option Found) : Prop :=
  (HostMode rs hostPort →
    (∃ f, o = some f ∧ f.tsr = false ∧ QH (hostRoutes rs) (stripHostPort hostPort) path f.route f.params) ∨
    (NoDirectH (hostRoutes rs) (stripHostPort hostPort) path ∧ ∃ f, o = some f ∧ f.tsr = true ∧
      ∃ p' added, adjust path = some (p', added) ∧
        QH (cand (hostRoutes rs) added) (stripHostPort hostPort) p' f.route f.params) ∨
    (NoDirectH (hostRoutes rs) (stripHostPort hostPort) path ∧ NoTsrH (hostRoutes rs) (stripHostPort hostPort) path ∧
      PathOutcome QP (pathRoutes rs) path o)) ∧
  (¬ HostMode rs hostPort → PathOutcome QP (pathRoutes rs) path o)

theorem specAll_nil_iff {P : List Route} {path : Bytes} : specAll (sufsOf P) path [] = [] ↔ NoDirectP P path :=
  (enumPath path).nil_iff

theorem specHost_nil_iff {H : List Route} {h path : Bytes} :
    specHost (sufsOf H) h path [] = [] ↔ NoDirectH H h path :=
  (enumHost h path).nil_iff

/-- one stage = direct search, else best slash-adjusted search -/
def stage (R : List Route) (path : Bytes) (run : List Route → Bytes → Res) : Option Found :=
  (first (run R path) false).orElse fun _ => bestTsr R path run

theorem stage_cases (R : List Route) (path : Bytes) (run : List Route → Bytes → Res) :
    (∃ r bs tl, run R path = (r, bs) :: tl ∧ stage R path run = some ⟨r, bs, false⟩) ∨
    (run R path = [] ∧ ∃ p' added r bs tl, adjust path = some (p', added) ∧
      run (cand R added) p' = (r, bs) :: tl ∧ stage R path run = some ⟨r, bs, true⟩) ∨
    (run R path = [] ∧ (∀ p' added, adjust path = some (p', added) → run (cand R added) p' = []) ∧
      stage R path run = none) := by
  unfold stage
  rcases h : run R path with _ | ⟨⟨r, bs⟩, tl⟩
  · refine Or.inr ?_
    simp only [first, Option.orElse_none, bestTsr]
    rcases ha : adjust path with _ | ⟨p', added⟩
    · exact Or.inr ⟨trivial, by simp, rfl⟩
    · simp only
      rcases h2 : run (if added = true then R.filter endsWithLitSlash else R) p' with _ | ⟨⟨r, bs⟩, tl⟩
      · refine Or.inr ⟨trivial, ?_, by simp⟩
        intro p'' added' he
        simp at he; obtain ⟨rfl, rfl⟩ := he
        exact h2
      · exact Or.inl ⟨trivial, p', added, r, bs, tl, rfl, h2, by simp⟩
  · exact Or.inl ⟨r, bs, tl, rfl, by simp [first]⟩

theorem pathOnly_eq_stage (P : List Route) (path : Bytes) :
    pathOnly P path = stage P path (fun rs p => specAll (sufsOf rs) p []) := rfl

/-- the path-only stage answers as `PathOutcome` says, for every notion `Q` of selected match that the first report of a
    search over the candidates has (`cand_removed`: `cand P false` is `P`) -/
theorem pathOnly_outcome {Q : List Route → Bytes → Route → Binds → Prop} (P : List Route) (path : Bytes)
    (hQ : ∀ added p r bs tl, specAll (sufsOf (cand P added)) p [] = (r, bs) :: tl → Q (cand P added) p r bs) :
    PathOutcome Q P path (pathOnly P path) := by
  rw [pathOnly_eq_stage]
  rcases stage_cases P path (fun rs p => specAll (sufsOf rs) p []) with
    ⟨r, bs, tl, h1, h2⟩ | ⟨h1, p', added, r, bs, tl, ha, h2, h3⟩ | ⟨h1, h2, h3⟩
  · rw [h2]; exact Or.inl ⟨rfl, hQ false path r bs tl h1⟩
  · rw [h3]; exact Or.inr ⟨rfl, specAll_nil_iff.1 h1, p', added, ha, hQ added p' r bs tl h2⟩
  · rw [h3]; exact ⟨specAll_nil_iff.1 h1, fun p' added ha => specAll_nil_iff.1 (h2 p' added ha)⟩

theorem route_eq (rs : List Route) (hostPort path : Bytes) :
    route rs hostPort path =
      if hostRoutes rs = [] ∨ stripHostPort hostPort = [] then pathOnly (pathRoutes rs) path
      else (stage (hostRoutes rs) path (fun rs p => specHost (sufsOf rs) (stripHostPort hostPort) p [])).orElse
        fun _ => pathOnly (pathRoutes rs) path := rfl

theorem route_hostMode {rs : List Route} {hostPort : Bytes} (hm : HostMode rs hostPort) (path : Bytes) :
    route rs hostPort path =
      (stage (hostRoutes rs) path (fun rs p => specHost (sufsOf rs) (stripHostPort hostPort) p [])).orElse
        fun _ => pathOnly (pathRoutes rs) path := by
  rw [route_eq, if_neg fun h => h.elim hm.1 hm.2]

theorem route_pathMode {rs : List Route} {hostPort : Bytes} (hm : ¬ HostMode rs hostPort) (path : Bytes) :
    route rs hostPort path = pathOnly (pathRoutes rs) path := by
  rw [route_eq, if_pos (Decidable.or_iff_not_not_and_not.2 hm)]

/-- `Spec.route` answers as `RouteOutcome` says, likewise for every pair of notions of selected match -/
theorem route_outcome_of {QH : List Route → Bytes → Bytes → Route → Binds → Prop}
    {QP : List Route → Bytes → Route → Binds → Prop} (rs : List Route) (hostPort path : Bytes)
    (hH : ∀ added p r bs tl, specHost (sufsOf (cand (hostRoutes rs) added)) (stripHostPort hostPort) p [] = (r, bs) :: tl →
      QH (cand (hostRoutes rs) added) (stripHostPort hostPort) p r bs)
    (hP : ∀ added p r bs tl, specAll (sufsOf (cand (pathRoutes rs) added)) p [] = (r, bs) :: tl →
      QP (cand (pathRoutes rs) added) p r bs) :
    RouteOutcome QH QP rs hostPort path (route rs hostPort path) := by
  refine ⟨fun hm => ?_, fun hm => ?_⟩
  · rw [route_hostMode hm]
    rcases stage_cases (hostRoutes rs) path (fun rs p => specHost (sufsOf rs) (stripHostPort hostPort) p []) with
      ⟨r, bs, tl, h1, h2⟩ | ⟨h1, p', added, r, bs, tl, ha, h2, h3⟩ | ⟨h1, h2, h3⟩
    · rw [h2]; exact Or.inl ⟨_, rfl, rfl, hH false path r bs tl h1⟩
    · rw [h3]; exact Or.inr (Or.inl ⟨specHost_nil_iff.1 h1, _, rfl, rfl, p', added, ha, hH added p' r bs tl h2⟩)
    · rw [h3]
      exact Or.inr (Or.inr ⟨specHost_nil_iff.1 h1, fun p' added ha => specHost_nil_iff.1 (h2 p' added ha),
        pathOnly_outcome _ _ hP⟩)
  · rw [route_pathMode hm]; exact pathOnly_outcome _ _ hP

/-! ### dropping a route from a stage -/

theorem stage_nil (path : Bytes) (run : List Route → Bytes → Res) (hrun : ∀ p, run [] p = []) :
    stage [] path run = none := by
  unfold stage bestTsr
  rw [hrun]
  cases adjust path with
  | none => rfl
  | some pa =>
    obtain ⟨p', added⟩ := pa
    cases added <;> simp [hrun, first]

/-- the test for "no hostname route" in `route` is redundant: the hostname stage over no routes finds nothing -/
theorem route_eq_orElse (rs : List Route) (hostPort path : Bytes) :
    route rs hostPort path =
      (if stripHostPort hostPort = [] then none
       else stage (hostRoutes rs) path (fun rs p => specHost (sufsOf rs) (stripHostPort hostPort) p [])).orElse
        fun _ => pathOnly (pathRoutes rs) path := by
  rw [route_eq]
  by_cases h2 : stripHostPort hostPort = []
  · rw [if_pos (Or.inr h2), if_pos h2]; rfl
  · rw [if_neg h2]
    by_cases h1 : hostRoutes rs = []
    · rw [if_pos (Or.inl h1), h1, stage_nil _ _ (fun p => specHost_nil _ _ _)]; rfl
    · rw [if_neg (fun h => h.elim h1 h2)]

/-- a stage over the routes selected by `p`: dropping `r` changes nothing if `r` is not selected, or is dead for the
    request and its adjusted form -/
theorem stage_filter_irrelevant {run : List Route → Bytes → Res} (p : Route → Bool) {R1 R2 : List Route} {r : Route}
    {path : Bytes} (dead : Bytes → Prop)
    (hrun : ∀ A B q, CoherentRoutes (A ++ r :: B) → dead q → run (A ++ r :: B) q = run (A ++ B) q)
    (hc : CoherentRoutes (R1 ++ r :: R2))
    (hd : p r = true → dead path ∧
      ∀ p' added, adjust path = some (p', added) → (added = true → endsWithLitSlash r = true) → dead p') :
    stage ((R1 ++ r :: R2).filter p) path run = stage ((R1 ++ R2).filter p) path run := by
  -- each search of the stage runs over the routes some predicate `p'` selects; there `r` is not selected, or dead
  have key : ∀ (p' : Route → Bool) q, (p' r = true → dead q) →
      run ((R1 ++ r :: R2).filter p') q = run ((R1 ++ R2).filter p') q := by
    intro p' q hq
    have hcf := hc.filter p'
    rw [List.filter_append, List.filter_cons] at hcf ⊢
    rw [List.filter_append]
    by_cases hp : p' r = true
    · rw [if_pos hp] at hcf ⊢
      exact hrun _ _ q hcf (hq hp)
    · rw [if_neg hp]
  unfold stage bestTsr
  rw [key p path fun hp => (hd hp).1]
  congr 1
  funext _
  cases ha : adjust path with
  | none => rfl
  | some pa =>
    obtain ⟨p', added⟩ := pa
    cases added with
    | false => exact congrArg (first · true) (key p p' fun hp => (hd hp).2 p' false ha (fun h => nomatch h))
    | true =>
      simp only [if_true, List.filter_filter]
      refine congrArg (first · true) (key _ p' fun hp => ?_)
      rw [Bool.and_eq_true] at hp
      exact (hd hp.2).2 p' true ha fun _ => hp.1

end Fox.C01Spec
