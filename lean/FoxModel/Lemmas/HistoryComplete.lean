import FoxModel.Lemmas.History
/-
  FoxModel.Lemmas.HistoryComplete — the converse of the checker's soundness on *sequential* histories: a history in which
  no two calls overlap and which the checker accepts is linearizable (by its own log order). Hence, on sequential
  histories, `checkHistory` decides linearizability exactly.
-/
namespace Fox.Spec.History
variable {σ W Q : Type} (S : Sem σ W Q)

/-- no two calls overlap: every call returned before the next one in the log was invoked (and a call does not return
    before it was invoked) -/
def SeqH (h : List (Call W Q)) : Prop :=
  h.Pairwise (fun a b => a.ret < b.call) ∧ ∀ c ∈ h, c.call ≤ c.ret

namespace SeqH

theorem filter {h : List (Call W Q)} (hs : SeqH h) (p : Call W Q → Bool) : SeqH (h.filter p) :=
  ⟨hs.1.sublist List.filter_sublist, fun c hc => hs.2 c (List.mem_filter.1 hc).1⟩

theorem rt {h : List (Call W Q)} (hs : SeqH h) : RT h := by
  refine List.Pairwise.imp_of_mem ?_ hs.1
  intro a b ha hb hab hba
  exact Nat.lt_irrefl _ (Nat.lt_of_le_of_lt (hs.2 a ha) (Nat.lt_trans hab (Nat.lt_of_le_of_lt (hs.2 b hb) hba)))

end SeqH

/-- in a sequential history, a version order of the writes that does not contradict real time is the log order -/
theorem sortedWrites_seq {h : List (Call W Q)} (hs : SeqH h) (hrt : rtOk (sortedWrites h) = true) :
    sortedWrites h = h.filter Call.isW := by
  have hF := hs.filter Call.isW
  refine List.Perm.eq_of_pairwise (le := fun a b : Call W Q => ¬ b.ret < a.call) ?_ (rtOk_iff.1 hrt) hF.rt (sortedWrites_perm h)
  intro a b ha hb hab hba
  rcases pairwise_trichotomy hF.1 ((sortedWrites_perm h).subset ha) hb with h' | h' | h'
  · exact h'
  · exact absurd h' hba
  · exact absurd h' hab

theorem runSeq_of_check_seq {h : List (Call W Q)} (hs : SeqH h) (hc : checkHistory S h = true) :
    (runSeq S (0, S.init) h).isSome = true := by
  rw [checkHistory] at hc
  cases hm : mkSegs S 0 S.init none (sortedWrites h) with
  | none => rw [hm] at hc; cases hc
  | some segs =>
    rw [hm] at hc
    simp only [Bool.and_eq_true, List.all_eq_true] at hc
    obtain ⟨⟨hrt, hreads⟩, _⟩ := hc
    rw [sortedWrites_seq hs hrt] at hm
    refine runSeq_of_segs S h 0 S.init none segs hm fun P c R q e hop => ?_
    -- the window of a read holds no write that had returned before the read was called or was called after it returned
    subst e
    obtain ⟨_, hcR, hPc⟩ := List.pairwise_append.1 hs.1
    have hrd := hreads c (List.mem_append_right _ (List.mem_cons_self ..))
    simp only [readOk, hop, List.any_eq_true, segOk, Bool.and_eq_true, decide_eq_true_eq] at hrd
    obtain ⟨g, hg, ⟨hby, hnext⟩, hres⟩ := hrd
    refine ⟨g, hg, hres, fun w hwP _ hn _ => ?_, fun w hwR _ hb _ => ?_⟩
    · rw [hn] at hnext
      exact absurd (hPc w hwP c (List.mem_cons_self ..)) (Nat.not_lt.2 (of_decide_eq_true hnext))
    · rw [hb] at hby
      exact absurd ((List.pairwise_cons.1 hcR).1 w hwR) (Nat.not_lt.2 (of_decide_eq_true hby))

/-- on histories without overlapping calls acceptance is linearizability, the log order being the linearization -/
theorem linearizable_of_check_seq {h : List (Call W Q)} (hs : SeqH h) (hc : checkHistory S h = true) :
    Linearizable S h :=
  ⟨h, .refl _, hs.rt, runSeq_of_check_seq S hs hc⟩

end Fox.Spec.History
