import FoxModel.Model.KeyScanHost
import FoxModel.Lemmas.KeyScan
/-
  FoxModel.Lemmas.KeyScanHost — the inner loop of `lookupByDomain` is the loop of `Lemmas/KeyScan` with the delimiter '.'
  and no special byte ('*' is ordinary); so its byte offsets are the token split of a key without catch-all
  (`ByteLoop.eq_tok`), and the token loop is the advancing part of `Machine.hostKeyLoop` (`TokLoop.run`).
-/
namespace Fox.Model.KeyScan
open Fox Fox.Model Fox.Model.Machine

theorem scanBH_loop : ByteLoop DOT (fun _ => False) scanBH where
  sp_star := False.elim
  pathEnd hp _ _ _ _ _ _ _ := by
    rw [scanBH]; split
    · rfl
    · rename_i b rest h; rw [hp] at h; cases h
  step hp _ _ _ _ _ _ _ := by
    -- without a special byte the third disjunct of the guard and the catch-all branch go: the body of `scanBH` is left
    simp only [or_false, if_false]
    rw [scanBH]; split
    · rename_i h; rw [hp] at h; cases h
    · rename_i b' rest' h; rw [hp] at h; cases h; rfl

theorem scanTH_loop : TokLoop DOT (fun _ => False) scanTH where
  eq _ _ _ _ _ _ _ := by
    simp only [not_false_eq_true, and_true, if_false]
    exact scanTH.eq_def ..

/-- `pre` only threads through `scanTH`: the hostname loop of the machine does not keep the consumed tokens -/
theorem hostKeyLoop_turns (lz : Bool) (host path : Bytes) (cur : Node) (R : Regs) :
    KeyLoop DOT (fun _ => False) lz host
      (fun _ k cm pc ps => hostKeyLoop lz host path cur k cm pc { R with params := ps }) where
  lit hp _ hc _ _ _ _ := (hostKeyLoop_lit hp ..).trans (if_pos ⟨hc.1, hc.2.1⟩)
  param hp h0 _ _ _ _ _ := (hostKeyLoop_param hp ..).trans (if_neg h0)

/-- hostname keys have no catch-all token. On one the two loops would differ: the byte loop compares the key byte '*' like
    any other (the comparison of `lookupByDomain` has no `== '*'`), the token-level loop stops -/
def noCatchAll (k : List Tok) : Bool := k.all fun t => match t with | .catchAll _ => false | _ => true

theorem noCatchAll_mem {k : List Tok} (h : noCatchAll k = true) (nm : Bytes) : Tok.catchAll nm ∉ k :=
  fun hm => nomatch List.all_eq_true.1 h _ hm

end Fox.Model.KeyScan
