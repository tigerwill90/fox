import FoxModel.Lemmas.MachineHost
import FoxModel.Lemmas.MachineLazy
import FoxModel.Model.MachineServe
/-
  `Machine.serve` (ServeHTTP over the state machines, lazy Allow loops) = `Model.serve` on every well-formed forest.
-/
namespace Fox.Model
open Fox Fox.Model.Machine

theorem machine_allows_eq {rs : Roots} (hw : wfRoots rs = true) (m host path : Bytes) :
    Machine.allows rs m host path = Model.allows rs m host path := by
  unfold Machine.allows Model.allows
  have h1 := machine_lookup_lazy rs m host path
  have h2 := machine_lookup_eq hw m host path
  rw [← h2]
  -- `allows` reads the route and the flag of the result only, and on those the lazy and the recording lookup agree
  generalize Machine.lookup rs m host path true = x at h1 ⊢
  generalize Machine.lookup rs m host path false = y at h1 ⊢
  cases x <;> cases y <;> simp_all [forget]

theorem machine_special_eq {rs : Roots} (hw : wfRoots rs = true) (cfg : Cfg) (m host path : Bytes) :
    Machine.special cfg rs m host path = Model.special cfg rs m host path := by
  unfold Machine.special Model.special Machine.optionsHits Model.optionsHits Machine.noMethodHits Model.noMethodHits
  simp only [machine_allows_eq hw]

/-- **ServeHTTP's decision over the matcher as the Go code runs it = the serving model of C08 / C11**: which handler kind
    answers (route, redirect, OPTIONS, 405, 404), which route and parameters it sees, the redirect code and the Allow list,
    for every configuration, method, Host and path, on every well-formed forest. -/
theorem machine_serve_eq {rs : Roots} (hw : wfRoots rs = true) (cfg : Cfg) (m host path urlPath : Bytes) :
    Machine.serve cfg rs m host path urlPath = Model.serve cfg rs m host path urlPath := by
  unfold Machine.serve Model.serve
  rw [machine_lookup_eq hw]
  cases Model.lookup rs m host path with
  | none => exact machine_special_eq hw cfg m host path
  | bad => rfl
  | found r ps tsr =>
    cases tsr with
    | false => rfl
    | true =>
      unfold Machine.onTsr Model.onTsr
      rw [machine_special_eq hw]

end Fox.Model
