import FoxModel.Lemmas.Tree.Mutations
/-
  FoxModel.Lemmas.Tree.Wf — the representation invariant `wfNode` / `wfRoot` through the three mutations.

  One statement covers method roots and inner nodes (`wfN`); the invariant sees the children of a node only through
  their kinds and their own invariants (`wfN_kids`), so replacing one child by a node of the same kind keeps it
  (`wfN_setKid`). `HostOk` is what `newLeaf` needs to know about the hostname part of the inserted pattern.
-/

namespace Fox.Model
open Fox

-- the two places where the invariant of `Model/WF.lean` says `nodupB`, as `Nodup`
example (cs : List Node) : nodupB (kindsOf cs) = true ↔ (kindsOf cs).Nodup := nodupB_iff _
example (rs : Roots) : nodupB (rs.map (·.1)) = true ↔ (rs.map (·.1)).Nodup := nodupB_iff _

/-! ### the invariant of a node in the role it plays, and replacing one child -/

/-- invariant of a node in the role it plays: method root or inner node -/
def wfN (isRoot : Bool) (n : Node) : Bool := if isRoot then wfRoot n else wfNode n

theorem wfN_iff (b : Bool) (k : List Tok) (r : Option Route) (cs : List Node) : wfN b (.mk k r cs) = true ↔
    (b = true → k = [] ∧ r = none) ∧
    (b = false → k ≠ [] ∧ keyOk k = true ∧ (endsWithCatchAll k = true → r.isSome = true ∧ allSlash cs = true)) ∧
    (kindsOf cs).Nodup ∧ wfKids cs = true := by
  cases b
  · simp only [wfN, Bool.false_eq_true, if_false, wfNode_iff, false_imp_iff, true_and, forall_const]
    exact ⟨fun ⟨a, b, c, d, e⟩ => ⟨⟨a, b, d⟩, c, e⟩, fun ⟨⟨a, b, d⟩, c, e⟩ => ⟨a, b, c, d, e⟩⟩
  · simp only [wfN, if_true, wfRoot_iff, forall_const, Bool.true_eq_false, false_imp_iff, true_and, and_assoc]

theorem wfN_inner {b : Bool} {k : List Tok} {r : Option Route} {cs : List Node} (h : wfN b (.mk k r cs) = true)
    (hk : k ≠ []) : b = false := by
  cases b
  · rfl
  · exact absurd (((wfN_iff ..).mp h).1 rfl).1 hk

theorem wfN_newNode (b : Bool) (k : List Tok) (r : Option Route) (cs : List Node) :
    wfN b (newNode k r cs) = wfN b (.mk k r cs) := by
  rw [Bool.eq_iff_iff, newNode, wfN_iff, wfN_iff, (kindsOf_perm (sortKids_perm cs)).nodup_iff,
    allSlash_perm (sortKids_perm cs), wfKids_perm (sortKids_perm cs)]

theorem wfNode_newNode (k : List Tok) (r : Option Route) (cs : List Node) :
    wfNode (newNode k r cs) = wfNode (.mk k r cs) :=
  wfN_newNode false k r cs

/-- the invariant sees a node's children only through their kinds and their own invariants -/
theorem wfN_kids {b : Bool} {k : List Tok} {r : Option Route} {cs ds : List Node} (h : wfN b (.mk k r cs) = true)
    (hnd : (kindsOf ds).Nodup) (hs : allSlash cs = true → endsWithCatchAll k = true → allSlash ds = true)
    (hw : ∀ d ∈ ds, wfNode d = true) : wfN b (.mk k r ds) = true := by
  obtain ⟨h1, h2, -, -⟩ := (wfN_iff ..).mp h
  exact (wfN_iff ..).mpr ⟨h1, fun hb => ⟨(h2 hb).1, (h2 hb).2.1, fun hc => ⟨((h2 hb).2.2 hc).1, hs ((h2 hb).2.2 hc).2 hc⟩⟩,
    hnd, wfKids_of_forall hw⟩

theorem forall_mem_mid {α} {P : α → Prop} {pre post : List α} {c : α} (c' : α) (h : ∀ x ∈ pre ++ c :: post, P x)
    (hc : P c') : ∀ x ∈ pre ++ c' :: post, P x := by
  simp only [List.forall_mem_append, List.forall_mem_cons] at h ⊢
  exact ⟨h.1, hc, h.2.2⟩

theorem forall_mem_without {α} {P : α → Prop} {pre post : List α} {c : α} (h : ∀ x ∈ pre ++ c :: post, P x) :
    ∀ x ∈ pre ++ post, P x := by
  simp only [List.forall_mem_append, List.forall_mem_cons] at h ⊢
  exact ⟨h.1, h.2.2⟩

theorem kindsOf_mid {c c' : Node} (pre post : List Node) (h : kindOf c'.key = kindOf c.key) :
    kindsOf (pre ++ c' :: post) = kindsOf (pre ++ c :: post) := by
  simp only [kindsOf_eq_map, List.map_append, List.map_cons, h]

theorem wfN_setKid {b : Bool} {k : List Tok} {r : Option Route} {pre post : List Node} {c c' : Node}
    (h : wfN b (.mk k r (pre ++ c :: post)) = true) (hc : wfNode c' = true) (hk : kindOf c'.key = kindOf c.key) :
    wfN b (.mk k r (pre ++ c' :: post)) = true := by
  have hkinds := kindsOf_mid pre post hk
  obtain ⟨-, -, hnd, hkids⟩ := (wfN_iff ..).mp h
  exact wfN_kids h (hkinds ▸ hnd) (fun hs _ => allSlash_congr hkinds ▸ hs) (forall_mem_mid c' (fun x => wfKids_mem hkids) hc)

/-! ### the new leaf -/

/-- what `newLeaf` needs to know about the position of the inserted suffix relative to the hostname part, for the
    leaf to satisfy `wfNode`: if the hostname part is not consumed yet it ends strictly inside `toks` (both halves of
    the split are non-empty keys) and not with a catch-all. (Not to be confused with `hostOkNode` of `Model/WF.lean`,
    the hostname shape of a tree; the companion for the shape invariant is `HostPos`.) -/
def HostOk (r : Route) (consumed : Nat) (toks : List Tok) : Prop :=
  consumed < r.hostToks →
    r.hostToks - consumed < toks.length ∧ endsWithCatchAll (toks.take (r.hostToks - consumed)) = false

theorem HostOk_advance {r : Route} {c : Nat} (p ta : List Tok) (h : HostOk r c (p ++ ta)) :
    HostOk r (c + p.length) ta := by
  intro hlt
  obtain ⟨h1, h2⟩ := h (Nat.lt_of_le_of_lt (Nat.le_add_right _ _) hlt)
  have e2 : r.hostToks - c - p.length = r.hostToks - (c + p.length) := Nat.sub_sub _ _ _
  have hp : p.length ≤ r.hostToks - c := Nat.le_of_lt (by rw [Nat.lt_sub_iff_add_lt, Nat.add_comm]; exact hlt)
  rw [List.length_append] at h1
  have h3 : r.hostToks - (c + p.length) < ta.length := e2 ▸ Nat.sub_lt_left_of_lt_add hp h1
  refine ⟨h3, ?_⟩
  rw [List.take_append, List.take_of_length_le hp, e2] at h2
  rwa [endsWithCatchAll_append] at h2
  intro hnil
  have := congrArg List.length hnil
  rw [List.length_take, List.length_nil, Nat.min_eq_left (Nat.le_of_lt h3)] at this
  exact absurd this (Nat.ne_of_gt (Nat.sub_pos_of_lt hlt))

theorem wfNode_leaf {k : List Tok} (r : Route) (h1 : k ≠ []) (h2 : keyOk k = true) :
    wfNode (newNode k (some r) []) = true :=
  (wfNode_iff ..).mpr ⟨h1, h2, List.nodup_nil, fun _ => ⟨rfl, rfl⟩, rfl⟩

theorem wf_newLeaf (r : Route) (c : Nat) (suf : List Tok) (h1 : suf ≠ []) (h2 : keyOk suf = true)
    (hpos : HostOk r c suf) :
    wfNode (newLeaf r c suf).1 = true ∧ kindOf (newLeaf r c suf).1.key = kindOf suf := by
  unfold newLeaf
  split
  · rename_i hc
    obtain ⟨hlen, hcatch⟩ := hpos hc.2
    have hsplit := List.take_append_drop (r.hostToks - c) suf
    rw [← hsplit] at h2
    have htake : suf.take (r.hostToks - c) ≠ [] := fun e =>
      (List.take_eq_nil_iff.mp e).elim (fun e0 => by omega) h1
    have hdrop : suf.drop (r.hostToks - c) ≠ [] := fun e => by
      have := List.drop_eq_nil_iff.mp e
      omega
    refine ⟨?_, ?_⟩
    · rw [wfNode_newNode]
      exact (wfNode_iff ..).mpr ⟨htake, keyOk_append_left _ _ h2, by simp [kindsOf_eq_map],
        fun hh => (by rw [hcatch] at hh; cases hh),
        wfKids_of_forall (List.forall_mem_singleton.mpr (wfNode_leaf r hdrop (keyOk_append_right _ _ h2)))⟩
    · show kindOf (suf.take (r.hostToks - c)) = kindOf suf
      conv => rhs; rw [← hsplit]
      exact (kindOf_append _ htake).symm
  · exact ⟨wfNode_leaf r h1 h2, rfl⟩

/-! ### `insertNode` preserves the invariant -/

theorem wf_insertNode {r : Route} {b : Bool} {consumed : Nat} {n n' : Node} {toks : List Tok}
    (h : Ins r b consumed n toks n') (hwf : wfN b n = true) (hne : toks ≠ []) (hok : keyOk toks = true)
    (hkind : b = false → kindOf n.key = kindOf toks) (hpos : HostOk r consumed toks) : wfN b n' = true := by
  -- the tactic in parentheses opens every case: in each of them the node is a `Node.mk`
  induction h with (obtain ⟨hroot, hown, hnd, hkids⟩ := (wfN_iff ..).mp hwf)
  | exact =>
    obtain rfl := wfN_inner hwf hne
    obtain ⟨h1, h2, h3⟩ := hown rfl
    exact (wfNode_iff ..).mpr ⟨h1, h2, hnd, fun hc => ⟨rfl, (h3 hc).2⟩, hkids⟩
  | @keyEnd b consumed toks a as route cs =>
    obtain rfl := wfN_inner hwf (by simp)
    obtain ⟨-, h2, h3⟩ := hown rfl
    simp only [wfN, Bool.false_eq_true, if_false, wfNode_newNode, wfNode_iff]
    refine ⟨hne, hok, by simp [kindsOf], fun hc => ⟨rfl, ?_⟩, ?_⟩
    · simp only [allSlash, Bool.and_true]
      exact keyOk_catch_slash toks (a :: as) h2 hc (by simp)
    · simp only [wfKids, Bool.and_true, wfNode_iff]
      exact ⟨by simp, keyOk_append_right toks _ h2, hnd,
        fun hc => h3 (by rw [endsWithCatchAll_append toks (by simp)]; exact hc), hkids⟩
  | @descend b consumed key route pre c post t ts c' hp hc ih =>
    have hok' : keyOk (t :: ts) = true := keyOk_append_right key _ hok
    have hck := (pick_kind hkids hnd (by simp) hok' hp).1
    have hw' := ih (wfKids_mem hkids (by simp)) (by simp) hok' (fun _ => hck) (HostOk_advance key _ hpos)
    exact wfN_setKid hwf hw' (hc.key_kind (by simp) fun _ => hck)
  | @addLeaf b consumed key route cs t ts hp =>
    have hok' : keyOk (t :: ts) = true := keyOk_append_right key _ hok
    have hnot := pick_none_kind hkids (by simp) hok' hp
    obtain ⟨hlw, hlk⟩ := wf_newLeaf r (consumed + key.length) (t :: ts) (by simp) hok' (HostOk_advance key _ hpos)
    rw [wfN_newNode]
    refine wfN_kids hwf ?_ (fun hs hc => ?_) ?_
    · rw [kindsOf_eq_map] at hnd ⊢
      rw [List.map_append, List.nodup_append]
      refine ⟨hnd, by simp, fun x hx y hy => ?_⟩
      obtain ⟨c, hc, rfl⟩ := List.mem_map.mp hx
      obtain rfl := List.mem_singleton.mp hy
      exact fun e => hnot c hc (e.trans hlk)
    · rw [allSlash_append, hs, Bool.true_and, allSlash_iff_kinds, kindsOf_eq_map]
      simp only [List.map_cons, List.map_nil, List.forall_mem_singleton]
      rw [hlk, ← startsWithSlash_iff_kind]
      exact keyOk_catch_slash key (t :: ts) hok hc (by simp)
    · simp only [List.forall_mem_append, List.forall_mem_singleton]
      exact ⟨fun x => wfKids_mem hkids, hlw⟩
  | @split consumed p a as b bs route cs hab hw =>
    obtain ⟨-, h2, h3⟩ := hown rfl
    have hpne : p ≠ [] := fun hp => by subst hp; exact kind_ne_of_ne as bs hab hw (hkind rfl)
    obtain ⟨hlw, hlk⟩ := wf_newLeaf r (consumed + p.length) (b :: bs) (by simp) (keyOk_append_right p _ hok)
      (HostOk_advance p _ hpos)
    simp only [wfN, Bool.false_eq_true, if_false, wfNode_newNode, wfNode_iff]
    refine ⟨hpne, keyOk_append_left p _ hok, ?_, fun hc => ?_, ?_⟩
    · rw [kindsOf_eq_map]
      simp only [List.map_cons, List.map_nil, Node.key_mk, List.nodup_cons, List.mem_singleton,
        List.not_mem_nil, not_false_eq_true, List.nodup_nil, and_true]
      rw [hlk]; exact fun e => kind_ne_of_ne as bs hab hw e.symm
    · have h1 := keyOk_catch_slash p (a :: as) h2 hc (by simp)
      have h2 := keyOk_catch_slash p (b :: bs) hok hc (by simp)
      rw [startsWithSlash_cons_iff] at h1 h2
      exact absurd (h1.trans h2.symm) hab
    · simp only [wfKids, Bool.and_true, Bool.and_eq_true, wfNode_iff]
      exact ⟨hlw, by simp, keyOk_append_right p _ h2, hnd,
        fun hc => h3 (by rw [endsWithCatchAll_append p (by simp)]; exact hc), hkids⟩

/-! ### `updateNode`, `removeNode` preserve the invariant -/

theorem wf_updateNode {r : Route} {n n' : Node} {toks : List Tok} (h : Upd r n toks n') {b : Bool}
    (hwf : wfN b n = true) : wfN b n' = true := by
  induction h generalizing b with
  | here =>
    obtain ⟨hroot, hown, hnd, hkids⟩ := (wfN_iff ..).mp hwf
    exact (wfN_iff ..).mpr ⟨fun hb => (nomatch (hroot hb).2),
      fun hb => ⟨(hown hb).1, (hown hb).2.1, fun hc => ⟨rfl, ((hown hb).2.2 hc).2⟩⟩, hnd, hkids⟩
  | descend hc ih =>
    have hkids := ((wfN_iff ..).mp hwf).2.2.2
    exact wfN_setKid hwf (ih (b := false) (wfKids_mem hkids (by simp))) (congrArg kindOf hc.key)

theorem allSlash_nodup_le_one {cs : List Node} (h1 : allSlash cs = true) (h2 : (kindsOf cs).Nodup) :
    cs.length ≤ 1 := by
  rw [allSlash_iff_kinds] at h1
  rcases cs with _ | ⟨c, _ | ⟨c2, cs⟩⟩
  · simp
  · simp
  · exfalso
    simp only [kindsOf_eq_map, List.map_cons, List.mem_cons, forall_eq_or_imp, List.nodup_cons, not_or] at h1 h2
    exact h2.1.1 (h1.1.trans h1.2.1.symm)

theorem wf_merge {key : List Tok} {e : Node} (hkne : key ≠ []) (hkok : keyOk key = true)
    (hcatch : endsWithCatchAll key = true → startsWithSlash e.key = true) (he : wfNode e = true) :
    wfNode (.mk (key ++ e.key) e.route e.children) = true := by
  obtain ⟨k, ro, ks⟩ := e
  rw [wfNode_iff] at he
  simp only [Node.key_mk, Node.route_mk, Node.children_mk] at hcatch ⊢
  rw [wfNode_iff]
  refine ⟨by simp [hkne], keyOk_append _ _ hkok he.2.1 (fun h _ => hcatch h), he.2.2.1, ?_, he.2.2.2.2⟩
  rw [endsWithCatchAll_append _ he.1]; exact he.2.2.2.1

theorem wf_removeNode {b : Bool} {n : Node} {toks : List Tok} {r : Route} {res : Rem} (h : Rmv b n toks r res)
    (hwf : wfN b n = true) :
    ∀ n', res = .replaced n' → wfN b n' = true ∧ (b = false → kindOf n'.key = kindOf n.key) := by
  induction h with (obtain ⟨hroot, hown, hnd, hkids⟩ := (wfN_iff ..).mp hwf; intro n' hres)
  | @here b key r cs =>
    -- the node's own route: a root has none
    obtain rfl : b = false := by
      cases b
      · rfl
      · exact nomatch (hroot rfl).2
    obtain ⟨a, b, d⟩ := hown rfl
    rcases cs with _ | ⟨c, _ | ⟨c2, cs⟩⟩ <;> cases hres
    · exact ⟨wf_merge a b (fun hc => by simpa [allSlash_eq_all] using (d hc).2) (wfKids_mem hkids (by simp)),
        fun _ => kindOf_append _ a⟩
    · refine ⟨(wfNode_iff ..).mpr ⟨a, b, hnd, fun hc => ?_, hkids⟩, fun _ => rfl⟩
      have := allSlash_nodup_le_one (d hc).2 hnd
      simp at this
  | @under b key route pre c post t ts r resc res hc hup ih =>
    have hcw : wfNode c = true := wfKids_mem hkids (by simp)
    have hkw : ∀ x ∈ pre ++ post, wfNode x = true := forall_mem_without fun x => wfKids_mem hkids
    rcases hup with ⟨c'⟩ | ⟨hed, rfl, rfl⟩ | ⟨e, hed, rfl, rfl, hor⟩ | ⟨hor⟩ <;> cases hres
    · obtain ⟨hw', hk'⟩ := ih hcw c' rfl
      exact ⟨wfN_setKid hwf hw' (hk' rfl), fun _ => rfl⟩
    · -- the node is merged into its only remaining child
      obtain ⟨a, b, d⟩ := hown rfl
      have he : wfNode e = true := hkw e (by rw [hed]; simp)
      exact ⟨wf_merge a b (fun hc => nomatch (d hc).1) he, fun _ => kindOf_append _ a⟩
    · -- the node is rebuilt over the remaining children
      have hsubl : (kindsOf (pre ++ post)).Sublist (kindsOf (pre ++ c :: post)) := by
        simp only [kindsOf_eq_map]
        exact (List.Sublist.append_left (List.sublist_cons_self c post) pre).map _
      refine ⟨?_, fun _ => rfl⟩
      rw [wfN_newNode]
      refine wfN_kids hwf (hnd.sublist hsubl) (fun hs _ => ?_) hkw
      rw [allSlash_iff_kinds] at hs ⊢
      exact fun k hk => hs k (hsubl.subset hk)

end Fox.Model
