import FoxModel.Lemmas.Tree.Mutations
/-
  FoxModel.Lemmas.Tree.Roots — the list of method roots of a tree.

  Roots and specification store are both lists of (method, value) pairs; what filtering, mapping and appending do
  to them is said once, for the values filed under one method (`fiber`). A property `P` of every method root
  (`RootsOk P`) passes through `Tree.insert / update / remove / truncate` given that the node-level mutation keeps it
  at a root (`RootsOk.insert` …): every invariant of reachable trees is carried through the operations that way.
-/

namespace Fox.C02
open Fox Fox.Model Fox.Spec

/-! ### lists of (method, value) pairs

The method roots of a tree and the store are both such lists; what the operations do to them is said once, for the
values filed under one method. -/

/-- the values filed under `m`, in order -/
def fiber {α} (l : List (Bytes × α)) (m : Bytes) : List α := (l.filter fun e => e.1 == m).map (·.2)

theorem mem_fiber {α} {l : List (Bytes × α)} {m : Bytes} {a : α} : a ∈ fiber l m ↔ (m, a) ∈ l := by
  simp only [fiber, List.mem_map, List.mem_filter, beq_iff_eq]
  constructor
  · rintro ⟨⟨m', a'⟩, ⟨h, rfl⟩, rfl⟩; exact h
  · intro h; exact ⟨(m, a), ⟨h, rfl⟩, rfl⟩

theorem fiber_append {α} (l l' : List (Bytes × α)) (m : Bytes) : fiber (l ++ l') m = fiber l m ++ fiber l' m := by
  simp only [fiber, List.filter_append, List.map_append]

theorem fiber_cons {α} (x : Bytes × α) (l : List (Bytes × α)) (m : Bytes) :
    fiber (x :: l) m = if x.1 == m then x.2 :: fiber l m else fiber l m := by
  rw [fiber, List.filter_cons]
  split <;> rfl

theorem fiber_const {α} (m' : Bytes) (l : List α) (m : Bytes) :
    fiber (l.map fun a => (m', a)) m = if m' == m then l else [] := by
  induction l with
  | nil => cases m' == m <;> rfl
  | cons a l ih =>
    rw [List.map_cons, fiber_cons, ih]
    dsimp only
    cases m' == m <;> rfl

theorem fiber_map {α β} {f : Bytes × α → Bytes × β} (g : Bytes → α → β) (hf : ∀ e, f e = (e.1, g e.1 e.2))
    (l : List (Bytes × α)) (m : Bytes) : fiber (l.map f) m = (fiber l m).map (g m) := by
  have hkey : ((fun e : Bytes × β => e.1 == m) ∘ f) = fun e => e.1 == m := by
    funext e; simp only [Function.comp, hf]
  simp only [fiber, List.filter_map, List.map_map, hkey]
  apply List.map_congr_left
  intro e he
  simp only [Function.comp, hf, eq_of_beq (List.mem_filter.mp he).2]

theorem fiber_filter {α} (p : Bytes → α → Bool) (l : List (Bytes × α)) (m : Bytes) :
    fiber (l.filter fun e => p e.1 e.2) m = (fiber l m).filter (p m) := by
  simp only [fiber, List.filter_map, List.filter_filter]
  congr 1
  apply List.filter_congr
  intro e _
  cases h : e.1 == m
  · simp only [Bool.false_and, Bool.and_false]
  · simp only [Function.comp, eq_of_beq h, Bool.true_and, Bool.and_true]

theorem fiber_filter_key {α} (q : Bytes → Bool) (l : List (Bytes × α)) (m : Bytes) :
    fiber (l.filter fun e => q e.1) m = if q m then fiber l m else [] := by
  rw [fiber_filter fun m' _ => q m']
  cases q m
  · exact List.filter_eq_nil_iff.mpr fun _ _ => Bool.false_ne_true
  · exact List.filter_eq_self.mpr fun _ _ => rfl

theorem fiber_drop_same {α} (l : List (Bytes × α)) (m : Bytes) : fiber (l.filter fun e => e.1 != m) m = [] := by
  rw [fiber_filter_key (· != m), bne_self_eq_false]; rfl

theorem fiber_drop_other {α} (l : List (Bytes × α)) {m m' : Bytes} (h : m' ≠ m) :
    fiber (l.filter fun e => e.1 != m) m' = fiber l m' := by
  rw [fiber_filter_key (· != m), bne_iff_ne.mpr h]; rfl

theorem fiber_sublist {α} (l : List (Bytes × α)) (m : Bytes) : ((fiber l m).map fun a => (m, a)).Sublist l := by
  have : ((l.filter fun e => e.1 == m).map (·.2)).map (fun a => (m, a)) = l.filter fun e => e.1 == m := by
    rw [List.map_map]
    exact (List.map_congr_left fun e he =>
      congrArg (·, e.2) (eq_of_beq (List.mem_filter.mp he).2).symm).trans (List.map_id _)
  exact this ▸ List.filter_sublist

/-! ### method roots -/

theorem methodRoot_eq (rs : Roots) (m : Bytes) : methodRoot rs m = (fiber rs m).head? := by
  simp only [methodRoot, fiber, List.head?_map, List.head?_filter]

theorem methodRoot_some {rs : Roots} {m : Bytes} {n : Node} (h : methodRoot rs m = some n) : (m, n) ∈ rs := by
  rw [methodRoot_eq] at h
  exact mem_fiber.mp (List.mem_of_mem_head? h)

theorem methodRoot_none {rs : Roots} {m : Bytes} (h : methodRoot rs m = none) : ∀ x ∈ rs, x.1 ≠ m := by
  rw [methodRoot_eq, List.head?_eq_none_iff] at h
  rintro ⟨m', n⟩ hx rfl
  have := mem_fiber.mpr hx
  rw [h] at this; cases this

theorem fiber_roots (m : Bytes) : ∀ rs : Roots, (rs.map (·.1)).Nodup → fiber rs m = (methodRoot rs m).toList
  | [], _ => rfl
  | x :: xs, hnd => by
    rw [List.map_cons, List.nodup_cons] at hnd
    rw [methodRoot_eq, fiber_cons]
    split
    · rename_i hx
      have : fiber xs m = [] := List.eq_nil_iff_forall_not_mem.mpr fun n hn =>
        hnd.1 (eq_of_beq hx ▸ List.mem_map_of_mem (f := (·.1)) (mem_fiber.mp hn))
      rw [this]; rfl
    · rw [← methodRoot_eq]; exact fiber_roots m xs hnd.2

theorem methodRoot_of_mem {rs : Roots} {m : Bytes} {n : Node} (hnd : (rs.map (·.1)).Nodup) (h : (m, n) ∈ rs) :
    methodRoot rs m = some n :=
  Option.mem_toList.mp (fiber_roots m rs hnd ▸ mem_fiber.mpr h)

theorem methodRoot_setRoot (rs : Roots) (m m' : Bytes) (n' : Node) :
    methodRoot (setRoot rs m n') m' = (methodRoot rs m').map fun n => if m' == m then n' else n := by
  rw [methodRoot_eq, methodRoot_eq, setRoot, fiber_map (fun m' n => if m' == m then n' else n), List.head?_map]
  intro x
  cases h : x.1 == m
  · rfl
  · rw [eq_of_beq h]; rfl

theorem methodRoot_setRoot_same {rs : Roots} {m : Bytes} {n n' : Node} (h : methodRoot rs m = some n) :
    methodRoot (setRoot rs m n') m = some n' := by
  rw [methodRoot_setRoot, h, beq_self_eq_true]; rfl

theorem methodRoot_setRoot_other {rs : Roots} {m m' : Bytes} {n' : Node} (h : m' ≠ m) :
    methodRoot (setRoot rs m n') m' = methodRoot rs m' := by
  rw [methodRoot_setRoot, beq_false_of_ne h]; exact Option.map_id'

theorem setRoot_names (rs : Roots) (m : Bytes) (n' : Node) : (setRoot rs m n').map (·.1) = rs.map (·.1) := by
  rw [setRoot, List.map_map]
  apply List.map_congr_left
  intro x _
  simp only [Function.comp]
  split
  · rename_i h; exact (eq_of_beq h).symm
  · rfl

theorem mem_setRoot {rs : Roots} {m : Bytes} {n' : Node} {x : Bytes × Node} (h : x ∈ setRoot rs m n') :
    x ∈ rs ∨ x = (m, n') := by
  simp only [setRoot, List.mem_map] at h
  obtain ⟨y, hy, rfl⟩ := h
  split
  · exact Or.inr rfl
  · exact Or.inl hy

theorem methodRoot_filter_same (rs : Roots) (m : Bytes) : methodRoot (rs.filter fun x => x.1 != m) m = none := by
  rw [methodRoot_eq, fiber_drop_same]; rfl

theorem methodRoot_filter_other (rs : Roots) {m m' : Bytes} (h : m' ≠ m) :
    methodRoot (rs.filter fun x => x.1 != m) m' = methodRoot rs m' := by
  rw [methodRoot_eq, fiber_drop_other _ h, methodRoot_eq]

theorem methodRoot_append_same {rs : Roots} {m : Bytes} (n : Node) (h : methodRoot rs m = none) :
    methodRoot (rs ++ [(m, n)]) m = some n := by
  rw [methodRoot_eq] at h ⊢
  rw [fiber_append, List.head?_append, h]
  simp [fiber]

theorem methodRoot_append_other (rs : Roots) {m m' : Bytes} (n : Node) (h : m' ≠ m) :
    methodRoot (rs ++ [(m, n)]) m' = methodRoot rs m' := by
  rw [methodRoot_eq, methodRoot_eq, fiber_append]
  simp [fiber, beq_false_of_ne (Ne.symm h)]

theorem ite_of {α} {Q : α → Prop} {c : Prop} [Decidable c] {a b : α} (ha : Q a) (hb : Q b) :
    Q (if c then a else b) := by
  split <;> assumption

/-- every method root satisfies `P`, and no method has two roots -/
def RootsOk (P : Node → Prop) (rs : Roots) : Prop := (∀ x ∈ rs, P x.2) ∧ (rs.map (·.1)).Nodup

theorem wfRoots_iff (rs : Roots) : wfRoots rs = true ↔ (∀ x ∈ rs, wfRoot x.2 = true) ∧ (rs.map (·.1)).Nodup := by
  simp only [Model.wfRoots, Bool.and_eq_true, List.all_eq_true, nodupB_iff]

theorem RootsOk.setRoot {P : Node → Prop} {rs : Roots} (h : RootsOk P rs) (m : Bytes) {n : Node} (hn : P n) :
    RootsOk P (setRoot rs m n) :=
  ⟨fun x hx => (mem_setRoot hx).elim (h.1 x) fun e => e ▸ hn, setRoot_names rs m n ▸ h.2⟩

theorem RootsOk.filter {P : Node → Prop} {rs : Roots} (h : RootsOk P rs) (p : Bytes × Node → Bool) :
    RootsOk P (rs.filter p) :=
  ⟨fun x hx => h.1 x (List.mem_filter.mp hx).1, h.2.sublist (List.Sublist.map _ List.filter_sublist)⟩

theorem RootsOk.root {P : Node → Prop} {rs : Roots} (h : RootsOk P rs) {m : Bytes} {root : Node}
    (hm : methodRoot rs m = some root) : P root := h.1 _ (methodRoot_some hm)

theorem RootsOk.append {P : Node → Prop} {rs : Roots} (h : RootsOk P rs) {m : Bytes} (hm : methodRoot rs m = none)
    (he : P emptyNode) : RootsOk P (rs ++ [(m, emptyNode)]) := by
  refine ⟨?_, ?_⟩
  · simp only [List.forall_mem_append, List.forall_mem_singleton]
    exact ⟨h.1, he⟩
  · rw [List.map_append, List.nodup_append]
    refine ⟨h.2, by simp, fun a ha b hb => ?_⟩
    obtain ⟨x, hx, rfl⟩ := List.mem_map.mp ha
    obtain rfl := List.mem_singleton.mp hb
    exact methodRoot_none hm x hx

/-! ### an invariant of every method root, through the four operations -/

theorem insert_of_no_root {t : Tree} {m : Bytes} (r : Route) (hm : methodRoot t.roots m = none) :
    t.insert m r = Tree.insert { t with roots := t.roots ++ [(m, emptyNode)] } m r := by
  unfold Tree.insert
  simp only [hm, methodRoot_append_same _ hm]

theorem RootsOk.insert {P : Node → Prop} {t t' : Tree} {m : Bytes} {r : Route} {c : InsCase} (h : RootsOk P t.roots)
    (he : P emptyNode) (hstep : ∀ root n', P root → Ins r true 0 root r.pattern n' → P n')
    (hi : t.insert m r = .ok (t', c)) : RootsOk P t'.roots := by
  have key : ∀ (t : Tree) root, RootsOk P t.roots → methodRoot t.roots m = some root →
      t.insert m r = .ok (t', c) → RootsOk P t'.roots := by
    intro t root h hm hi
    unfold Tree.insert at hi
    simp only [hm] at hi
    cases hn : insertNode root true 0 0 r.pattern r with
    | error e => rw [hn] at hi; cases hi
    | ok res => rw [hn] at hi; cases hi; exact h.setRoot m (hstep root _ (h.root hm) (Ins.of_ok hn))
  cases hm : methodRoot t.roots m with
  | some root => exact key t root h hm hi
  | none =>
    rw [insert_of_no_root r hm] at hi
    exact key _ _ (h.append hm he) (methodRoot_append_same _ hm) hi

theorem RootsOk.update {P : Node → Prop} {t t' : Tree} {m : Bytes} {r : Route} (h : RootsOk P t.roots)
    (hstep : ∀ root root', P root → Upd r root r.pattern root' → P root')
    (hu : t.update m r = some t') : RootsOk P t'.roots := by
  unfold Tree.update at hu
  cases hm : methodRoot t.roots m with
  | none => rw [hm] at hu; cases hu
  | some root =>
    rw [hm] at hu
    cases hn : updateNode root r.pattern r with
    | none => simp only [hn] at hu; cases hu
    | some root' => simp only [hn] at hu; cases hu; exact h.setRoot m (hstep root root' (h.root hm) (Upd.of_some root hn))

theorem RootsOk.remove {P : Node → Prop} {t t' : Tree} {m : Bytes} {toks : List Tok} {old : Route} {c : RemCase}
    (h : RootsOk P t.roots)
    (hstep : ∀ root n, P root → Rmv true root toks old (.replaced n) → P n)
    (hr : t.remove m toks = some (t', old, c)) : RootsOk P t'.roots := by
  unfold Tree.remove at hr
  cases hm : methodRoot t.roots m with
  | none => rw [hm] at hr; cases hr
  | some root =>
    rw [hm] at hr
    cases hn : removeNode root true toks with
    | none => simp only [hn] at hr; cases hr
    | some y =>
      obtain ⟨res, old', cse⟩ := y
      simp only [hn] at hr
      cases hr
      refine ite_of (Q := RootsOk P) (h.filter _) (h.setRoot m ?_)
      cases res with
      | replaced n => exact hstep root n (h.root hm) (Rmv.of_some root hn)
      | vanished => exact h.root hm
      | vanishedHost => exact h.root hm

theorem RootsOk.truncate {P : Node → Prop} {t : Tree} (h : RootsOk P t.roots) (he : P emptyNode) (ms : List Bytes) :
    RootsOk P (t.truncate ms).roots := by
  unfold Tree.truncate
  split
  · refine ⟨?_, (by decide : (newRoots.map (·.1)).Nodup)⟩
    simp only [newRoots, List.forall_mem_map]
    exact fun _ _ => he
  · have : ∀ (ms : List Bytes) (st : Roots × Nat), RootsOk P st.1 → RootsOk P (ms.foldl truncateOne st).1 := by
      intro ms
      induction ms with
      | nil => exact fun _ h => h
      | cons m ms ih =>
        intro st hst
        refine ih _ ?_
        unfold truncateOne
        cases hm : methodRoot st.1 m with
        | none => exact hst
        | some root =>
          exact ite_of (Q := fun st : Roots × Nat => RootsOk P st.1) (hst.filter _) (hst.setRoot m he)
    exact this ms (t.roots, t.size) h

end Fox.C02
