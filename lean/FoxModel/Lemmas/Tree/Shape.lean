import FoxModel.Lemmas.Tree.Wf
/-
  FoxModel.Lemmas.Tree.Shape — the shape invariant through the three mutations: below a method root there is a
  hostname region (keys without '/', no routes, every node branches or has the path part as its only child) and,
  from the first '/' on, a path region in which every node carries a route or branches (`shapeNode`, `pathNode`).

  So there are no dead branches: the hostname invariant of `Model/WF.lean` follows (`hostOk_of_shape`), every subtree
  holds a route (`routes_ne_nil_of_shape`) and a reported conflict names at least one (`conflict_ne_nil`). `HostPos`
  is what the insertion needs to know about where the hostname part of the pattern ends.
-/

namespace Fox.Model
open Fox

/-! ### the shape invariant: hostname region, path region, no dead branches -/

mutual
/-- path region: every node carries a route or branches -/
def pathNode : Node → Bool
  | .mk _ r cs => (r.isSome || decide (2 ≤ cs.length)) && pathKids cs
def pathKids : List Node → Bool
  | [] => true
  | c :: cs => pathNode c && pathKids cs
end

mutual
/-- a node reached from a method root through keys without '/': either it starts the path part (then it and
    everything below is in the path region), or it is part of a hostname: no '/', no route, and it branches
    or has the path part as its only child -/
def shapeNode : Node → Bool
  | .mk k r cs =>
    if startsWithSlash k then (r.isSome || decide (2 ≤ cs.length)) && pathKids cs
    else noSlashTok k && r.isNone && (decide (2 ≤ cs.length) || (cs.length == 1 && allSlash cs)) && shapeKids cs
def shapeKids : List Node → Bool
  | [] => true
  | c :: cs => shapeNode c && shapeKids cs
end

theorem pathKids_eq_all (cs : List Node) : pathKids cs = cs.all pathNode := by
  induction cs with
  | nil => simp [pathKids]
  | cons c cs ih => simp [pathKids, ih]

theorem shapeKids_eq_all (cs : List Node) : shapeKids cs = cs.all shapeNode := by
  induction cs with
  | nil => simp [shapeKids]
  | cons c cs ih => simp [shapeKids, ih]

theorem pathKids_iff (cs : List Node) : pathKids cs = true ↔ ∀ c ∈ cs, pathNode c = true := by
  rw [pathKids_eq_all, List.all_eq_true]

theorem shapeKids_iff (cs : List Node) : shapeKids cs = true ↔ ∀ c ∈ cs, shapeNode c = true := by
  rw [shapeKids_eq_all, List.all_eq_true]

theorem pathNode_iff (k : List Tok) (r : Option Route) (cs : List Node) : pathNode (.mk k r cs) = true ↔
    (r.isSome = true ∨ 2 ≤ cs.length) ∧ ∀ c ∈ cs, pathNode c = true := by
  conv => lhs; unfold pathNode
  simp only [Bool.and_eq_true, Bool.or_eq_true, decide_eq_true_eq, pathKids_iff]

theorem shapeNode_iff (k : List Tok) (r : Option Route) (cs : List Node) : shapeNode (.mk k r cs) = true ↔
    (startsWithSlash k = true ∧ pathNode (.mk k r cs) = true) ∨
    (startsWithSlash k = false ∧ noSlashTok k = true ∧ r = none ∧
      (2 ≤ cs.length ∨ (cs.length = 1 ∧ allSlash cs = true)) ∧ ∀ c ∈ cs, shapeNode c = true) := by
  conv => lhs; unfold shapeNode
  cases hs : startsWithSlash k
  · simp only [Bool.false_eq_true, if_false, false_and, false_or, true_and, Bool.and_eq_true, Bool.or_eq_true,
      decide_eq_true_eq, shapeKids_iff, Option.isNone_iff_eq_none, beq_iff_eq, and_assoc]
  · simp only [if_true, true_and, Bool.true_eq_false, false_and, or_false, pathNode_iff, Bool.and_eq_true,
      Bool.or_eq_true, decide_eq_true_eq, pathKids_iff]

theorem pathNode_newNode (k : List Tok) (r : Option Route) (cs : List Node) :
    pathNode (newNode k r cs) = pathNode (.mk k r cs) := by
  unfold newNode pathNode
  rw [pathKids_eq_all, pathKids_eq_all, (sortKids_perm cs).all_eq, (sortKids_perm cs).length_eq]

theorem shapeNode_newNode (k : List Tok) (r : Option Route) (cs : List Node) :
    shapeNode (newNode k r cs) = shapeNode (.mk k r cs) := by
  unfold newNode shapeNode
  rw [pathKids_eq_all, pathKids_eq_all, shapeKids_eq_all, shapeKids_eq_all, (sortKids_perm cs).all_eq,
    (sortKids_perm cs).all_eq, (sortKids_perm cs).length_eq, allSlash_perm (sortKids_perm cs)]

theorem noSlashTok_append (a b : List Tok) : noSlashTok (a ++ b) = (noSlashTok a && noSlashTok b) := by
  simp [noSlashTok, Bool.not_or]

theorem noSlash_not_starts {k : List Tok} (h : noSlashTok k = true) : startsWithSlash k = false := by
  cases k with
  | nil => rfl
  | cons t ts =>
    cases hs : startsWithSlash (t :: ts)
    · rfl
    · rw [startsWithSlash_cons_iff] at hs; subst hs
      simp [noSlashTok] at h

theorem noSlash_drop_not_starts {k : List Tok} (h : noSlashTok k = true) (n : Nat) :
    startsWithSlash (k.drop n) = false := by
  apply noSlash_not_starts
  have := noSlashTok_append (k.take n) (k.drop n)
  rw [List.take_append_drop, h] at this
  simp only [Bool.true_eq, Bool.and_eq_true] at this
  exact this.2

/-- position of the inserted suffix while the walk is still in the hostname region, for the shape invariant: no '/'
    up to the end of the hostname part, a '/' right after it -/
def HostPos (r : Route) (consumed : Nat) (toks : List Tok) : Prop :=
  consumed ≤ r.hostToks ∧ noSlashTok (toks.take (r.hostToks - consumed)) = true ∧
    startsWithSlash (toks.drop (r.hostToks - consumed)) = true

theorem HostPos_advance {r : Route} {c : Nat} (p ta : List Tok) (h : HostPos r c (p ++ ta))
    (hp : noSlashTok p = true) : HostPos r (c + p.length) ta := by
  obtain ⟨h1, h2, h3⟩ := h
  have hle : p.length ≤ r.hostToks - c := by
    apply Nat.le_of_not_lt
    intro hlt
    rw [List.drop_append] at h3
    have hne : p.drop (r.hostToks - c) ≠ [] := by
      intro e; have := congrArg List.length e
      simp only [List.length_drop, List.length_nil] at this; omega
    rw [startsWithSlash_append _ hne, noSlash_drop_not_starts hp] at h3
    cases h3
  unfold HostPos
  rw [← Nat.sub_sub]
  refine ⟨by omega, ?_, ?_⟩
  · rw [List.take_append, noSlashTok_append] at h2
    simp only [Bool.and_eq_true] at h2
    exact h2.2
  · rw [List.drop_append, List.drop_of_length_le hle, List.nil_append] at h3
    exact h3

theorem HostPos_slash {r : Route} {c : Nat} {toks : List Tok} (h : HostPos r c toks)
    (hs : startsWithSlash toks = true) : r.hostToks ≤ c := by
  obtain ⟨h1, h2, h3⟩ := h
  apply Nat.le_of_not_lt
  intro hlt
  cases toks with
  | nil => simp [startsWithSlash] at hs
  | cons t ts =>
    have : r.hostToks - c = (r.hostToks - c - 1) + 1 := by omega
    rw [this, List.take_succ_cons] at h2
    have := noSlash_not_starts h2
    rw [startsWithSlash_cons_iff] at hs
    subst hs
    simp [startsWithSlash] at this

theorem path_newLeaf (r : Route) (c : Nat) (suf : List Tok) (h : r.hostToks ≤ c) :
    pathNode (newLeaf r c suf).1 = true := by
  unfold newLeaf
  rw [if_neg (by omega)]
  simp [pathNode_newNode, pathNode_iff]

theorem shape_newLeaf (r : Route) (c : Nat) (suf : List Tok) (h : HostPos r c suf) :
    shapeNode (newLeaf r c suf).1 = true := by
  obtain ⟨h1, h2, h3⟩ := h
  unfold newLeaf
  split
  · rw [shapeNode_newNode, shapeNode_iff]
    right
    refine ⟨noSlash_not_starts h2, h2, rfl, Or.inr ⟨by simp, by simpa [allSlash, newNode] using h3⟩, ?_⟩
    intro x hx
    simp only [List.mem_singleton] at hx; subst hx
    rw [shapeNode_newNode, shapeNode_iff]
    left
    exact ⟨h3, by simp [pathNode_iff]⟩
  · rename_i hc
    have : r.hostToks - c = 0 := by omega
    rw [this, List.drop_zero] at h3
    rw [shapeNode_newNode, shapeNode_iff]
    left
    exact ⟨h3, by simp [pathNode_iff]⟩

/-- the shape invariant of a node in the role it plays: a method root only hands it on to its children -/
def shapeN (isRoot : Bool) (n : Node) : Bool := if isRoot then shapeKids n.children else shapeNode n

theorem shapeN_iff (b : Bool) (k : List Tok) (r : Option Route) (cs : List Node) : shapeN b (.mk k r cs) = true ↔
    (b = false ∧ startsWithSlash k = true ∧ pathNode (.mk k r cs) = true) ∨
    ((b = false → startsWithSlash k = false ∧ noSlashTok k = true ∧ r = none ∧
        (2 ≤ cs.length ∨ (cs.length = 1 ∧ allSlash cs = true))) ∧ ∀ c ∈ cs, shapeNode c = true) := by
  cases b
  · simp only [shapeN, Bool.false_eq_true, if_false, shapeNode_iff, true_and, forall_const, and_assoc]
  · simp only [shapeN, if_true, Node.children_mk, shapeKids_iff, Bool.true_eq_false, false_and, false_or,
      false_imp_iff, true_and]

theorem shapeN_newNode (b : Bool) (k : List Tok) (r : Option Route) (cs : List Node) :
    shapeN b (newNode k r cs) = shapeN b (.mk k r cs) := by
  cases b
  · exact shapeNode_newNode k r cs
  · simp only [shapeN, if_true, newNode, Node.children_mk, shapeKids_eq_all]
    exact (sortKids_perm cs).all_eq

theorem shapeNode_of_path {n : Node} {k : List Tok} (hs : startsWithSlash k = true) (hk : kindOf n.key = kindOf k)
    (hp : pathNode n = true) : shapeNode n = true := by
  obtain ⟨k', r', cs'⟩ := n
  refine (shapeNode_iff ..).mpr (Or.inl ⟨?_, hp⟩)
  rw [startsWithSlash_iff_kind] at hs ⊢
  exact hk.trans hs

theorem path_insertNode {r : Route} {b : Bool} {consumed : Nat} {n n' : Node} {toks : List Tok}
    (h : Ins r b consumed n toks n') (hpn : pathNode n = true) (hpos : r.hostToks ≤ consumed) :
    pathNode n' = true := by
  induction h with
  | exact => exact (pathNode_iff ..).mpr ⟨Or.inl rfl, ((pathNode_iff ..).mp hpn).2⟩
  | keyEnd =>
    rw [pathNode_newNode]
    exact (pathNode_iff ..).mpr ⟨Or.inl rfl, List.forall_mem_singleton.mpr hpn⟩
  | @descend b consumed key route pre c post t ts c' hp hc ih =>
    obtain ⟨hown, hkids⟩ := (pathNode_iff ..).mp hpn
    have hc' := ih (hkids c (by simp)) (by omega)
    exact (pathNode_iff ..).mpr ⟨by simpa using hown, forall_mem_mid _ hkids hc'⟩
  | addLeaf hp =>
    obtain ⟨hown, hkids⟩ := (pathNode_iff ..).mp hpn
    rw [pathNode_newNode]
    refine (pathNode_iff ..).mpr ⟨hown.imp_right fun h1 => by simp only [List.length_append]; omega, ?_⟩
    simp only [List.forall_mem_append, List.forall_mem_singleton]
    exact ⟨hkids, path_newLeaf r _ _ (by omega)⟩
  | split hab hw =>
    rw [pathNode_newNode]
    refine (pathNode_iff ..).mpr ⟨Or.inr (by simp), ?_⟩
    simp only [List.forall_mem_cons]
    exact ⟨path_newLeaf r _ _ (by omega), hpn, fun _ h => nomatch h⟩

/-- By induction on the node, not on the derivation: whether the path part starts at this node (then it is
    `path_insertNode`) is asked first, once, and only the hostname region goes through the cases of the insertion. -/
theorem shape_insertNode {r : Route} (n : Node) : ∀ {b : Bool} {consumed : Nat} {toks : List Tok} {n' : Node},
    Ins r b consumed n toks n' → shapeN b n = true → wfN b n = true → toks ≠ [] → keyOk toks = true →
    (b = false → kindOf n.key = kindOf toks) → HostOk r consumed toks → HostPos r consumed toks →
    shapeN b n' = true := by
  induction n using Node.ind with
  | h key route cs ih =>
    intro b consumed toks n' h hsh hwf hne hok hkind hho hpos
    obtain ⟨hroot, -, hnd, hwk⟩ := (wfN_iff ..).mp hwf
    rcases (shapeN_iff ..).mp hsh with ⟨rfl, hs, hpn⟩ | ⟨hhost, hkids⟩
    · -- the path part starts here
      have hs' : startsWithSlash toks = true := by
        rw [startsWithSlash_iff_kind] at hs ⊢; rw [← hkind rfl]; exact hs
      exact shapeNode_of_path hs (h.key_kind hne hkind) (path_insertNode h hpn (HostPos_slash hpos hs'))
    · -- hostname region, or the root: the key has no '/', the rest of the pattern still has one ahead
      have hns : noSlashTok key = true := by
        cases b
        · exact (hhost rfl).2.1
        · rw [(hroot rfl).1]; rfl
      have hfalse : noSlashTok toks = true → False := fun hn => by
        have := noSlash_drop_not_starts hn (r.hostToks - consumed)
        rw [hpos.2.2] at this; cases this
      cases h with
      | exact => exact (hfalse hns).elim
      | keyEnd =>
        rw [noSlashTok_append, Bool.and_eq_true] at hns
        exact (hfalse hns.1).elim
      | @descend _ _ _ _ pre c post t ts c' hp hc =>
        have hok' : keyOk (t :: ts) = true := keyOk_append_right key _ hok
        have hck := (pick_kind hwk hnd (by simp) hok' hp).1
        have hc' := ih c (by simp) hc (hkids c (by simp)) (wfKids_mem hwk (by simp)) (by simp) hok' (fun _ => hck)
          (HostOk_advance key (t :: ts) hho) (HostPos_advance key _ hpos hns)
        refine (shapeN_iff ..).mpr (Or.inr ⟨fun hb => ?_, forall_mem_mid _ hkids hc'⟩)
        obtain ⟨h1, h2, h3, h4⟩ := hhost hb
        refine ⟨h1, h2, h3, ?_⟩
        rw [allSlash_congr (kindsOf_mid pre post (hc.key_kind (by simp) fun _ => hck))]; simpa using h4
      | addLeaf hp =>
        rw [shapeN_newNode]
        refine (shapeN_iff ..).mpr (Or.inr ⟨fun hb => ?_, ?_⟩)
        · obtain ⟨h1, h2, h3, h4⟩ := hhost hb
          refine ⟨h1, h2, h3, Or.inl ?_⟩
          simp only [List.length_append, List.length_cons, List.length_nil]
          rcases h4 with h4 | ⟨h4, -⟩ <;> omega
        · simp only [List.forall_mem_append, List.forall_mem_singleton]
          exact ⟨hkids, shape_newLeaf r _ _ (HostPos_advance key _ hpos hns)⟩
      | @split _ p a as b bs _ _ hab hw =>
        obtain ⟨-, -, hro, hcnt⟩ := hhost rfl
        rw [noSlashTok_append, Bool.and_eq_true] at hns
        rw [shapeN_newNode]
        refine (shapeNode_iff ..).mpr (Or.inr ⟨noSlash_not_starts hns.1, hns.1, rfl, Or.inl (by simp), ?_⟩)
        simp only [List.forall_mem_cons]
        exact ⟨shape_newLeaf r _ _ (HostPos_advance p _ hpos hns.1),
          (shapeNode_iff ..).mpr (Or.inr ⟨noSlash_not_starts hns.2, hns.2, hro, hcnt, hkids⟩), fun _ h => nomatch h⟩

/-! ### `updateNode` keeps the shape -/

theorem path_updateNode {r : Route} {n n' : Node} {toks : List Tok} (h : Upd r n toks n')
    (hpn : pathNode n = true) : pathNode n' = true := by
  induction h with
  | here => exact (pathNode_iff ..).mpr ⟨Or.inl rfl, ((pathNode_iff ..).mp hpn).2⟩
  | @descend key route pre c post t ts c' hc ih =>
    obtain ⟨hown, hkids⟩ := (pathNode_iff ..).mp hpn
    exact (pathNode_iff ..).mpr ⟨by simpa using hown, forall_mem_mid _ hkids (ih (hkids c (by simp)))⟩

theorem shape_updateNode {r : Route} {n n' : Node} {toks : List Tok} (h : Upd r n toks n') {b : Bool}
    (hsh : shapeN b n = true) : shapeN b n' = true := by
  induction h generalizing b with
  | here =>
    rcases (shapeN_iff ..).mp hsh with ⟨rfl, hs, hpn⟩ | ⟨hhost, hkids⟩
    · exact shapeNode_of_path hs rfl (path_updateNode .here hpn)
    · exact (shapeN_iff ..).mpr (Or.inr ⟨fun hb => (nomatch (hhost hb).2.2.1), hkids⟩)
  | @descend key route pre c post t ts c' hc ih =>
    rcases (shapeN_iff ..).mp hsh with ⟨rfl, hs, hpn⟩ | ⟨hhost, hkids⟩
    · exact shapeNode_of_path hs rfl (path_updateNode (.descend hc) hpn)
    · refine (shapeN_iff ..).mpr (Or.inr ⟨fun hb => ?_, forall_mem_mid _ hkids (ih (b := false) (hkids c (by simp)))⟩)
      obtain ⟨h1, h2, h3, h4⟩ := hhost hb
      refine ⟨h1, h2, h3, ?_⟩
      rw [allSlash_congr (kindsOf_mid pre post (congrArg kindOf hc.key))]; simpa using h4

/-! ### `removeNode` keeps the shape -/

theorem pathNode_eta {key : List Tok} {e : Node} (h : pathNode e = true) :
    pathNode (.mk (key ++ e.key) e.route e.children) = true := by
  obtain ⟨k, ro, ks⟩ := e
  rw [pathNode_iff] at h ⊢
  exact h

theorem path_removeNode {b : Bool} {n : Node} {toks : List Tok} {r : Route} {res : Rem} (h : Rmv b n toks r res)
    (hb : b = false) (hpn : pathNode n = true) :
    match res with
    | .replaced n' => pathNode n' = true
    | .vanished => True
    | .vanishedHost => False := by
  induction h with (obtain ⟨hown, hkids⟩ := (pathNode_iff ..).mp hpn)
  | @here b key r cs =>
    rcases cs with _ | ⟨c, _ | ⟨c2, cs⟩⟩
    · trivial
    · exact pathNode_eta (hkids c (by simp))
    · exact (pathNode_iff ..).mpr ⟨Or.inr (by simp), hkids⟩
  | @under b key route pre c post t ts r resc res hc hup ih =>
    have ihc := ih rfl (hkids c (by simp))
    have hkids' := forall_mem_without hkids
    rcases hup with ⟨c'⟩ | ⟨hed, rfl, -⟩ | ⟨e, hed, rfl, -, hor⟩ | ⟨hor⟩
    · exact (pathNode_iff ..).mpr ⟨by simpa using hown, forall_mem_mid _ hkids ihc⟩
    · -- a node without a route that loses its last child had only one
      have : (pre ++ post).length = 0 := by rw [hed]; rfl
      simp only [List.length_append, List.length_cons] at hown this
      rcases hown with h1 | h1
      · cases h1
      · omega
    · exact pathNode_eta (hkids' e (by rw [hed]; simp))
    · show pathNode (newNode key route (pre ++ post)) = true
      rw [pathNode_newNode]
      refine (pathNode_iff ..).mpr ⟨?_, hkids'⟩
      rcases hor with ⟨-, hlen⟩ | ⟨rfl, -⟩
      · cases hro : route with
        | some x => exact Or.inl rfl
        | none => exact Or.inr (hlen hro hb)
      · exact ihc.elim

/-- a removal keeps the shape; a node that vanishes is an inner node, and which way it vanishes tells on which
    side of the first '/' it stood -/
theorem shape_removeNode (n : Node) : ∀ {b : Bool} {toks : List Tok} {res : Rem} {r : Route},
    Rmv b n toks r res → shapeN b n = true → wfN b n = true →
    match res with
    | .replaced n' => shapeN b n' = true
    | .vanishedHost => b = false ∧ startsWithSlash n.key = false
    | .vanished => b = false ∧ startsWithSlash n.key = true := by
  induction n using Node.ind with
  | h key route cs ih =>
    intro b toks res r h hsh hwf
    have hwfr := wf_removeNode h hwf
    obtain ⟨hroot, -, hnd, hwk⟩ := (wfN_iff ..).mp hwf
    rcases (shapeN_iff ..).mp hsh with ⟨rfl, hs, hpn⟩ | ⟨hhost, hkids⟩
    · have hp' := path_removeNode h rfl hpn
      cases res with
      | vanished => exact ⟨rfl, hs⟩
      | vanishedHost => exact hp'.elim
      | replaced n' => exact shapeNode_of_path hs ((hwfr n' rfl).2 rfl) hp'
    · have hro : route = none := by
        cases b
        · exact (hhost rfl).2.2.1
        · exact (hroot rfl).2
      subst hro
      cases h with
      | @under _ _ _ pre c post t ts _ resc _ hc hup =>
        have hcw := wfKids_mem hwk (c := c) (by simp)
        have ihc := ih c (by simp) hc (hkids c (by simp)) hcw
        have hkids' := forall_mem_without hkids
        -- a sibling of `c` has another kind
        have hsib : ∀ e ∈ pre ++ post, kindOf e.key ≠ kindOf c.key := by
          intro e hee heq
          rw [kindsOf_eq_map, List.map_append, List.map_cons, List.nodup_append] at hnd
          rcases List.mem_append.mp hee with h1 | h1
          · exact hnd.2.2 _ (List.mem_map_of_mem h1) _ (by simp) heq
          · exact (List.nodup_cons.mp hnd.2.1).1 (by rw [← heq]; exact List.mem_map_of_mem h1)
        rcases hup with ⟨c'⟩ | ⟨hed, -, rfl⟩ | ⟨e, hed, -, rfl, hor⟩ | ⟨hor⟩
        · have hk' := (wf_removeNode hc hcw c' rfl).2 rfl
          refine (shapeN_iff ..).mpr (Or.inr ⟨fun hb => ?_, forall_mem_mid _ hkids ihc⟩)
          obtain ⟨h1, h2, h3, h4⟩ := hhost hb
          refine ⟨h1, h2, h3, ?_⟩
          rw [allSlash_congr (kindsOf_mid pre post hk')]; simpa using h4
        · exact ⟨rfl, (hhost rfl).1⟩
        · obtain ⟨-, hns, -, -⟩ := hhost rfl
          have hee : e ∈ pre ++ post := by rw [hed]; simp
          -- the remaining child is not the path part: after `.vanished` the child that went was, and siblings differ in kind
          have hens : startsWithSlash e.key = false := by
            rcases hor with rfl | ⟨-, h2⟩
            · have hcs : startsWithSlash c.key = true := ihc.2
              cases hes : startsWithSlash e.key
              · rfl
              · exfalso
                rw [startsWithSlash_iff_kind] at hcs hes
                exact hsib e hee (hes.trans hcs.symm)
            · exact h2
          have hesh := hkids' e hee
          obtain ⟨ke, re, cse'⟩ := e
          simp only [Node.key_mk] at hens
          rcases (shapeNode_iff ..).mp hesh with ⟨h1, -⟩ | ⟨-, h2, h3, h4, h5⟩
          · rw [hens] at h1; cases h1
          · have : noSlashTok (key ++ ke) = true := by rw [noSlashTok_append, hns, h2]; rfl
            exact (shapeNode_iff ..).mpr (Or.inr ⟨noSlash_not_starts this, this, h3, h4, h5⟩)
        · show shapeN b (newNode key none (pre ++ post)) = true
          rw [shapeN_newNode]
          refine (shapeN_iff ..).mpr (Or.inr ⟨fun hb => ?_, hkids'⟩)
          subst hb
          obtain ⟨hs, hns, -, hcnt⟩ := hhost rfl
          refine ⟨hs, hns, rfl, ?_⟩
          rcases hor with ⟨-, hlen⟩ | ⟨rfl, hsl⟩
          · exact Or.inl (hlen rfl rfl)
          · have hcns : startsWithSlash c.key = false := ihc.2
            have hlen : 2 ≤ (pre ++ c :: post).length := by
              rcases hcnt with h1 | ⟨-, h2⟩
              · exact h1
              · exfalso
                rw [allSlash_eq_all, List.all_eq_true] at h2
                have := h2 c (by simp)
                rw [hcns] at this; cases this
            simp only [List.length_append, List.length_cons] at hlen
            rcases hedges : pre ++ post with _ | ⟨e, _ | ⟨e2, es⟩⟩
            · have := congrArg List.length hedges
              simp only [List.length_append, List.length_nil] at this; omega
            · exact Or.inr ⟨rfl, by simp [allSlash_eq_all, hsl rfl rfl e hedges]⟩
            · left; simp

theorem shape_removeRoot {root : Node} {toks : List Tok} {res : Rem} {r : Route} (h : Rmv true root toks r res)
    (hwf : wfRoot root = true) (hsh : shapeKids root.children = true) :
    ∃ root', res = .replaced root' ∧ shapeKids root'.children = true := by
  have hs := shape_removeNode root h hsh hwf
  cases res with
  | replaced n' => exact ⟨n', rfl, hs⟩
  | vanished => exact nomatch hs.1
  | vanishedHost => exact nomatch hs.1

/-! ### the shape invariant implies the hostname invariant of `Model/WF.lean` -/

theorem hostOkKids_iff (cs : List Node) : hostOkKids cs = true ↔ ∀ c ∈ cs, hostOkNode c = true := by
  induction cs with
  | nil => simp [hostOkKids]
  | cons c cs ih => simp [hostOkKids, ih]

theorem hostOk_of_shape (n : Node) : shapeNode n = true → hostOkNode n = true := by
  induction n using Node.ind with
  | h key route cs ih =>
    intro hsh
    rw [shapeNode_iff] at hsh
    unfold hostOkNode
    rcases hsh with ⟨hs, _⟩ | ⟨_, hns, _, _, hkids⟩
    · simp [hs]
    · simp only [hns, Bool.true_and, Bool.or_eq_true, hostOkKids_iff]
      exact Or.inr fun c hc => ih c hc (hkids c hc)

theorem hostOkKids_of_shape {cs : List Node} (h : shapeKids cs = true) : hostOkKids cs = true := by
  rw [shapeKids_iff] at h
  rw [hostOkKids_iff]
  exact fun c hc => hostOk_of_shape c (h c hc)

/-! ### no dead branches: a reported conflict names at least one route -/

theorem routes_ne_nil_of_path (n : Node) : pathNode n = true → routesNode n ≠ [] := by
  induction n using Node.ind with
  | h key route cs ih =>
    intro hpn
    rw [pathNode_iff] at hpn
    obtain ⟨hown, hkids⟩ := hpn
    unfold routesNode
    cases route with
    | some x => simp
    | none =>
      rcases hown with h1 | h1
      · cases h1
      · rcases cs with _ | ⟨c, cs⟩
        · simp at h1
        · have := ih c (by simp) (hkids c (by simp))
          simp [routesKids, this]

theorem routes_ne_nil_of_shape (n : Node) : shapeNode n = true → routesNode n ≠ [] := by
  induction n using Node.ind with
  | h key route cs ih =>
    intro hsh
    rw [shapeNode_iff] at hsh
    rcases hsh with ⟨_, hpn⟩ | ⟨_, _, _, hcnt, hkids⟩
    · exact routes_ne_nil_of_path _ hpn
    · unfold routesNode
      rcases cs with _ | ⟨c, cs⟩
      · simp at hcnt
      · have := ih c (by simp) (hkids c (by simp))
        simp [routesKids, this]

theorem conflict_ne_nil {b : Bool} {n : Node} {toks : List Tok} {e : InsErr} (h : InsFail b n toks e)
    (hps : pathNode n = true ∨ shapeN b n = true) (hwf : b = true → wfRoot n = true) :
    ∀ cs', e = .conflict cs' → cs' ≠ [] := by
  induction h with
  | exist => exact nofun
  | @child b key route pre c post t ts e hc ih =>
    refine ih ?_ (fun e => nomatch e)
    rcases hps with h1 | h1
    · exact Or.inl (((pathNode_iff ..).mp h1).2 c (by simp))
    · rcases (shapeN_iff ..).mp h1 with ⟨-, -, h2⟩ | ⟨-, h2⟩
      · exact Or.inl (((pathNode_iff ..).mp h2).2 c (by simp))
      · exact Or.inr (h2 c (by simp))
  | atRoot hk => exact absurd ((wfRoot_iff ..).mp (hwf rfl)).1 hk
  | wildcard hk =>
    -- the walk left the key inside it: the routes below are named, and there are some
    rintro _ ⟨⟩
    rcases hps with h1 | h1
    · exact routes_ne_nil_of_path _ h1
    · exact routes_ne_nil_of_shape _ h1

end Fox.Model
