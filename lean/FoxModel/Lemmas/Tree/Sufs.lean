import FoxModel.Lemmas.Tree.Wf
import FoxModel.Spec.Store
/-
  FoxModel.Lemmas.Tree.Sufs — the suffix set `sufsNode` of a node (the registered patterns below it, each with its
  route) through the three mutations, and what the answers of the mutations say about it.

  A suffix set is the node's own entry and the children's sets under the key (`sufsNode_own`); each mutation changes
  it by one entry, up to permutation (`Ins.sufs`, `Upd.sufs`, `Rmv.sufs`). In a well-formed tree a registered suffix
  lies where the walk looks for it (`Reg.of_mem`), so `updateNode` / `removeNode` find it; and the error of
  `insertNode` is the one the conflict rule of the specification gives on the suffix set (`ErrSpec`, `err_insertN`).
-/

namespace Fox.Model
open Fox

/-! ### suffix sets: what `insertNode` adds -/

def addKey (p : List Tok) (sr : List Tok × Route) : List Tok × Route := (p ++ sr.1, sr.2)

def own (k : List Tok) : Option Route → Spec.SufSet
  | some r => [(k, r)]
  | none => []

theorem sufsNode_own (k : List Tok) (r : Option Route) (cs : List Node) :
    sufsNode (.mk k r cs) = own k r ++ (sufsKids cs).map (addKey k) := by
  conv => lhs; unfold sufsNode
  cases r <;> rfl

theorem addKey_addKey (p q : List Tok) : addKey p ∘ addKey q = addKey (p ++ q) := by
  funext sr; simp [addKey]

theorem map_addKey_nil (S : Spec.SufSet) : S.map (addKey []) = S :=
  (List.map_congr_left fun _ _ => rfl).trans (List.map_id S)

theorem sufs_lower (p ka : List Tok) (route : Option Route) (cs : List Node) :
    (sufsNode (.mk ka route cs)).map (addKey p) = sufsNode (.mk (p ++ ka) route cs) := by
  simp only [sufsNode_own, List.map_append, List.map_map, addKey_addKey]
  cases route <;> simp [own, addKey]

theorem sufsNode_newNode (k : List Tok) (r : Option Route) (cs : List Node) :
    (sufsNode (newNode k r cs)).Perm (sufsNode (.mk k r cs)) := by
  simp only [newNode, sufsNode_own]
  exact List.Perm.append_left _ ((sufsKids_perm (sortKids_perm cs)).map _)

theorem sufs_newLeaf (r : Route) (c : Nat) (suf : List Tok) : sufsNode (newLeaf r c suf).1 = [(suf, r)] := by
  unfold newLeaf
  split
  · simp [newNode, sortKids_single, sortKids_nil, sufsNode_own, sufsKids, own, addKey]
  · simp [newNode, sortKids_nil, sufsNode_own, sufsKids, own]

theorem perm_mid {α β} (f : α → β) (O : List β) (A B : List α) {X Y : List α} {x : α} (h : X.Perm (x :: Y)) :
    (O ++ (A ++ X ++ B).map f).Perm (f x :: (O ++ (A ++ Y ++ B).map f)) :=
  (List.Perm.append_left O ((((List.Perm.append_left A h).trans List.perm_middle).append_right B).map f)).trans
    List.perm_middle

theorem sufsNode_mid (key : List Tok) (route : Option Route) (pre : List Node) (c : Node) (post : List Node) :
    sufsNode (.mk key route (pre ++ c :: post)) =
      own key route ++ (sufsKids pre ++ sufsNode c ++ sufsKids post).map (addKey key) := by
  rw [sufsNode_own, sufsKids_append, sufsKids_cons, List.append_assoc]

theorem Ins.sufs {r : Route} {b : Bool} {consumed : Nat} {n n' : Node} {toks : List Tok}
    (h : Ins r b consumed n toks n') : (sufsNode n').Perm ((toks, r) :: sufsNode n) := by
  induction h with
  | exact => simp [sufsNode_own, own]
  | @keyEnd b consumed toks a as route cs =>
    refine (sufsNode_newNode _ _ _).trans ?_
    rw [← sufs_lower toks (a :: as) route cs]
    simp [sufsNode_own toks, own, sufsKids]
  | descend hp hc ih =>
    rw [sufsNode_mid, sufsNode_mid]
    exact perm_mid _ _ _ _ ih
  | addLeaf hp =>
    refine (sufsNode_newNode _ _ _).trans ?_
    simp only [sufsNode_own, sufsKids_append, sufsKids, List.append_nil, sufs_newLeaf,
      List.map_append, List.map_cons, List.map_nil]
    rw [← List.append_assoc]
    exact List.perm_append_singleton _ _
  | @split consumed p a as b bs route cs hab hw =>
    refine (sufsNode_newNode _ _ _).trans ?_
    rw [← sufs_lower p (a :: as) route cs]
    simp [sufsNode_own p, own, sufsKids, sufs_newLeaf, addKey]

theorem sufs_insertNode (r : Route) (n : Node) (isRoot : Bool) (consumed d : Nat) (toks : List Tok) (res : InsOk)
    (h : insertNode n isRoot consumed d toks r = .ok res) : (sufsNode res.node).Perm ((toks, r) :: sufsNode n) :=
  (Ins.of_ok h).sufs

theorem sufs_insertKids (r : Route) : ∀ (cs : List Node) (consumed d : Nat) (toks : List Tok)
    (cs' : List Node) (dep : Nat) (cse : InsCase),
    insertKids cs consumed d toks r = some (.ok (cs', dep, cse)) →
    (sufsKids cs').Perm ((toks, r) :: sufsKids cs) := by
  intro cs consumed d toks cs' dep cse h
  rw [insertKids_pick] at h
  cases hp : pickKid toks cs with
  | none => rw [hp] at h; cases h
  | some x =>
    obtain ⟨pre, c, post⟩ := x
    rw [hp] at h
    simp only [] at h
    obtain ⟨rfl, -, -⟩ := pick_some hp
    cases hi : insertNode c false consumed d toks r with
    | error e => rw [hi] at h; cases h
    | ok res =>
      rw [hi] at h; cases h
      have := perm_mid id [] (sufsKids pre) (sufsKids post) (sufs_insertNode r c false _ _ _ _ hi)
      simpa [sufsKids_append, sufsKids_cons] using this

/-! ### suffix sets: what `updateNode` replaces, what `removeNode` takes out -/

theorem Upd.sufs {r : Route} {n n' : Node} {toks : List Tok} (h : Upd r n toks n') :
    ∃ old X, (sufsNode n).Perm ((toks, old) :: X) ∧ (sufsNode n').Perm ((toks, r) :: X) := by
  induction h with
  | @here key old cs =>
    exact ⟨old, (sufsKids cs).map (addKey key), by simp [sufsNode_own, own], by simp [sufsNode_own, own]⟩
  | @descend key route pre c post t ts c' hc ih =>
    obtain ⟨old, X, h1, h2⟩ := ih
    refine ⟨old, own key route ++ (sufsKids pre ++ X ++ sufsKids post).map (addKey key), ?_, ?_⟩ <;>
      rw [sufsNode_mid]
    · exact perm_mid _ _ _ _ h1
    · exact perm_mid _ _ _ _ h2

theorem sufs_updateNode (r : Route) (n : Node) (toks : List Tok) (n' : Node) (h : updateNode n toks r = some n') :
    ∃ old X, (sufsNode n).Perm ((toks, old) :: X) ∧ (sufsNode n').Perm ((toks, r) :: X) :=
  (Upd.of_some n h).sufs

/-- suffix set of what is left after a removal -/
def sufsRem : Rem → Spec.SufSet
  | .replaced n => sufsNode n
  | _ => []

theorem sufsNode_eta (key : List Tok) (e : Node) :
    sufsNode (.mk (key ++ e.key) e.route e.children) = (sufsNode e).map (addKey key) := by
  obtain ⟨k, ro, ks⟩ := e
  simp only [Node.key_mk, Node.route_mk, Node.children_mk, sufs_lower]

theorem RemUp.sufs {key : List Tok} {route : Option Route} {isRoot : Bool} {pre post : List Node} {c : Node}
    {resc res : Rem} {ts' : List Tok} {r : Route} (hup : RemUp key route isRoot pre post resc res)
    (hc : (sufsNode c).Perm ((ts', r) :: sufsRem resc)) :
    (sufsNode (.mk key route (pre ++ c :: post))).Perm ((key ++ ts', r) :: sufsRem res) := by
  have h1 := perm_mid (addKey key) (own key route) (sufsKids pre) (sufsKids post) hc
  rw [← sufsNode_mid] at h1
  refine h1.trans (List.Perm.cons _ ?_)
  rcases hup with ⟨c'⟩ | ⟨hed, rfl, rfl⟩ | ⟨e, hed, rfl, rfl, hor⟩ | ⟨hor⟩
  · rw [sufsRem, sufsRem, sufsNode_mid]
  · rw [show sufsRem Rem.vanished = [] from rfl, List.append_nil, ← sufsKids_append, hed]
    exact .refl _
  · have hr : sufsRem resc = [] := by rcases hor with rfl | ⟨rfl, _⟩ <;> rfl
    rw [hr, List.append_nil, ← sufsKids_append, hed, sufsRem, sufsNode_eta, sufsKids_cons]
    simp only [sufsKids, List.append_nil]
    exact .refl _
  · have hr : sufsRem resc = [] := by rcases hor with ⟨rfl, _⟩ | ⟨rfl, _⟩ <;> rfl
    rw [hr, List.append_nil, ← sufsKids_append, ← sufsNode_own, sufsRem]
    exact (sufsNode_newNode _ _ _).symm

theorem Rmv.sufs {b : Bool} {n : Node} {toks : List Tok} {r : Route} {res : Rem} (h : Rmv b n toks r res) :
    (sufsNode n).Perm ((toks, r) :: sufsRem res) := by
  induction h with
  | @here b key r cs =>
    rcases cs with _ | ⟨c, _ | ⟨c2, cs⟩⟩
    · simp [remHere, sufsRem, sufsNode_own, own, sufsKids]
    · simp only [remHere, sufsRem, sufsNode_eta]
      simp [sufsNode_own key, own, sufsKids]
    · simp [remHere, sufsRem, sufsNode_own, own]
  | under hc hup ih => exact hup.sufs ih

theorem sufs_removeNode (n : Node) (isRoot : Bool) (toks : List Tok) (res : Rem) (r : Route) (cse : RemCase)
    (h : removeNode n isRoot toks = some (res, r, cse)) : (sufsNode n).Perm ((toks, r) :: sufsRem res) :=
  (Rmv.of_some n h).sufs

/-! ### suffix sets: the kind of a suffix, the child that holds it, the routes -/

theorem sufs_kind {k : List Tok} {r : Option Route} {cs : List Node} (hk : k ≠ []) :
    ∀ sr ∈ sufsNode (.mk k r cs), kindOf sr.1 = kindOf k := by
  intro sr hsr
  obtain ⟨s, hs⟩ := sufsNode_key k r cs sr hsr
  rw [hs]; exact kindOf_append _ hk

theorem sufsKids_kind {cs : List Node} (hwf : wfKids cs = true) :
    ∀ sr ∈ sufsKids cs, kindOf sr.1 ∈ kindsOf cs := by
  intro sr hsr
  rw [sufsKids_eq_flatMap] at hsr
  obtain ⟨c, hc, hs⟩ := List.mem_flatMap.mp hsr
  rw [wfKids_eq_all, List.all_eq_true] at hwf
  have hcw := hwf c hc
  obtain ⟨k, ro, ks⟩ := c
  rw [wfNode_iff] at hcw
  rw [sufs_kind hcw.1 sr hs, kindsOf_eq_map]
  exact List.mem_map.mpr ⟨_, hc, rfl⟩

mutual
theorem routesNode_eq : ∀ n : Node, routesNode n = (sufsNode n).map (·.2)
  | .mk k r cs => by
    rw [sufsNode_own]; unfold routesNode; rw [routesKids_eq cs]
    cases r <;> simp [own, List.map_map, addKey, Function.comp_def]
theorem routesKids_eq : ∀ cs : List Node, routesKids cs = (sufsKids cs).map (·.2)
  | [] => by simp [routesKids, sufsKids]
  | c :: cs => by simp [routesKids, sufsKids, routesNode_eq c, routesKids_eq cs]
end

theorem pick_of_mem {toks : List Tok} {cs : List Node} {x : Route}
    (hwf : wfKids cs = true) (hnd : (kindsOf cs).Nodup) (hok : keyOk toks = true)
    (hm : (toks, x) ∈ sufsKids cs) :
    ∃ pre c post, pickKid toks cs = some (pre, c, post) ∧ (toks, x) ∈ sufsNode c := by
  have hne : toks ≠ [] := sufsKids_ne_nil hwf _ hm
  rw [sufsKids_eq_flatMap] at hm
  obtain ⟨c0, hc0, hs⟩ := List.mem_flatMap.mp hm
  have hwf' := hwf
  rw [wfKids_eq_all, List.all_eq_true] at hwf'
  have hk0 : kindOf c0.key = kindOf toks := by
    have hcw := hwf' c0 hc0
    obtain ⟨k, ro, ks⟩ := c0
    rw [wfNode_iff] at hcw
    exact (sufs_kind hcw.1 _ hs).symm
  cases hp : pickKid toks cs with
  | none => exact absurd hk0 (pick_none_kind hwf hne hok hp c0 hc0)
  | some y =>
    obtain ⟨pre, c, post⟩ := y
    refine ⟨pre, c, post, rfl, ?_⟩
    obtain ⟨hck, hpre, hpost⟩ := pick_kind hwf hnd hne hok hp
    obtain ⟨rfl, _, _⟩ := pick_some hp
    rcases List.mem_append.mp hc0 with h | h
    · exact absurd hk0 (hpre c0 h)
    · rcases List.mem_cons.mp h with rfl | h
      · exact hs
      · exact absurd hk0 (hpost c0 h)

/-- `Reg n toks x`: the walk that `getEdge` steers with `toks` ends at a node at or below `n` that carries `x` -/
inductive Reg : Node → List Tok → Route → Prop
  | here {key x cs} : Reg (.mk key (some x) cs) key x
  | under {key route pre c post t ts x} : pickKid (t :: ts) (pre ++ c :: post) = some (pre, c, post) →
      Reg c (t :: ts) x → Reg (.mk key route (pre ++ c :: post)) (key ++ t :: ts) x

/-- in a well-formed tree a registered suffix is where the walk looks for it -/
theorem Reg.of_mem (n : Node) : ∀ {b : Bool} {toks : List Tok} {x : Route}, wfN b n = true → keyOk toks = true →
    (toks, x) ∈ sufsNode n → Reg n toks x := by
  induction n using Node.ind with
  | h key route cs ih =>
    intro b toks x hwf hok hm
    obtain ⟨-, -, hnd, hkids⟩ := (wfN_iff ..).mp hwf
    rw [sufsNode_own] at hm
    rcases List.mem_append.mp hm with hm | hm
    · cases route with
      | none => cases hm
      | some old =>
        simp only [own, List.mem_singleton, Prod.mk.injEq] at hm
        obtain ⟨rfl, rfl⟩ := hm
        exact .here
    · obtain ⟨⟨s, x'⟩, hsr, he⟩ := List.mem_map.mp hm
      simp only [addKey, Prod.mk.injEq] at he
      obtain ⟨rfl, rfl⟩ := he
      have hoks : keyOk s = true := keyOk_append_right key s hok
      obtain ⟨pre, c, post, hp, hmc⟩ := pick_of_mem hkids hnd hoks hsr
      obtain ⟨rfl, -, -⟩ := pick_some hp
      cases s with
      | nil => exact absurd rfl (sufsKids_ne_nil hkids _ hsr)
      | cons t ts => exact .under hp (ih c (by simp) (b := false) (wfKids_mem hkids (by simp)) hoks hmc)

/-! ### a registered suffix is found by `updateNode` and `removeNode` -/

theorem found_updateNode (r : Route) {n : Node} {toks : List Tok} {x : Route} (h : Reg n toks x) :
    (updateNode n toks r).isSome = true := by
  induction h with
  | @here key x cs =>
    have := updateNode_hit key [] (some x) cs r
    rw [List.append_nil] at this
    rw [this]; rfl
  | @under key route pre c post t ts x hp hc ih =>
    rw [updateNode_hit]
    simp only [updateKids_pick, hp]
    cases hu : updateNode c (t :: ts) r with
    | none => rw [hu] at ih; cases ih
    | some c' => rfl

theorem found_removeNode {n : Node} {toks : List Tok} {x : Route} (h : Reg n toks x) (isRoot : Bool) :
    (removeNode n isRoot toks).isSome = true := by
  induction h generalizing isRoot with
  | @here key x cs =>
    rw [removeNode_hit_nil]
    rcases cs with _ | ⟨c, _ | ⟨c2, cs⟩⟩ <;> rfl
  | @under key route pre c post t ts x hp hc ih =>
    have hb := removeNode_below key route (pre ++ c :: post) isRoot t ts
    rw [hp] at hb
    dsimp only at hb
    have ihc := ih false
    cases hr : removeNode c false (t :: ts) with
    | none => rw [hr] at ihc; cases ihc
    | some y =>
      rw [hr] at hb
      obtain ⟨res, cse, he, -⟩ := hb
      rw [he]; rfl

/-! ### the conflict rule on suffix sets -/

open Fox.Spec (conflictWith dropCommon)

theorem dropCommon_append (p a b : List Tok) : dropCommon (p ++ a) (p ++ b) = dropCommon a b := by
  induction p with
  | nil => rfl
  | cons t p ih => simp [dropCommon, ih]

theorem conflictWith_append (p a b : List Tok) : conflictWith (p ++ a) (p ++ b) = conflictWith a b := by
  simp [conflictWith, dropCommon_append]

theorem conflictWith_nil_left (b : List Tok) : conflictWith [] b = false := by
  cases b <;> simp [conflictWith, dropCommon]

theorem conflictWith_nil_right (a : List Tok) : conflictWith a [] = false := by
  cases a with
  | nil => simp [conflictWith, dropCommon]
  | cons x xs => cases x <;> simp [conflictWith, dropCommon]

theorem conflictWith_cons_ne {x y : Tok} (a b : List Tok) (h : x ≠ y) :
    conflictWith (x :: a) (y :: b) = isWildSame x y := by
  cases x <;> cases y <;> simp_all [conflictWith, dropCommon, isWildSame]

theorem conflictWith_kind_ne {a b : List Tok} (h : kindOf a ≠ kindOf b) : conflictWith a b = false := by
  cases a with
  | nil => exact conflictWith_nil_left b
  | cons x xs =>
    cases b with
    | nil => exact conflictWith_nil_right _
    | cons y ys =>
      have hxy : x ≠ y := by intro e; subst e; cases x <;> simp [kindOf] at h
      rw [conflictWith_cons_ne _ _ hxy]
      cases x <;> cases y <;> simp_all [kindOf, isWildSame]

/-- the routes of a suffix set whose suffix conflicts with `toks` -/
def conflictsIn (S : Spec.SufSet) (toks : List Tok) : List Route :=
  (S.filter (fun sr => conflictWith sr.1 toks)).map (·.2)

def confOf : Option InsErr → List Route
  | some (.conflict cs) => cs
  | _ => []

/-- what the error of an insertion of `toks` says about the suffix set `S` of the visited subtree -/
def ErrSpec (S : Spec.SufSet) (toks : List Tok) (e : Option InsErr) : Prop :=
  conflictsIn S toks = confOf e ∧
  (match e with
   | some (.exist x) => (toks, x) ∈ S
   | _ => ∀ sr ∈ S, sr.1 ≠ toks)

def errOf {α} : Except InsErr α → Option InsErr
  | .error e => some e
  | .ok _ => none

theorem conflictsIn_append (S T : Spec.SufSet) (toks : List Tok) :
    conflictsIn (S ++ T) toks = conflictsIn S toks ++ conflictsIn T toks := by
  simp [conflictsIn]

theorem conflictsIn_map_addKey (p : List Tok) (K : Spec.SufSet) (ta : List Tok) :
    conflictsIn (K.map (addKey p)) (p ++ ta) = conflictsIn K ta := by
  simp only [conflictsIn, List.filter_map, List.map_map]
  congr 1
  apply List.filter_congr
  intro sr _
  simp [addKey, conflictWith_append]

theorem ErrSpec_append_right {S T : Spec.SufSet} {toks : List Tok} {e : Option InsErr}
    (h1 : ErrSpec S toks e) (h2 : ErrSpec T toks none) : ErrSpec (S ++ T) toks e := by
  obtain ⟨c1, m1⟩ := h1
  obtain ⟨c2, m2⟩ := h2
  refine ⟨by rw [conflictsIn_append, c1, c2]; simp [confOf], ?_⟩
  rcases e with _ | (x | cs)
  · intro sr hsr; rcases List.mem_append.mp hsr with h | h
    · exact m1 sr h
    · exact m2 sr h
  · exact List.mem_append_left _ m1
  · intro sr hsr; rcases List.mem_append.mp hsr with h | h
    · exact m1 sr h
    · exact m2 sr h

theorem ErrSpec_append_left {S T : Spec.SufSet} {toks : List Tok} {e : Option InsErr}
    (h1 : ErrSpec S toks none) (h2 : ErrSpec T toks e) : ErrSpec (S ++ T) toks e := by
  obtain ⟨c1, m1⟩ := h1
  obtain ⟨c2, m2⟩ := h2
  refine ⟨by rw [conflictsIn_append, c1, c2]; simp [confOf], ?_⟩
  rcases e with _ | (x | cs)
  · intro sr hsr; rcases List.mem_append.mp hsr with h | h
    · exact m1 sr h
    · exact m2 sr h
  · exact List.mem_append_right _ m2
  · intro sr hsr; rcases List.mem_append.mp hsr with h | h
    · exact m1 sr h
    · exact m2 sr h

theorem ErrSpec_map_addKey (p : List Tok) {K : Spec.SufSet} {ta : List Tok} {e : Option InsErr}
    (h : ErrSpec K ta e) : ErrSpec (K.map (addKey p)) (p ++ ta) e := by
  obtain ⟨c, m⟩ := h
  refine ⟨by rw [conflictsIn_map_addKey, c], ?_⟩
  rcases e with _ | (x | cs)
  · intro sr hsr
    obtain ⟨sr', h', rfl⟩ := List.mem_map.mp hsr
    simp only [addKey, ne_eq, List.append_cancel_left_eq]; exact m sr' h'
  · exact List.mem_map.mpr ⟨(ta, x), m, rfl⟩
  · intro sr hsr
    obtain ⟨sr', h', rfl⟩ := List.mem_map.mp hsr
    simp only [addKey, ne_eq, List.append_cancel_left_eq]; exact m sr' h'

theorem ErrSpec_none_of {S : Spec.SufSet} {toks : List Tok}
    (h : ∀ sr ∈ S, sr.1 ≠ toks ∧ conflictWith sr.1 toks = false) : ErrSpec S toks none := by
  refine ⟨?_, fun sr hsr => (h sr hsr).1⟩
  simp only [conflictsIn, confOf, List.map_eq_nil_iff, List.filter_eq_nil_iff]
  intro sr hsr; simp [(h sr hsr).2]

theorem ErrSpec_kids_other {cs : List Node} {toks : List Tok} (hwf : ∀ c ∈ cs, wfNode c = true)
    (h : ∀ c ∈ cs, kindOf c.key ≠ kindOf toks) : ErrSpec (sufsKids cs) toks none :=
  ErrSpec_none_of fun sr hsr => by
    obtain ⟨c, hc, hk⟩ := List.mem_map.mp (kindsOf_eq_map cs ▸ sufsKids_kind (wfKids_of_forall hwf) sr hsr)
    have hne : kindOf sr.1 ≠ kindOf toks := fun e => h c hc (hk.trans e)
    exact ⟨fun e => hne (by rw [e]), conflictWith_kind_ne hne⟩

/-- what an insertion of `toks` at or below `n` reports: `ErrRouteExist` exactly if `toks` is registered there,
    otherwise the routes whose suffix conflicts with `toks` -/
theorem err_insertN (r : Route) (n : Node) : ∀ (isRoot : Bool) (consumed d : Nat) (toks : List Tok),
    wfN isRoot n = true → toks ≠ [] → keyOk toks = true →
    ErrSpec (sufsNode n) toks (errOf (insertNode n isRoot consumed d toks r)) := by
  induction n using Node.ind with
  | h key route cs ih =>
    intro isRoot consumed d toks hwf hne hok
    obtain ⟨hroot, -, hnd, hkids⟩ := (wfN_iff ..).mp hwf
    obtain ⟨ka, ta, hk, ht, hd⟩ := cp_split key toks
    generalize commonPrefix key toks = p at hk ht
    subst hk ht
    -- the common prefix `p` plays no part: strip it from the suffixes and from the pattern
    rw [insertNode_eq p ka ta hd, ← sufs_lower p ka route cs]
    refine ErrSpec_map_addKey p ?_
    rcases ka with _ | ⟨a, as⟩
    · rw [sufsNode_own, map_addKey_nil]
      rcases ta with _ | ⟨t, ts⟩ <;> simp only []
      · have hK : ErrSpec (sufsKids cs) [] none :=
          ErrSpec_none_of fun sr hsr => ⟨sufsKids_ne_nil hkids sr hsr, conflictWith_nil_right _⟩
        cases route with
        | some e =>
          exact ErrSpec_append_right
            ⟨by simp [conflictsIn, own, errOf, confOf, conflictWith_nil_left], by simp [errOf, own]⟩ hK
        | none => exact hK
      · have hok' : keyOk (t :: ts) = true := keyOk_append_right p _ hok
        have hown : ErrSpec (own [] route) (t :: ts) none := ErrSpec_none_of fun sr hsr => by
          cases route with
          | none => cases hsr
          | some x => obtain rfl := List.mem_singleton.mp hsr; exact ⟨(List.cons_ne_nil _ _).symm, conflictWith_nil_left _⟩
        refine ErrSpec_append_left hown ?_
        rw [insertKids_pick]
        cases hp : pickKid (t :: ts) cs with
        | none => exact ErrSpec_kids_other (fun c => wfKids_mem hkids) (pick_none_kind hkids (by simp) hok' hp)
        | some x =>
          obtain ⟨pre, c, post⟩ := x
          obtain ⟨-, hpre, hpost⟩ := pick_kind hkids hnd (by simp) hok' hp
          obtain ⟨rfl, -, -⟩ := pick_some hp
          have hw := fun x => wfKids_mem hkids (c := x)
          simp only [List.forall_mem_append, List.forall_mem_cons] at hw
          have hc := ih c (by simp) false (consumed + p.length) (d + 1) (t :: ts) hw.2.1 (by simp) hok'
          rw [sufsKids_append, sufsKids_cons]
          refine ErrSpec_append_left (ErrSpec_kids_other hw.1 hpre) (ErrSpec_append_right ?_ (ErrSpec_kids_other hw.2.2 hpost))
          dsimp only
          cases hi : insertNode c false (consumed + p.length) (d + 1) (t :: ts) r with
          | error e => rw [hi] at hc; exact hc
          | ok res => rw [hi] at hc; exact hc
    · -- every suffix below goes on with `a`
      have hall : ∀ sr ∈ sufsNode (.mk (a :: as) route cs), ∃ s', sr.1 = a :: s' := fun sr hsr => by
        obtain ⟨s, hs⟩ := sufsNode_key _ route cs sr hsr
        exact ⟨as ++ s, hs⟩
      rcases ta with _ | ⟨b, bs⟩ <;> simp only []
      · exact ErrSpec_none_of fun sr hsr => by
          obtain ⟨s', hs'⟩ := hall sr hsr
          rw [hs']; exact ⟨List.cons_ne_nil _ _, conflictWith_nil_right _⟩
      · simp only [HeadsDiffer] at hd
        obtain rfl := wfN_inner hwf (by simp)
        simp only [Bool.false_eq_true, if_false]
        have hcw : ∀ sr ∈ sufsNode (.mk (a :: as) route cs),
            sr.1 ≠ b :: bs ∧ conflictWith sr.1 (b :: bs) = isWildSame a b := fun sr hsr => by
          obtain ⟨s', hs'⟩ := hall sr hsr
          rw [hs']; exact ⟨by simp [hd], conflictWith_cons_ne _ _ hd⟩
        cases hw : isWildSame a b with
        | true =>
          simp only [if_true, errOf]
          refine ⟨?_, fun sr hsr => (hcw sr hsr).1⟩
          simp only [conflictsIn, confOf]
          rw [List.filter_eq_self.mpr fun sr hsr => by rw [(hcw sr hsr).2, hw], routesNode_eq, ← sufs_lower p,
            List.map_map]
          rfl
        | false =>
          simp only [Bool.false_eq_true, if_false, errOf]
          exact ErrSpec_none_of fun sr hsr => ⟨(hcw sr hsr).1, by rw [(hcw sr hsr).2, hw]⟩

theorem err_insertNode (r : Route) : ∀ (n : Node) (consumed d : Nat) (toks : List Tok),
    wfNode n = true → toks ≠ [] → keyOk toks = true → kindOf n.key = kindOf toks →
    ErrSpec (sufsNode n) toks (errOf (insertNode n false consumed d toks r)) :=
  fun n consumed d toks hwf hne hok _ => err_insertN r n false consumed d toks hwf hne hok

end Fox.Model
