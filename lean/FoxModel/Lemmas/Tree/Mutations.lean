import FoxModel.Lemmas.NodeBasics
/-
  FoxModel.Lemmas.Tree.Mutations — the radix-tree mutations (`insertNode`, `updateNode`, `removeNode`) as derivations.

  Each mutation is read once at a node whose key and pattern are split at their common prefix (`cp_split`), the
  child that `getEdge` selects made explicit (`pickKid`): that gives, per mutation, an inductive relation between a
  node, the pattern and the result with one constructor per case of the Go code (`Ins` and, for errors, `InsFail`;
  `Upd`; `Rmv`, with `RemUp` for what a node does with what its child became), and one theorem saying that the
  function's result is so related (`insertNode_cases`, `Upd.of_some`, `Rmv.of_some`). Every invariant of a node is
  carried through a mutation by induction on such a derivation.
-/

namespace Fox.Model
open Fox

/-! ### sorting only permutes -/

theorem insertSorted_perm (c : Node) (cs : List Node) : (insertSorted c cs).Perm (c :: cs) := by
  induction cs with
  | nil => simp [insertSorted]
  | cons d ds ih =>
    simp only [insertSorted]
    split
    · exact List.Perm.refl _
    · exact (List.Perm.cons d ih).trans (List.Perm.swap c d ds)

theorem sortKids_perm (cs : List Node) : (sortKids cs).Perm cs := by
  induction cs with
  | nil => simp [sortKids]
  | cons c cs ih =>
    have : sortKids (c :: cs) = insertSorted c (sortKids cs) := by simp [sortKids]
    rw [this]
    exact (insertSorted_perm c _).trans (List.Perm.cons c ih)

theorem sortKids_nil : sortKids [] = [] := rfl
theorem sortKids_single (x : Node) : sortKids [x] = [x] := rfl

theorem kindsOf_perm {cs ds : List Node} (h : cs.Perm ds) : (kindsOf cs).Perm (kindsOf ds) := by
  rw [kindsOf_eq_map, kindsOf_eq_map]; exact h.map _

theorem wfKids_perm {cs ds : List Node} (h : cs.Perm ds) : wfKids cs = wfKids ds := by
  rw [wfKids_eq_all, wfKids_eq_all]; exact h.all_eq

theorem allSlash_perm {cs ds : List Node} (h : cs.Perm ds) : allSlash cs = allSlash ds := by
  rw [allSlash_eq_all, allSlash_eq_all]; exact h.all_eq

theorem nodupB_perm {α} [BEq α] [LawfulBEq α] {l l' : List α} (h : l.Perm l') : nodupB l = nodupB l' := by
  rw [Bool.eq_iff_iff, nodupB_iff, nodupB_iff]; exact h.nodup_iff

theorem sufsKids_perm {cs ds : List Node} (h : cs.Perm ds) : (sufsKids cs).Perm (sufsKids ds) := by
  rw [sufsKids_eq_flatMap, sufsKids_eq_flatMap]; exact h.flatMap_right _

/-! ### common prefix -/

def HeadsDiffer : List Tok → List Tok → Prop
  | x :: _, y :: _ => x ≠ y
  | _, _ => True

theorem cp_split (a b : List Tok) :
    ∃ a' b', a = commonPrefix a b ++ a' ∧ b = commonPrefix a b ++ b' ∧ HeadsDiffer a' b' := by
  induction a generalizing b with
  | nil => exact ⟨[], b, by simp [commonPrefix], by simp [commonPrefix], by simp [HeadsDiffer]⟩
  | cons x xs ih =>
    cases b with
    | nil => exact ⟨x :: xs, [], by simp [commonPrefix], by simp [commonPrefix], by simp [HeadsDiffer]⟩
    | cons y ys =>
      by_cases hxy : x = y
      · subst hxy
        obtain ⟨a', b', h1, h2, h3⟩ := ih ys
        refine ⟨a', b', ?_, ?_, h3⟩
        · simp only [commonPrefix, if_true, List.cons_append]; rw [← h1]
        · simp only [commonPrefix, if_true, List.cons_append]; rw [← h2]
      · exact ⟨x :: xs, y :: ys, by simp [commonPrefix, hxy], by simp [commonPrefix, hxy], by simpa [HeadsDiffer] using hxy⟩

theorem commonPrefix_append (p a b : List Tok) (h : HeadsDiffer a b) : commonPrefix (p ++ a) (p ++ b) = p := by
  induction p with
  | nil =>
    cases a with
    | nil => simp [commonPrefix]
    | cons x xs =>
      cases b with
      | nil => simp [commonPrefix]
      | cons y ys => simp only [HeadsDiffer] at h; simp [commonPrefix, h]
  | cons t p ih => simp [commonPrefix, ih]

/-! ### the mutations at a node whose key and pattern are split at their common prefix: equations -/

theorem insertNode_eq (p ka ta : List Tok) (hd : HeadsDiffer ka ta) (route cs isRoot consumed d r) :
    insertNode (.mk (p ++ ka) route cs) isRoot consumed d (p ++ ta) r =
      match (generalizing := false) ka, ta with
      | [], [] =>
        (match route with
         | some e => .error (.exist e)
         | none => .ok ⟨.mk p (some r) cs, 0, .exact⟩)
      | k :: ks, [] => .ok ⟨newNode p (some r) [.mk (k :: ks) route cs], d + 1, .keyEndMidEdge⟩
      | [], t :: ts =>
        (match insertKids cs (consumed + p.length) (d + 1) (t :: ts) r with
         | some (.error e) => .error e
         | some (.ok (cs', dep, c)) => .ok ⟨.mk p route cs', dep, c⟩
         | none =>
           .ok ⟨newNode p route (cs ++ [(newLeaf r (consumed + p.length) (t :: ts)).1]),
                d + (if (newLeaf r (consumed + p.length) (t :: ts)).2 then 2 else 1),
                if (newLeaf r (consumed + p.length) (t :: ts)).2 then .toEndOfEdgeHostSplit else .toEndOfEdge⟩)
      | a :: as, b :: bs =>
        if isRoot then .error (.conflict [])
        else if isWildSame a b then .error (.conflict (routesNode (.mk (p ++ a :: as) route cs)))
        else
          .ok ⟨newNode p none [(newLeaf r (consumed + p.length) (b :: bs)).1, .mk (a :: as) route cs],
               d + (if (newLeaf r (consumed + p.length) (b :: bs)).2 then 2 else 1),
               if (newLeaf r (consumed + p.length) (b :: bs)).2 then .middleOfEdgeHostSplit else .middleOfEdge⟩ := by
  have h := commonPrefix_append p ka ta hd
  unfold insertNode
  generalize commonPrefix (p ++ ka) (p ++ ta) = q at h
  subst h
  dsimp only
  rw [List.drop_left, List.drop_left]
  cases ka <;> cases ta <;> simp only [List.append_nil]
  all_goals rfl

theorem updateNode_miss (p : List Tok) (a : Tok) (as ta : List Tok) (route : Option Route) (cs : List Node)
    (r : Route) (hd : HeadsDiffer (a :: as) ta) :
    updateNode (.mk (p ++ a :: as) route cs) (p ++ ta) r = none := by
  unfold updateNode
  simp [commonPrefix_append p (a :: as) ta hd]

theorem updateNode_hit (p ta : List Tok) (route : Option Route) (cs : List Node) (r : Route) :
    updateNode (.mk p route cs) (p ++ ta) r =
      (match ta with
       | [] => (match route with | none => none | some _ => some (.mk p (some r) cs))
       | t :: ts => (updateKids cs (t :: ts) r).map (.mk p route ·)) := by
  have h := commonPrefix_append p [] ta (by cases ta <;> simp [HeadsDiffer])
  simp only [List.append_nil] at h
  unfold updateNode
  simp only [h, Nat.lt_irrefl, if_false, List.drop_left]
  cases ta <;> rfl

theorem removeNode_miss (p : List Tok) (a : Tok) (as ta : List Tok) (route : Option Route) (cs : List Node)
    (isRoot : Bool) (hd : HeadsDiffer (a :: as) ta) :
    removeNode (.mk (p ++ a :: as) route cs) isRoot (p ++ ta) = none := by
  unfold removeNode
  simp [commonPrefix_append p (a :: as) ta hd]

theorem removeNode_hit_nil (p : List Tok) (route : Option Route) (cs : List Node) (isRoot : Bool) :
    removeNode (.mk p route cs) isRoot p =
      (match route with
       | none => none
       | some r =>
         match cs with
         | [] => some (.vanished, r, .dropLeaf)
         | [c] => some (.replaced (.mk (p ++ c.key) c.route c.children), r, .mergeChild)
         | _ => some (.replaced (.mk p none cs), r, .keepBranch)) := by
  have h := commonPrefix_append p [] [] (by simp [HeadsDiffer])
  simp only [List.append_nil] at h
  unfold removeNode
  simp only [h, Nat.lt_irrefl, if_false, List.drop_length]
  rcases route with _ | r
  · rfl
  · rcases cs with _ | ⟨c, _ | ⟨c2, cs⟩⟩ <;> rfl

/-! ### induction over nodes, and the child selected by `getEdge` -/

mutual
theorem Node.ind {P : Node → Prop} (h : ∀ k r cs, (∀ c ∈ cs, P c) → P (.mk k r cs)) : ∀ n : Node, P n
  | .mk k r cs => h k r cs (Node.ind_kids P h cs)
theorem Node.ind_kids (P : Node → Prop) (h : ∀ k r cs, (∀ c ∈ cs, P c) → P (.mk k r cs)) :
    ∀ (cs : List Node), ∀ c ∈ cs, P c
  | [], _, hc => by cases hc
  | d :: ds, c, hc =>
    (List.mem_cons.mp hc).elim (fun e => e ▸ Node.ind h d) (fun h' => Node.ind_kids P h ds c h')
end

/-- the first child whose key starts with the same byte as `toks` (what `getEdge` returns), with its siblings -/
def pickKid (toks : List Tok) : List Node → Option (List Node × Node × List Node)
  | [] => none
  | c :: cs =>
    if firstByte c.key = firstByte toks then some ([], c, cs)
    else (pickKid toks cs).map fun x => (c :: x.1, x.2.1, x.2.2)

theorem pickKid_spec (toks : List Tok) (cs : List Node) :
    match pickKid toks cs with
    | some (pre, c, post) =>
      cs = pre ++ c :: post ∧ firstByte c.key = firstByte toks ∧ ∀ x ∈ pre, firstByte x.key ≠ firstByte toks
    | none => ∀ x ∈ cs, firstByte x.key ≠ firstByte toks := by
  induction cs with
  | nil => simp [pickKid]
  | cons d ds ih =>
    simp only [pickKid]
    by_cases hfb : firstByte d.key = firstByte toks
    · simp only [if_pos hfb]
      exact ⟨rfl, hfb, by simp⟩
    · cases hp : pickKid toks ds with
      | none =>
        rw [hp] at ih
        simp only [if_neg hfb, Option.map_none]
        exact List.forall_mem_cons.mpr ⟨hfb, ih⟩
      | some x =>
        obtain ⟨pre, c, post⟩ := x
        rw [hp] at ih
        simp only [if_neg hfb, Option.map_some]
        exact ⟨by rw [ih.1]; rfl, ih.2.1, List.forall_mem_cons.mpr ⟨hfb, ih.2.2⟩⟩

theorem pick_some {toks : List Tok} {cs pre post : List Node} {c : Node} (h : pickKid toks cs = some (pre, c, post)) :
    cs = pre ++ c :: post ∧ firstByte c.key = firstByte toks ∧ ∀ x ∈ pre, firstByte x.key ≠ firstByte toks := by
  have := pickKid_spec toks cs
  rw [h] at this; exact this

theorem pick_none {toks : List Tok} {cs : List Node} (h : pickKid toks cs = none) :
    ∀ x ∈ cs, firstByte x.key ≠ firstByte toks := by
  have := pickKid_spec toks cs
  rw [h] at this; exact this

theorem insertKids_pick (r : Route) (consumed d : Nat) (toks : List Tok) (cs : List Node) :
    insertKids cs consumed d toks r =
      (match pickKid toks cs with
       | none => none
       | some (pre, c, post) =>
         some (match insertNode c false consumed d toks r with
               | .error e => .error e
               | .ok ⟨c', dep, cse⟩ => .ok (pre ++ c' :: post, dep, cse))) := by
  induction cs with
  | nil => simp [insertKids, pickKid]
  | cons c cs ih =>
    unfold insertKids
    simp only [pickKid]
    split
    · simp only [List.nil_append]
      cases insertNode c false consumed d toks r <;> rfl
    · rw [ih]
      cases hp : pickKid toks cs with
      | none => rfl
      | some x =>
        obtain ⟨pre, c', post⟩ := x
        simp only [Option.map_some, List.cons_append]
        cases insertNode c' false consumed d toks r <;> rfl

theorem updateKids_pick (r : Route) (toks : List Tok) (cs : List Node) :
    updateKids cs toks r =
      (match pickKid toks cs with
       | none => none
       | some (pre, c, post) => (updateNode c toks r).map fun c' => pre ++ c' :: post) := by
  induction cs with
  | nil => simp [updateKids, pickKid]
  | cons c cs ih =>
    unfold updateKids
    simp only [pickKid]
    split
    · simp only [List.nil_append]
    · rw [ih]
      cases hp : pickKid toks cs with
      | none => rfl
      | some x =>
        obtain ⟨pre, c', post⟩ := x
        simp only [Option.map_some, List.cons_append, Option.map_map]
        rfl

theorem removeKids_pick (toks : List Tok) (cs : List Node) (j : Nat) :
    removeKids cs j toks =
      (match pickKid toks cs with
       | none => none
       | some (pre, c, _) => (removeNode c false toks).map fun x => (j + pre.length, x)) := by
  induction cs generalizing j with
  | nil => simp [removeKids, pickKid]
  | cons c cs ih =>
    unfold removeKids
    simp only [pickKid]
    split
    · simp only [List.length_nil, Nat.add_zero]
      cases removeNode c false toks with
      | none => rfl
      | some x => obtain ⟨a, b, c⟩ := x; rfl
    · rw [ih (j + 1)]
      cases hp : pickKid toks cs with
      | none => rfl
      | some x =>
        obtain ⟨pre, c', post⟩ := x
        simp only [Option.map_some, List.length_cons]
        rw [Nat.add_assoc, Nat.add_comm 1]

theorem pick_kind {toks : List Tok} {cs pre post : List Node} {c : Node}
    (hwf : wfKids cs = true) (hnd : (kindsOf cs).Nodup) (hne : toks ≠ []) (hok : keyOk toks = true)
    (hp : pickKid toks cs = some (pre, c, post)) :
    kindOf c.key = kindOf toks ∧ (∀ x ∈ pre, kindOf x.key ≠ kindOf toks) ∧ (∀ x ∈ post, kindOf x.key ≠ kindOf toks) := by
  obtain ⟨rfl, hfb, hpre⟩ := pick_some hp
  have key := fun x hx => firstByte_eq_iff_wf (wfKids_mem hwf (c := x) hx) hne hok
  have hck := (key c (by simp)).mp hfb
  refine ⟨hck, fun x hx e => hpre x hx ((key x (by simp [hx])).mpr e), fun x hx e => ?_⟩
  rw [kindsOf_eq_map, List.map_append, List.map_cons, List.nodup_append] at hnd
  exact (List.nodup_cons.mp hnd.2.1).1 (hck ▸ e ▸ List.mem_map_of_mem hx)

theorem pick_none_kind {toks : List Tok} {cs : List Node}
    (hwf : wfKids cs = true) (hne : toks ≠ []) (hok : keyOk toks = true) (hp : pickKid toks cs = none) :
    ∀ x ∈ cs, kindOf x.key ≠ kindOf toks :=
  fun _ hx e => pick_none hp _ hx ((firstByte_eq_iff_wf (wfKids_mem hwf hx) hne hok).mpr e)

/-! ### `insertNode` as derivations -/

/-- `Ins r b consumed n toks n'`: registering `r`, whose pattern goes on with `toks`, at the node `n` (a method root
    iff `b`; `consumed` pattern tokens lie before its key) rebuilds `n` as `n'`. One constructor per case of
    `tXn.insert`: exact match, key end mid-edge, descent into the child that `getEdge` selects, a new leaf at the end
    of the edge, a split in the middle of the edge. -/
inductive Ins (r : Route) : Bool → Nat → Node → List Tok → Node → Prop
  | exact {b consumed key cs} : Ins r b consumed (.mk key none cs) key (.mk key (some r) cs)
  | keyEnd {b consumed toks a as route cs} :
      Ins r b consumed (.mk (toks ++ a :: as) route cs) toks (newNode toks (some r) [.mk (a :: as) route cs])
  | descend {b consumed key route pre c post t ts c'} :
      pickKid (t :: ts) (pre ++ c :: post) = some (pre, c, post) →
      Ins r false (consumed + key.length) c (t :: ts) c' →
      Ins r b consumed (.mk key route (pre ++ c :: post)) (key ++ t :: ts) (.mk key route (pre ++ c' :: post))
  | addLeaf {b consumed key route cs t ts} : pickKid (t :: ts) cs = none →
      Ins r b consumed (.mk key route cs) (key ++ t :: ts)
        (newNode key route (cs ++ [(newLeaf r (consumed + key.length) (t :: ts)).1]))
  | split {consumed p a as b bs route cs} : a ≠ b → isWildSame a b = false →
      Ins r false consumed (.mk (p ++ a :: as) route cs) (p ++ b :: bs)
        (newNode p none [(newLeaf r (consumed + p.length) (b :: bs)).1, .mk (a :: as) route cs])

/-- where an error of `insertNode` comes from: the pattern is registered; a child reports it; the walk leaves the key
    inside it, at a root (cannot happen) or where two wildcards of one kind meet -/
inductive InsFail : Bool → Node → List Tok → InsErr → Prop
  | exist {b key x cs} : InsFail b (.mk key (some x) cs) key (.exist x)
  | child {b key route pre c post t ts e} : InsFail false c (t :: ts) e →
      InsFail b (.mk key route (pre ++ c :: post)) (key ++ t :: ts) e
  | atRoot {key route cs toks} : key ≠ [] → InsFail true (.mk key route cs) toks (.conflict [])
  | wildcard {key route cs toks} : key ≠ [] →
      InsFail false (.mk key route cs) toks (.conflict (routesNode (.mk key route cs)))

theorem insertNode_cases (r : Route) (n : Node) : ∀ (b : Bool) (consumed d : Nat) (toks : List Tok),
    match insertNode n b consumed d toks r with
    | .ok res => Ins r b consumed n toks res.node
    | .error e => InsFail b n toks e := by
  induction n using Node.ind with
  | h key route cs ih =>
    intro b consumed d toks
    obtain ⟨ka, ta, hk, ht, hd⟩ := cp_split key toks
    generalize commonPrefix key toks = p at hk ht
    have heq := insertNode_eq p ka ta hd route cs b consumed d r
    rw [← hk, ← ht] at heq
    rw [heq]
    clear heq
    rcases ka with _ | ⟨a, as⟩ <;> rcases ta with _ | ⟨b', bs⟩
    · rw [List.append_nil] at hk ht
      subst hk ht
      cases route with
      | some x => exact .exist
      | none => exact .exact
    · rw [List.append_nil] at hk
      subst hk ht
      dsimp only
      rw [insertKids_pick]
      cases hp : pickKid (b' :: bs) cs with
      | none => exact .addLeaf hp
      | some x =>
        obtain ⟨pre, c, post⟩ := x
        obtain ⟨rfl, -, -⟩ := pick_some hp
        have hc := ih c (by simp) false (consumed + key.length) (d + 1) (b' :: bs)
        dsimp only
        cases hi : insertNode c false (consumed + key.length) (d + 1) (b' :: bs) r with
        | error e => rw [hi] at hc; exact .child hc
        | ok cres => rw [hi] at hc; exact .descend hp hc
    · rw [List.append_nil] at ht
      subst hk ht
      exact .keyEnd
    · subst hk ht
      dsimp only
      cases b with
      | true => exact .atRoot (by simp)
      | false =>
        cases hw : isWildSame a b' with
        | true => exact .wildcard (by simp)
        | false => exact .split hd hw

theorem Ins.of_ok {r : Route} {n : Node} {b : Bool} {consumed d : Nat} {toks : List Tok} {res : InsOk}
    (h : insertNode n b consumed d toks r = .ok res) : Ins r b consumed n toks res.node := by
  have := insertNode_cases r n b consumed d toks
  rwa [h] at this

theorem InsFail.of_error {r : Route} {n : Node} {b : Bool} {consumed d : Nat} {toks : List Tok} {e : InsErr}
    (h : insertNode n b consumed d toks r = .error e) : InsFail b n toks e := by
  have := insertNode_cases r n b consumed d toks
  rwa [h] at this

/-- the rebuilt node can take the node's place among its siblings: its key starts with a token of the same kind. An
    inner node is entered only through `pickKid`, so its key and the pattern start alike (last hypothesis): that is
    what keeps the upper key of a split in the middle of the edge non-empty. -/
theorem Ins.key_kind {r : Route} {b : Bool} {consumed : Nat} {n n' : Node} {toks : List Tok}
    (h : Ins r b consumed n toks n') (hne : toks ≠ []) (hkind : b = false → kindOf n.key = kindOf toks) :
    kindOf n'.key = kindOf n.key := by
  cases h with
  | exact => rfl
  | keyEnd => exact (kindOf_append _ hne).symm
  | descend => rfl
  | addLeaf => rfl
  | split hab hw =>
    refine (kindOf_append _ fun hp => ?_).symm
    subst hp
    exact kind_ne_of_ne _ _ hab hw (hkind rfl)

/-! ### `updateNode`, `removeNode` as derivations -/

/-- `Upd r n toks n'`: replacing by `r` the route registered for `toks` at or below `n` gives `n'` -/
inductive Upd (r : Route) : Node → List Tok → Node → Prop
  | here {key old cs} : Upd r (.mk key (some old) cs) key (.mk key (some r) cs)
  | descend {key route pre c post t ts c'} : Upd r c (t :: ts) c' →
      Upd r (.mk key route (pre ++ c :: post)) (key ++ t :: ts) (.mk key route (pre ++ c' :: post))

theorem Upd.of_some {r : Route} (n : Node) : ∀ {toks : List Tok} {n' : Node},
    updateNode n toks r = some n' → Upd r n toks n' := by
  induction n using Node.ind with
  | h key route cs ih =>
    intro toks n' h
    obtain ⟨ka, ta, hk, ht, hd⟩ := cp_split key toks
    generalize commonPrefix key toks = p at hk ht
    subst hk ht
    cases ka with
    | cons a as => rw [updateNode_miss _ _ _ _ _ _ _ hd] at h; cases h
    | nil =>
      simp only [List.append_nil] at h ⊢
      rw [updateNode_hit] at h
      cases ta with
      | nil =>
        cases route with
        | none => cases h
        | some old => cases h; rw [List.append_nil]; exact .here
      | cons t ts =>
        dsimp only at h
        rw [updateKids_pick] at h
        cases hp : pickKid (t :: ts) cs with
        | none => rw [hp] at h; cases h
        | some x =>
          obtain ⟨pre, c, post⟩ := x
          rw [hp] at h
          obtain ⟨cs', hcs', rfl⟩ := Option.map_eq_some_iff.mp h
          obtain ⟨c', hu, rfl⟩ := Option.map_eq_some_iff.mp hcs'
          obtain ⟨rfl, -, -⟩ := pick_some hp
          exact .descend (ih c (by simp) hu)

theorem Upd.key {r : Route} {n n' : Node} {toks : List Tok} (h : Upd r n toks n') : n'.key = n.key := by
  cases h <;> rfl

theorem set_mid {α} (pre : List α) (c c' : α) (post : List α) :
    (pre ++ c :: post).set pre.length c' = pre ++ c' :: post := by
  induction pre with
  | nil => rfl
  | cons x xs ih => simp [ih]

theorem erase_mid {α} (pre : List α) (c : α) (post : List α) :
    (pre ++ c :: post).eraseIdx pre.length = pre ++ post := by
  induction pre with
  | nil => rfl
  | cons x xs ih => simp [ih]

/-- how a node absorbs what its child became in a removal below it (`pre`, `post`: the child's siblings).
    `merge` is Go's merge of the parent, or of the grand-parent after a hostname node has gone, into its only remaining
    child; `rebuild` is `newNode` over the remaining children, and its hypothesis records why no merge took place. -/
inductive RemUp (key : List Tok) (route : Option Route) (isRoot : Bool) (pre post : List Node) : Rem → Rem → Prop
  | set (c' : Node) : RemUp key route isRoot pre post (.replaced c') (.replaced (.mk key route (pre ++ c' :: post)))
  | dropHost : pre ++ post = [] → route = none → isRoot = false → RemUp key route isRoot pre post .vanished .vanishedHost
  | merge (e : Node) {resc : Rem} : pre ++ post = [e] → route = none → isRoot = false →
      (resc = .vanished ∨ (resc = .vanishedHost ∧ startsWithSlash e.key = false)) →
      RemUp key route isRoot pre post resc (.replaced (.mk (key ++ e.key) e.route e.children))
  | rebuild {resc : Rem} :
      (resc = .vanished ∧ (route = none → isRoot = false → 2 ≤ (pre ++ post).length)) ∨
      (resc = .vanishedHost ∧ (route = none → isRoot = false → ∀ e, pre ++ post = [e] → startsWithSlash e.key = true)) →
      RemUp key route isRoot pre post resc (.replaced (newNode key route (pre ++ post)))

theorem removeNode_below (key : List Tok) (route : Option Route) (cs : List Node) (isRoot : Bool) (t : Tok)
    (ts : List Tok) :
    match pickKid (t :: ts) cs with
    | none => removeNode (.mk key route cs) isRoot (key ++ t :: ts) = none
    | some (pre, c, post) =>
      match removeNode c false (t :: ts) with
      | none => removeNode (.mk key route cs) isRoot (key ++ t :: ts) = none
      | some (resc, r, _) => ∃ res cse, removeNode (.mk key route cs) isRoot (key ++ t :: ts) = some (res, r, cse) ∧
          RemUp key route isRoot pre post resc res := by
  generalize hout : removeNode (.mk key route cs) isRoot (key ++ t :: ts) = out
  have h := commonPrefix_append key [] (t :: ts) trivial
  simp only [List.append_nil] at h
  unfold removeNode at hout
  simp only [h, Nat.lt_irrefl, if_false, List.drop_left, removeKids_pick, Nat.zero_add] at hout
  cases hp : pickKid (t :: ts) cs with
  | none => rw [hp] at hout; exact hout.symm
  | some x =>
    obtain ⟨pre, c, post⟩ := x
    obtain ⟨rfl, -, -⟩ := pick_some hp
    rw [hp] at hout
    dsimp only at hout ⊢
    cases hr : removeNode c false (t :: ts) with
    | none => rw [hr] at hout; exact hout.symm
    | some y =>
      obtain ⟨resc, r, cse⟩ := y
      rw [hr] at hout
      simp only [Option.map_some, removeFrom, set_mid, erase_mid] at hout
      dsimp only
      cases resc with
      | replaced c' => exact ⟨_, _, hout.symm, .set c'⟩
      | vanished =>
        dsimp only at hout
        split at hout
        · rename_i hc
          simp only [Bool.and_eq_true, List.isEmpty_iff, Option.isNone_iff_eq_none, Bool.not_eq_true'] at hc
          exact ⟨_, _, hout.symm, .dropHost hc.1.1 hc.1.2 hc.2⟩
        · rename_i hc
          simp only [Bool.and_eq_true, List.isEmpty_iff, Option.isNone_iff_eq_none, Bool.not_eq_true'] at hc
          split at hout
          · rename_i e hed
            split at hout
            · rename_i hm
              simp only [Bool.and_eq_true, Option.isNone_iff_eq_none, Bool.not_eq_true'] at hm
              exact ⟨_, _, hout.symm, .merge e hed hm.1 hm.2 (Or.inl rfl)⟩
            · rename_i hm
              simp only [Bool.and_eq_true, Option.isNone_iff_eq_none, Bool.not_eq_true'] at hm
              exact ⟨_, _, hout.symm, .rebuild (Or.inl ⟨rfl, fun h1 h2 => absurd ⟨h1, h2⟩ hm⟩)⟩
          · rename_i hne
            refine ⟨_, _, hout.symm, .rebuild (Or.inl ⟨rfl, fun h1 h2 => ?_⟩)⟩
            rcases hed : pre ++ post with _ | ⟨e, _ | ⟨e2, es⟩⟩
            · exact absurd ⟨⟨hed, h1⟩, h2⟩ hc
            · exact absurd hed (hne e)
            · simp
      | vanishedHost =>
        dsimp only at hout
        split at hout
        · rename_i e hed
          split at hout
          · rename_i hm
            simp only [Bool.and_eq_true, Option.isNone_iff_eq_none, Bool.not_eq_true'] at hm
            exact ⟨_, _, hout.symm, .merge e hed hm.1.1 hm.2 (Or.inr ⟨rfl, hm.1.2⟩)⟩
          · rename_i hm
            simp only [Bool.and_eq_true, Option.isNone_iff_eq_none, Bool.not_eq_true'] at hm
            refine ⟨_, _, hout.symm, .rebuild (Or.inr ⟨rfl, fun h1 h2 e' he' => ?_⟩)⟩
            obtain rfl : e = e' := List.singleton_inj.mp (hed.symm.trans he')
            cases hs : startsWithSlash e.key
            · exact absurd ⟨⟨h1, hs⟩, h2⟩ hm
            · rfl
        · rename_i hne
          exact ⟨_, _, hout.symm, .rebuild (Or.inr ⟨rfl, fun _ _ e he => absurd he (hne e)⟩)⟩

/-- what the node itself becomes when its own route is removed -/
def remHere (key : List Tok) (cs : List Node) : Rem :=
  match cs with
  | [] => .vanished
  | [c] => .replaced (.mk (key ++ c.key) c.route c.children)
  | _ => .replaced (.mk key none cs)

/-- `Rmv b n toks r res`: removing the route registered for `toks` at or below `n` (a method root iff `b`) takes
    out `r` and leaves `res` of `n` -/
inductive Rmv : Bool → Node → List Tok → Route → Rem → Prop
  | here {b key r cs} : Rmv b (.mk key (some r) cs) key r (remHere key cs)
  | under {b key route pre c post t ts r resc res} : Rmv false c (t :: ts) r resc →
      RemUp key route b pre post resc res → Rmv b (.mk key route (pre ++ c :: post)) (key ++ t :: ts) r res

theorem Rmv.of_some (n : Node) : ∀ {b : Bool} {toks : List Tok} {res : Rem} {r : Route} {cse : RemCase},
    removeNode n b toks = some (res, r, cse) → Rmv b n toks r res := by
  induction n using Node.ind with
  | h key route cs ih =>
    intro b toks res r cse h
    obtain ⟨ka, ta, hk, ht, hd⟩ := cp_split key toks
    generalize commonPrefix key toks = p at hk ht
    subst hk ht
    cases ka with
    | cons a as => rw [removeNode_miss _ _ _ _ _ _ _ hd] at h; cases h
    | nil =>
      simp only [List.append_nil] at h ⊢
      cases ta with
      | nil =>
        simp only [List.append_nil] at h ⊢
        rw [removeNode_hit_nil] at h
        cases route with
        | none => simp at h
        | some old => rcases cs with _ | ⟨c, _ | ⟨c2, cs⟩⟩ <;> cases h <;> exact .here
      | cons t ts =>
        have hb := removeNode_below p route cs b t ts
        cases hp : pickKid (t :: ts) cs with
        | none => rw [hp] at hb; rw [hb] at h; cases h
        | some x =>
          obtain ⟨pre, c, post⟩ := x
          rw [hp] at hb
          dsimp only at hb
          cases hr : removeNode c false (t :: ts) with
          | none => rw [hr] at hb; rw [hb] at h; cases h
          | some y =>
            obtain ⟨resc, r', csec⟩ := y
            rw [hr] at hb
            obtain ⟨res', cse', he, hup⟩ := hb
            rw [he] at h
            cases h
            obtain ⟨rfl, -, -⟩ := pick_some hp
            exact .under (ih c (by simp) hr) hup

end Fox.Model
