import FoxModel.Lemmas.PathStage
/-
  The hostname stage of the specification on a suffix set (`hostOnlyS`), and the trailing-slash candidates of the hostname
  walk (`lookupByDomain` propagates the first candidate of its path sub-lookups) against its slash-adjusted search.
-/
namespace Fox.Spec
open Fox

/-- the hostname stage of `Spec.route` on a suffix set instead of a route list (cf. `pathOnlyS`) -/
def hostOnlyS (S : SufSet) (host path : Bytes) (ps : Binds) : Option Found :=
  (first (specHost S host path ps) false).orElse fun _ =>
    match adjust path with
    | none => none
    | some (p', added) => first (specHost (if added then flt endsWithLitSlash S else S) host p' ps) true

theorem hostParamPart_nil' (h path ps) : hostParamPart [] h path ps = [] := by simp [hostParamPart]

end Fox.Spec

namespace Fox.Model
open Fox Fox.Spec

/-- the candidates of the hostname walk against the slash-adjusted search of `hostOnlyS` -/
theorem hostWalk_tsr (path : Bytes) (hn : noDbl path = true) (n : Node) (k : List Tok) (host : Bytes) (ps : Binds)
    (hw : wfKids n.children = true) (hd : nodupB (kindsOf n.children) = true) (hh : hostOkKids n.children = true)
    (hk : noSlashTok k = true) (hs : SLASH ∉ host) (hL : ∀ c ∈ n.children, LastOK (sufsNode c)) :
    SimTo (hostWalk n k host path ps)
      (specHost (flt (pOf (adjTarget path).2) (sufsFrom n k)) host (adjTarget path).1 ps) :=
  (hostWalk_rel (R := SimTo) (G := fun c => LastOK (sufsNode c)) _ path _ SimTo.nil SimTo.append
    (fun hL hx => (sufsNode_eq _ ▸ hL).kids.child hx)
    (fun ps hc hL hX => path_sim hc hL path ps hn (by rwa [pathEvents_direct hc] at hX))).1 n k host ps hw hd hh hk hs hL

end Fox.Model
