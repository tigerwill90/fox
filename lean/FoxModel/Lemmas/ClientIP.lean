import FoxModel.Spec.ClientIP
import FoxModel.Model.ClientIP
/-
  Helper lemmas for property C18 (client-IP resolvers): the two split iterators of `iterutil` yield the items of the
  declarative `splitOn`, forwards and backwards; `iterutil.At` is list indexing.
-/
namespace Fox.Lemmas.ClientIP
open Fox Fox.Model.ClientIP
open Fox.Spec.ClientIP (splitOn entries)

/-! ### cut -/

theorem cut_none {sep : UInt8} {s h : Bytes} (e : cut sep s = (h, none)) : h = s ∧ sep ∉ s := by
  fun_induction cut sep s generalizing h with
  | case1 => cases e; simp
  | case2 => cases e
  | case3 b bs hne h' r' hc ih =>
    cases e
    obtain ⟨rfl, hn⟩ := ih hc
    exact ⟨rfl, fun hm => (List.mem_cons.1 hm).elim (fun e => hne e.symm) hn⟩

theorem cut_some {sep : UInt8} {s h r : Bytes} (e : cut sep s = (h, some r)) : s = h ++ sep :: r ∧ sep ∉ h := by
  fun_induction cut sep s generalizing h with
  | case1 => cases e
  | case2 => cases e; simp
  | case3 b bs hne h' r' hc ih =>
    cases e
    obtain ⟨rfl, hn⟩ := ih hc
    exact ⟨rfl, fun hm => (List.mem_cons.1 hm).elim (fun e => hne e.symm) hn⟩

/-! ### splitOn -/

theorem splitOn_ne_nil (sep : UInt8) (s : Bytes) : splitOn sep s ≠ [] := by
  induction s with
  | nil => simp [splitOn]
  | cons b bs ih =>
    simp only [splitOn]
    split
    · simp
    · split <;> simp

theorem splitOn_nosep {sep : UInt8} {a : Bytes} (h : sep ∉ a) : splitOn sep a = [a] := by
  induction a with
  | nil => simp [splitOn]
  | cons b bs ih =>
    have hb : b ≠ sep := fun e => h (by simp [e])
    have ht : sep ∉ bs := fun e => h (List.mem_cons_of_mem _ e)
    simp [splitOn, hb, ih ht]

theorem splitOn_append_sep (sep : UInt8) (x y : Bytes) :
    splitOn sep (x ++ sep :: y) = splitOn sep x ++ splitOn sep y := by
  induction x with
  | nil => simp [splitOn]
  | cons b bs ih =>
    simp only [List.cons_append, splitOn]
    split
    · simp [ih]
    · rw [ih]
      cases hx : splitOn sep bs with
      | nil => exact absurd hx (splitOn_ne_nil sep bs)
      | cons h t => simp

/-! ### the Go iterators against `splitOn` -/

theorem splitFwd_none {sep : UInt8} {s h : Bytes} (e : cut sep s = (h, none)) : splitFwd sep s = [s] := by
  rw [splitFwd]
  split <;> simp_all

theorem splitFwd_some {sep : UInt8} {s h r : Bytes} (e : cut sep s = (h, some r)) :
    splitFwd sep s = h :: splitFwd sep r := by
  rw [splitFwd]
  split <;> simp_all

/-- `SplitStringSeq` yields exactly the `sep`-separated items, in order -/
theorem splitFwd_eq_splitOn (sep : UInt8) (s : Bytes) : splitFwd sep s = splitOn sep s := by
  fun_induction splitFwd sep s with
  | case1 s _ hc => rw [splitOn_nosep (cut_none hc).2]
  | case2 s frag rest hc ih =>
    obtain ⟨rfl, hn⟩ := cut_some hc
    rw [ih, splitOn_append_sep, splitOn_nosep hn]; rfl

theorem splitBwd_none {sep : UInt8} {s : Bytes} (e : cutLast sep s = none) : splitBwd sep s = [s] := by
  rw [splitBwd]
  split <;> simp_all

theorem splitBwd_some {sep : UInt8} {s p f : Bytes} (e : cutLast sep s = some (p, f)) :
    splitBwd sep s = f :: splitBwd sep p := by
  rw [splitBwd]
  split <;> simp_all

theorem cutLast_none {sep : UInt8} {s : Bytes} (e : cutLast sep s = none) : sep ∉ s := by
  unfold cutLast at e
  split at e
  · rename_i hc; simpa using (cut_none hc).2
  · cases e

theorem cutLast_some {sep : UInt8} {s p f : Bytes} (e : cutLast sep s = some (p, f)) : s = p ++ sep :: f ∧ sep ∉ f := by
  unfold cutLast at e
  split at e
  · cases e
  · rename_i h r hc
    cases e
    obtain ⟨hs, hn⟩ := cut_some hc
    exact ⟨by simpa using congrArg List.reverse hs, by simpa using hn⟩

/-- `BackwardSplitStringSeq` yields exactly the items of `SplitStringSeq`, last one first -/
theorem splitBwd_eq_reverse (sep : UInt8) (s : Bytes) : splitBwd sep s = (splitOn sep s).reverse := by
  fun_induction splitBwd sep s with
  | case1 s hc => rw [splitOn_nosep (cutLast_none hc)]; rfl
  | case2 s pre frag hc ih =>
    obtain ⟨rfl, hn⟩ := cutLast_some hc
    rw [ih, splitOn_append_sep, splitOn_nosep hn]; simp

theorem at?_eq_getElem? {α : Type} (l : List α) (n : Nat) : at? l n = l[n]? := by
  induction l generalizing n with
  | nil => simp [at?]
  | cons a t ih => cases n <;> simp [at?, ih]

end Fox.Lemmas.ClientIP
