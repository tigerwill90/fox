import FoxModel.Lemmas.MachineBasics
import FoxModel.Lemmas.Refine
/-
  Child selection of the state machine (`staticChild`, `paramChild`, `wildChild`: the linear search over `childKeys`
  and the two precomputed indices) versus the enumeration of the children by kind in the walk, on nodes whose
  children have distinct kinds and well-formed keys.
-/
namespace Fox.Model
open Fox Fox.Model.Machine

theorem firstByte_slash (k : List Tok) : (firstByte k == SLASH) = startsWithSlash k := by
  cases k with
  | nil => decide
  | cons t k' =>
    cases t with
    | lit b => rfl
    | param n => simp only [firstByte, startsWithSlash]; decide
    | catchAll n => simp only [firstByte, startsWithSlash]; decide

theorem walkKids_none {cs : List Node} {sel : Sel} (h : ∀ x ∈ cs, sel.matches x.key = false) (pr es path ps) :
    walkKids sel cs pr es path ps = [] := by
  induction cs with
  | nil => exact walkKids_nil _ _ _ _ _
  | cons c cs ih =>
    rw [walkKids_cons, h c (by simp), ih (fun x hx => h x (List.mem_cons_of_mem _ hx))]
    rfl

/-- with distinct kinds, the children selected by a kind are the first (and only) child of that kind -/
theorem walkKids_find {cs : List Node} (hd : nodupB (kindsOf cs) = true) (sel : Sel) (pr es path ps) :
    walkKids sel cs pr es path ps =
      (match cs.find? (fun c => sel.matches c.key) with
       | some c => walk c [] c.key pr es path ps
       | none => []) := by
  induction cs with
  | nil => rw [walkKids_nil]; rfl
  | cons c cs ih =>
    rw [walkKids_cons, List.find?_cons]
    cases hm : sel.matches c.key with
    | true =>
      rw [walkKids_none fun x hx => matches_false (nodup_others hd ((sel_matches_iff _ _).mp hm) x hx)]
      exact List.append_nil _
    | false => exact ih (nodup_tail hd)

theorem firstByte_of_kind {k : List Tok} (hne : k ≠ []) {b : UInt8} (hb : b ≠ LBR) (hs : b ≠ STAR) :
    (firstByte k == b) = (Sel.static b).matches k := by
  cases k with
  | nil => exact absurd rfl hne
  | cons t k' =>
    cases t with
    | lit c => rfl
    | param n => exact beq_eq_false_iff_ne.mpr (Ne.symm hb)
    | catchAll n => exact beq_eq_false_iff_ne.mpr (Ne.symm hs)

theorem firstByte_lbr {k : List Tok} (hk : keyOk k = true) (hne : k ≠ []) :
    (firstByte k == LBR) = Sel.param.matches k := by
  cases k with
  | nil => exact absurd rfl hne
  | cons t k' =>
    cases t with
    | lit c => exact beq_eq_false_iff_ne.mpr (keyOk_lit_ne hk).2
    | param n => rfl
    | catchAll n => rfl

theorem firstByte_star {k : List Tok} (hk : keyOk k = true) (hne : k ≠ []) :
    (firstByte k == STAR) = Sel.catchAll.matches k := by
  cases k with
  | nil => exact absurd rfl hne
  | cons t k' =>
    cases t with
    | lit c => exact beq_eq_false_iff_ne.mpr (keyOk_lit_ne hk).1
    | param n => rfl
    | catchAll n => rfl

/-- no well-formed key starts with a literal '{' or '*' -/
theorem static_special {k : List Tok} (hk : keyOk k = true) {b : UInt8} (hb : b = LBR ∨ b = STAR) :
    (Sel.static b).matches k = false := by
  cases k with
  | nil => rfl
  | cons t k' =>
    cases t with
    | lit c =>
      have hne := keyOk_lit_ne hk
      apply beq_eq_false_iff_ne.mpr
      rcases hb with rfl | rfl
      · exact hne.2
      · exact hne.1
    | param n => rfl
    | catchAll n => rfl

theorem wfNode_nodup {c : Node} (h : wfNode c = true) : nodupB (kindsOf c.children) = true := by
  cases c with
  | mk k r cs => exact (wfNode_kids h).2.1

theorem find_congr {α} {f g : α → Bool} {l : List α} (h : ∀ x ∈ l, f x = g x) : l.find? f = l.find? g := by
  induction l with
  | nil => rfl
  | cons x xs ih =>
    simp only [List.find?_cons, h x (by simp)]
    rw [ih (fun y hy => h y (List.mem_cons_of_mem _ hy))]

/-- the linear search for a byte that is neither '{' nor '*' finds the static child of that byte -/
theorem find_firstByte_static {cs : List Node} (hw : wfKids cs = true) {b : UInt8} (hb : b ≠ LBR) (hs : b ≠ STAR) :
    cs.find? (fun c => firstByte c.key == b) = cs.find? (fun c => (Sel.static b).matches c.key) :=
  find_congr fun _ hx =>
    firstByte_of_kind (wfNode_key (wfKids_mem hw hx)).1 hb hs

/-- for the byte '{' it lands on the param child -/
theorem find_firstByte_lbr {cs : List Node} (hw : wfKids cs = true) :
    cs.find? (fun c => firstByte c.key == LBR) = cs.find? (fun c => Sel.param.matches c.key) :=
  find_congr fun _ hx => firstByte_lbr (wfNode_key (wfKids_mem hw hx)).2 (wfNode_key (wfKids_mem hw hx)).1

theorem staticChild_static {n : Node} (hw : wfKids n.children = true) {b : UInt8} (hb : b ≠ LBR) (hs : b ≠ STAR) :
    staticChild n b = n.children.find? (fun c => (Sel.static b).matches c.key) := by
  unfold staticChild
  rw [if_neg (by simpa using hs)]
  exact find_firstByte_static hw hb hs

theorem staticChild_lbr {n : Node} (hw : wfKids n.children = true) : staticChild n LBR = paramChild n :=
  find_firstByte_lbr hw

theorem staticChild_find {n sc : Node} {b : UInt8} (h : staticChild n b = some sc) :
    n.children.find? (fun c => firstByte c.key == b) = some sc := by
  unfold staticChild at h; split at h
  · cases h
  · exact h

theorem staticChild_star (n : Node) : staticChild n STAR = none :=
  if_pos rfl

theorem walkKids_static_lbr {cs : List Node} (hw : wfKids cs = true) (pr es path ps) :
    walkKids (.static LBR) cs pr es path ps = [] :=
  walkKids_none (fun _ hx => static_special (wfNode_key (wfKids_mem hw hx)).2 (Or.inl rfl)) ..

end Fox.Model
