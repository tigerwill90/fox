import FoxModel.Model.Serve
import FoxModel.Lemmas.PathStage
import FoxModel.Lemmas.SpecAlg
import FoxModel.Props.C11
/-
  FoxModel.Lemmas.ServeSpec — the model of `ServeHTTP` (`Model.serve`) against the specification `Spec.serve`, for an
  *abstract* pair (method roots, route lists per method) related by `Rel`:

    (`Rel.look`) `lookup rs x host path = toResult (Spec.route (store x) host path)` for every probe method `x`,
    (`Rel.meth`) `x ∈ methods ↔ rs has a root for x with children`,
  and, for the Allow part only, the request hypothesis `hroot : urlPath = "/" → path = "/"`.

  No radix tree, no history here: `Props/C08Serve.lean` discharges `look` by the end-to-end routing theorem
  (`Props/C01Map.lean`) and `meth` by `C02_methods`.

  The special part (OPTIONS / 405 / 404) is taken branch by branch on both sides, its two Allow answers as instances of
  one shape (`C11.hitsOutcome` in the model, `listed` in the specification); the route dispatch is walked once for the
  specification (`spec_serve_cases`) and once for the model against it (`Rel.serve_cases`).
-/
namespace Fox.ServeSpec
open Fox Fox.Model Fox.Spec

/-- the provenance tag of finding F17 -/
def F17 : String := "allow-connect-tsr"

/-- the OPTIONS / 405 / 404 part of `Spec.serve` (the `let special` of its definition) -/
def specSpecial (cfg : Cfg) (methods : List Bytes) (store : Bytes → List Route) (m host path urlPath : Bytes) : Served :=
  if m == OPTIONS && cfg.autoOptions then
    let a := if path == [STAR] then methods.filter (· != OPTIONS)
             else methods.filter fun x => serves (store x) x host path urlPath
    if a.isEmpty then { kind := .noRoute } else { kind := .options, allow := (a ++ [OPTIONS]).eraseDups }
  else if cfg.noMethod then
    let a := methods.filter fun x => x != m && serves (store x) x host path urlPath
    if a.isEmpty then { kind := .noRoute }
    else { kind := .noMethod, allow := (a ++ (if cfg.autoOptions then [OPTIONS] else [])).eraseDups }
  else { kind := .noRoute }

/-- the answer of an Allow loop of the specification: handler `k` listing the methods `a` and `extra`, 404 when `a`
    is empty -/
def listed (k : Kind) (a extra : List Bytes) : Served :=
  if a.isEmpty then { kind := .noRoute } else { kind := k, allow := (a ++ extra).eraseDups }

section
variable {k k' : Kind} {a extra : List Bytes} {x : Bytes}

theorem listed_kind : (listed k a extra).kind = k ∨ (listed k a extra).kind = .noRoute := by
  cases a with
  | nil => exact Or.inr rfl
  | cons b bs => exact Or.inl rfl

theorem listed_kind_iff (hk : k' ≠ .noRoute) : (listed k a extra).kind = k' ↔ k = k' ∧ ∃ x, x ∈ a := by
  cases a with
  | nil => exact ⟨fun h => absurd h.symm hk, fun ⟨_, x, hx⟩ => nomatch hx⟩
  | cons b bs => exact ⟨fun h => ⟨h, b, List.mem_cons_self ..⟩, fun h => h.1⟩

theorem mem_listed (hk : (listed k a extra).kind ≠ .noRoute) : x ∈ (listed k a extra).allow ↔ x ∈ a ∨ x ∈ extra := by
  cases a with
  | nil => exact absurd rfl hk
  | cons b bs => exact List.mem_eraseDups.trans List.mem_append

end

/-- the methods the OPTIONS handler of the specification finds -/
def optList (methods : List Bytes) (store : Bytes → List Route) (host path urlPath : Bytes) : List Bytes :=
  if path == [STAR] then methods.filter (· != OPTIONS) else methods.filter fun x => serves (store x) x host path urlPath

section
variable {cfg : Cfg} {methods : List Bytes} {store : Bytes → List Route} {m host path urlPath x : Bytes}

theorem optList_of_ne (hp : path ≠ [STAR]) :
    optList methods store host path urlPath = methods.filter fun x => serves (store x) x host path urlPath :=
  if_neg (mt beq_iff_eq.1 hp)

theorem mem_others :
    x ∈ (methods.filter fun x => x != m && serves (store x) x host path urlPath) ↔
      x ∈ methods ∧ (x != m) = true ∧ serves (store x) x host path urlPath = true := by
  rw [List.mem_filter, Bool.and_eq_true]

theorem specSpecial_options (h : m = OPTIONS ∧ cfg.autoOptions = true) :
    specSpecial cfg methods store m host path urlPath =
      listed .options (optList methods store host path urlPath) [OPTIONS] :=
  if_pos (C11.autoOptions_iff.2 h)

theorem specSpecial_noMethod (h : ¬(m = OPTIONS ∧ cfg.autoOptions = true)) (hn : cfg.noMethod = true) :
    specSpecial cfg methods store m host path urlPath =
      listed .noMethod (methods.filter fun x => x != m && serves (store x) x host path urlPath)
        (if cfg.autoOptions then [OPTIONS] else []) :=
  (if_neg (mt C11.autoOptions_iff.1 h)).trans (if_pos hn)

theorem specSpecial_noRoute (h : ¬(m = OPTIONS ∧ cfg.autoOptions = true)) (hn : cfg.noMethod = false) :
    specSpecial cfg methods store m host path urlPath = { kind := .noRoute } :=
  (if_neg (mt C11.autoOptions_iff.1 h)).trans (if_neg (by rw [hn]; exact Bool.false_ne_true))

end

/-- the route dispatch of the specification acts on the request (serves it by a route or redirects it) -/
def dispatched (R : List Route) (m host path urlPath : Bytes) : Bool :=
  match route R host path with
  | some ⟨_, _, false⟩ => true
  | some ⟨r, _, true⟩ => m != CONNECT && urlPath != [SLASH] && (r.ignoreTS || (r.redirectTS && path == cleanRef path))
  | none => false

section
variable (cfg : Cfg) (methods : List Bytes) (store : Bytes → List Route) (m host path urlPath : Bytes)

theorem specSpecial_kind :
    (specSpecial cfg methods store m host path urlPath).kind = .options ∨
    (specSpecial cfg methods store m host path urlPath).kind = .noMethod ∨
    (specSpecial cfg methods store m host path urlPath).kind = .noRoute := by
  by_cases h : m = OPTIONS ∧ cfg.autoOptions = true
  · rw [specSpecial_options h]
    exact listed_kind.imp_right Or.inr
  · cases hn : cfg.noMethod with
    | false => rw [specSpecial_noRoute h hn]; exact Or.inr (Or.inr rfl)
    | true => rw [specSpecial_noMethod h hn]; exact Or.inr listed_kind

/-- the specification's answer: when its dispatch acts, a route handler or a redirect, without `Allow`; when it does
    not, the special part -/
theorem spec_serve_cases :
    (dispatched (store m) m host path urlPath = true ∧
      ((Spec.serve cfg methods store m host path urlPath).kind = .route ∨
       (Spec.serve cfg methods store m host path urlPath).kind = .redirect) ∧
      (Spec.serve cfg methods store m host path urlPath).allow = []) ∨
    (dispatched (store m) m host path urlPath = false ∧
      Spec.serve cfg methods store m host path urlPath = specSpecial cfg methods store m host path urlPath) := by
  unfold Spec.serve dispatched
  cases route (store m) host path with
  | none => exact Or.inr ⟨rfl, rfl⟩
  | some f =>
    obtain ⟨r, ps, tsr⟩ := f
    cases tsr with
    | false => exact Or.inl ⟨rfl, Or.inl rfl, rfl⟩
    | true =>
      -- with the conditions decided, both sides compute
      dsimp only
      cases m != CONNECT && urlPath != [SLASH] with
      | false => exact Or.inr ⟨rfl, rfl⟩
      | true =>
        cases r.ignoreTS with
        | true => exact Or.inl ⟨rfl, Or.inl rfl, rfl⟩
        | false =>
          cases r.redirectTS && path == cleanRef path with
          | true => exact Or.inl ⟨rfl, Or.inr rfl, rfl⟩
          | false => exact Or.inr ⟨rfl, rfl⟩

theorem spec_serve_kind_ne_bad : (Spec.serve cfg methods store m host path urlPath).kind ≠ .bad := by
  rcases spec_serve_cases cfg methods store m host path urlPath with ⟨_, hk | hk, _⟩ | ⟨_, hs⟩
  · rw [hk]; nofun
  · rw [hk]; nofun
  · rw [hs]
    rcases specSpecial_kind cfg methods store m host path urlPath with hk | hk | hk <;> rw [hk] <;> nofun

variable {cfg methods store m host path urlPath}

theorem spec_serve_undispatched (h : dispatched (store m) m host path urlPath = false) :
    Spec.serve cfg methods store m host path urlPath = specSpecial cfg methods store m host path urlPath := by
  rcases spec_serve_cases cfg methods store m host path urlPath with ⟨hd, _⟩ | ⟨_, hs⟩
  · rw [h] at hd; cases hd
  · exact hs

/-- an answer of the specification by a special handler is its special part -/
theorem spec_serve_special {k : Kind} (hk : (Spec.serve cfg methods store m host path urlPath).kind = k)
    (h1 : k ≠ .route) (h2 : k ≠ .redirect) :
    Spec.serve cfg methods store m host path urlPath = specSpecial cfg methods store m host path urlPath := by
  rcases spec_serve_cases cfg methods store m host path urlPath with ⟨_, h | h, _⟩ | ⟨_, hs⟩
  · exact absurd (hk.symm.trans h) h1
  · exact absurd (hk.symm.trans h) h2
  · exact hs

end

theorem first_tsr {res : Res} {b : Bool} {f : Found} (h : first res b = some f) : f.tsr = b := by
  cases res with
  | nil => cases h
  | cons x xs => cases h; rfl

theorem bestTsr_root (rs : List Route) (run : List Route → Bytes → Res) : bestTsr rs [SLASH] run = none := rfl

theorem pathOnly_root {P : List Route} {f : Found} (h : pathOnly P [SLASH] = some f) : f.tsr = false := by
  unfold pathOnly at h
  rw [bestTsr_root] at h
  cases hf : first (specAll (sufsOf P) [SLASH] []) false with
  | none => rw [hf] at h; cases h
  | some g => rw [hf] at h; cases h; exact first_tsr hf

/-- the root path "/" is never matched by adjusting a trailing slash (`Spec.adjust` refuses it) -/
theorem route_root_no_tsr {rs : List Route} {host : Bytes} {f : Found} (h : route rs host [SLASH] = some f) :
    f.tsr = false := by
  unfold route at h
  simp only at h
  split at h
  · exact pathOnly_root h
  · rw [bestTsr_root] at h
    cases hf : first (specHost (sufsOf (rs.filter isHostRoute)) (stripHostPort host) [SLASH] []) false with
    | none => rw [hf] at h; exact pathOnly_root h
    | some g => rw [hf] at h; cases h; exact first_tsr hf

theorem toResult_found {o : Option Found} {r : Route} {ps : Binds} {t : Bool} (h : toResult o = .found r ps t) :
    o = some ⟨r, ps, t⟩ := by
  cases o with
  | none => cases h
  | some f => cases h; rfl

/-- `Spec.serves` is the strict test of `C11.loose_vs_strict` on the specification's answer -/
theorem serves_eq_strict (R : List Route) (x host path urlPath : Bytes) :
    serves R x host path urlPath = C11.strictServes (toResult (route R host path)) x urlPath := by
  unfold serves
  cases route R host path <;> rfl

theorem any_snd_iff {l : List (Bytes × Bool)} : l.any (·.2) = true ↔ ∃ x, (x, true) ∈ l := by
  simp only [List.any_eq_true, Prod.exists, exists_eq_right]

theorem mem_map_fst {l : List (Bytes × Bool)} {x : Bytes} : x ∈ l.map (·.1) ↔ ∃ b, (x, b) ∈ l := by
  simp only [List.mem_map, Prod.exists, exists_and_right, exists_eq_right]

/-- `o` (model of the code) agrees with `sp` (specification): same route, parameters and redirect code; every method the
    specification allows is listed; and unless the F17 tag is present, same kind of answer and same set of allowed
    methods. With the tag the only possible difference of kind is that the code answers OPTIONS / 405 where the
    specification says 404. -/
structure Agree (o : Outcome) (sp : Served) : Prop where
  route : o.route = sp.route
  params : o.params = sp.params
  code : o.code = sp.code
  sub : ∀ x, x ∈ sp.allow → x ∈ o.allow
  exact : F17 ∉ o.tags → o.kind = sp.kind ∧ ∀ x, x ∈ o.allow ↔ x ∈ sp.allow
  kind : o.kind = sp.kind ∨ (sp.kind = .noRoute ∧ (o.kind = .options ∨ o.kind = .noMethod) ∧ F17 ∈ o.tags)

/-- hence serving by a route and redirecting are decided as specified, tag or not -/
theorem Agree.dispatch_kind {o : Outcome} {sp : Served} (h : Agree o sp) (hb : sp.kind ≠ .bad) :
    (o.kind = .route ↔ sp.kind = .route) ∧ (o.kind = .redirect ↔ sp.kind = .redirect) ∧ o.kind ≠ .bad := by
  rcases h.kind with hk | ⟨h1, h2, _⟩
  · rw [hk]
    exact ⟨Iff.rfl, Iff.rfl, hb⟩
  · rw [h1]
    rcases h2 with h2 | h2 <;> rw [h2] <;> exact ⟨⟨nofun, nofun⟩, ⟨nofun, nofun⟩, nofun⟩

/-- an outcome without its tags, as an answer of the specification -/
def served (o : Outcome) : Served := { kind := o.kind, route := o.route, params := o.params, allow := o.allow, code := o.code }

theorem agree_served (o : Outcome) : Agree o (served o) :=
  ⟨rfl, rfl, rfl, fun _ h => h, fun _ => ⟨rfl, fun _ => Iff.rfl⟩, Or.inl rfl⟩

theorem hitsOutcome_tag (k : Kind) (hits : List (Bytes × Bool)) (extra : List Bytes) :
    F17 ∈ (C11.hitsOutcome k hits extra).tags ↔ hits.any (·.2) = true := by
  cases hits with
  | nil => exact ⟨nofun, nofun⟩
  | cons y ys =>
    show F17 ∈ (if (y :: ys).any (·.2) = true then ["allow-connect-tsr"] else []) ↔ _
    cases (y :: ys).any (·.2) <;> simp [F17]

/-- the two Allow answers: `a` (specification) below the listed names, and equal to them without the F17 marker; the
    method lists have the same members once `extra` / `extra'` is appended -/
theorem agree_hits {k : Kind} (hk : k = .options ∨ k = .noMethod) {hits : List (Bytes × Bool)} {a extra extra' : List Bytes}
    (hsub : ∀ x, x ∈ a → x ∈ hits.map (·.1))
    (hsup : hits.any (·.2) = false → ∀ x, x ∈ hits.map (·.1) → x ∈ a)
    (he : ∀ x, x ∈ hits.map (·.1) ++ extra ↔ x ∈ hits.map (·.1) ∨ x ∈ extra') :
    Agree (C11.hitsOutcome k hits extra) (listed k a extra') := by
  have htag := hitsOutcome_tag k hits extra
  cases hits with
  | nil =>
    cases a with
    | nil => exact agree_served _
    | cons b bs => exact nomatch hsub b (List.mem_cons_self ..)
  | cons y ys =>
    cases a with
    | nil =>
      -- the specification lists nothing, so every hit carries the marker
      have hany : (y :: ys).any (·.2) = true := by
        cases hc : (y :: ys).any (·.2) with
        | true => rfl
        | false => exact nomatch hsup hc y.1 (List.mem_map_of_mem (List.mem_cons_self ..))
      exact ⟨rfl, rfl, rfl, nofun, fun hn => absurd (htag.2 hany) hn, Or.inr ⟨rfl, hk, htag.2 hany⟩⟩
    | cons b bs =>
      have hmem : ∀ x, x ∈ (listed k (b :: bs) extra').allow ↔ x ∈ b :: bs ∨ x ∈ extra' :=
        fun x => List.mem_eraseDups.trans List.mem_append
      refine ⟨rfl, rfl, rfl, fun x hx => ?_, fun hn => ⟨rfl, fun x => ?_⟩, Or.inl rfl⟩
      · exact (he x).2 (((hmem x).1 hx).imp_left (hsub x))
      · have hc : (y :: ys).any (·.2) = false := Bool.eq_false_iff.2 (mt htag.2 hn)
        exact ((he x).trans ⟨Or.imp_left (hsup hc x), Or.imp_left (hsub x)⟩).trans (hmem x).symm

/-- the 405 handler appends OPTIONS unless a hit already lists it; as a set this is "OPTIONS when automatic replies are on" -/
theorem mem_noMethod_allow (cfg : Cfg) (hits : List (Bytes × Bool)) (x : Bytes) :
    x ∈ hits.map (·.1) ++ (if cfg.autoOptions && !(hits.any (·.1 == OPTIONS)) then [OPTIONS] else []) ↔
      x ∈ hits.map (·.1) ∨ x ∈ (if cfg.autoOptions then [OPTIONS] else []) := by
  rw [List.mem_append]
  cases cfg.autoOptions with
  | false => exact Iff.rfl
  | true =>
    cases hb : hits.any (·.1 == OPTIONS) with
    | false => exact Iff.rfl
    | true =>
      obtain ⟨y, hy, he⟩ := List.any_eq_true.1 hb
      refine ⟨fun h => h.imp_right nofun, fun h => Or.inl (h.elim id fun hx => ?_)⟩
      rw [List.mem_singleton.1 hx, ← beq_iff_eq.1 he]
      exact List.mem_map_of_mem hy

/-- the matcher on the method roots answers as the routing specification on the route lists, for every probe method;
    `methods` are the methods whose root has children -/
structure Rel (rs : Roots) (methods : List Bytes) (store : Bytes → List Route) (host path : Bytes) : Prop where
  look : ∀ x, lookup rs x host path = toResult (route (store x) host path)
  meth : ∀ x, x ∈ methods ↔ ∃ n, (x, n) ∈ rs ∧ n.children.isEmpty = false

/-- an F17 hit: the routes registered for CONNECT match (host, path) only by adjusting a trailing slash, on a route that
    ignores trailing slashes (dispatch never serves CONNECT that way, the Allow loops list it) -/
def f17Hit (store : Bytes → List Route) (host path : Bytes) : Prop :=
  ∃ r ps, route (store CONNECT) host path = some ⟨r, ps, true⟩ ∧ r.ignoreTS = true

section
variable {rs : Roots} {methods : List Bytes} {store : Bytes → List Route} {host path urlPath : Bytes}
variable (H : Rel rs methods store host path)
include H

theorem Rel.serves_eq (x : Bytes) :
    serves (store x) x host path urlPath = C11.strictServes (lookup rs x host path) x urlPath := by
  rw [H.look]
  exact serves_eq_strict ..

/-- a method the matcher answers for has a root with children -/
theorem Rel.method_of_loose {x : Bytes} (h : (Model.allows rs x host path).1 = true) : x ∈ methods := by
  rw [H.meth]
  unfold Model.allows at h
  cases hl : lookup rs x host path with
  | none => rw [hl] at h; cases h
  | bad => rw [hl] at h; cases h
  | found r ps tsr =>
    cases hm : methodRoot rs x with
    | none => rw [lookup_no_root hm] at hl; cases hl
    | some root =>
      obtain ⟨⟨x', n⟩, ha, rfl⟩ := Option.map_eq_some_iff.1 hm
      have hx := List.find?_some ha
      refine ⟨n, beq_iff_eq.1 hx ▸ List.mem_of_find?_eq_some ha, ?_⟩
      cases hc : n.children with
      | nil => rw [lookup_no_children hm hc] at hl; cases hl
      | cons c cs => rfl

theorem Rel.marker_iff (x : Bytes) :
    (Model.allows rs x host path).2 = true ↔ x = CONNECT ∧ f17Hit store host path := by
  rw [C11.allows_snd]
  constructor
  · rintro ⟨rfl, r, ps, hl, hi⟩
    exact ⟨rfl, r, ps, toResult_found ((H.look CONNECT).symm.trans hl), hi⟩
  · rintro ⟨rfl, r, ps, ho, hi⟩
    exact ⟨rfl, r, ps, by rw [H.look, ho]; rfl, hi⟩

variable {q : Bytes → Bool}

/-- specification ⊆ model -/
theorem Rel.hits_sub {x : Bytes} (hq : q x = true) (hs : serves (store x) x host path urlPath = true) :
    x ∈ (C11.probes rs host path q).map (·.1) := by
  have h1 : (Model.allows rs x host path).1 = true := by
    rw [C11.allows_fst]
    exact C11.loose_of_strict ((H.serves_eq x).symm.trans hs)
  obtain ⟨n, hn, _⟩ := (H.meth x).1 (H.method_of_loose h1)
  exact mem_map_fst.2 ⟨_, C11.mem_probes.2 ⟨⟨n, hn⟩, Bool.and_eq_true .. ▸ ⟨hq, h1⟩, rfl⟩⟩

/-- model ⊆ specification, when no hit carries the F17 marker - provided the root path is really the root path -/
theorem Rel.hits_sup (hroot : urlPath = [SLASH] → path = [SLASH]) (hf : (C11.probes rs host path q).any (·.2) = false)
    {x : Bytes} (hx : x ∈ (C11.probes rs host path q).map (·.1)) : x ∈ methods ∧ q x = true ∧ serves (store x) x host path urlPath = true := by
  obtain ⟨b, hb⟩ := mem_map_fst.1 hx
  obtain ⟨_, h1, h2⟩ := C11.mem_probes.1 hb
  obtain ⟨hq, h1⟩ := Bool.and_eq_true .. ▸ h1
  refine ⟨H.method_of_loose h1, hq, ?_⟩
  rw [H.serves_eq]
  rw [C11.allows_fst] at h1
  -- loose and strict differ only for CONNECT, where the marker would be on, and for the root path, which has no
  -- trailing-slash match
  refine C11.strict_of_loose h1 ?_
  rintro ⟨r, ps, hl, hi, rfl | hu⟩
  · rw [C11.allows_snd.2 ⟨rfl, r, ps, hl, hi⟩] at h2
    rw [any_snd_iff.2 ⟨_, h2 ▸ hb⟩] at hf
    cases hf
  · have ho := toResult_found ((H.look x).symm.trans hl)
    rw [hroot hu] at ho
    cases route_root_no_tsr ho

/-- a hit carries the F17 marker exactly when the loop probes CONNECT and the map's CONNECT routes give an F17 hit -/
theorem Rel.hits_tag : (C11.probes rs host path q).any (·.2) = true ↔ q CONNECT = true ∧ f17Hit store host path := by
  rw [any_snd_iff]
  constructor
  · rintro ⟨x, hx⟩
    obtain ⟨_, h1, h2⟩ := C11.mem_probes.1 hx
    obtain ⟨rfl, hit⟩ := (H.marker_iff x).1 h2.symm
    exact ⟨(Bool.and_eq_true .. ▸ h1).1, hit⟩
  · rintro ⟨hq, hit⟩
    have h2 := (H.marker_iff CONNECT).2 ⟨rfl, hit⟩
    have h1 : (Model.allows rs CONNECT host path).1 = true := by
      obtain ⟨_, r, ps, hl, hi⟩ := C11.allows_snd.1 h2
      rw [C11.allows_fst, hl]
      exact hi
    obtain ⟨n, hn, _⟩ := (H.meth CONNECT).1 (H.method_of_loose h1)
    exact ⟨CONNECT, C11.mem_probes.2 ⟨⟨n, hn⟩, Bool.and_eq_true .. ▸ ⟨hq, h1⟩, h2.symm⟩⟩

theorem Rel.star_iff (x : Bytes) :
    x ∈ (optionsHits rs host [STAR]).map (·.1) ↔ x ∈ optList methods store host [STAR] urlPath := by
  show _ ↔ x ∈ methods.filter (· != OPTIONS)
  rw [C11.optionsHits_star, List.mem_filter, H.meth]
  simp only [List.mem_map, List.mem_filter, Bool.and_eq_true, Bool.not_eq_true']
  constructor
  · rintro ⟨⟨z, n⟩, ⟨hz, h1, h2⟩, rfl⟩; exact ⟨⟨n, hz, h2⟩, h1⟩
  · rintro ⟨⟨n, hn, h2⟩, h1⟩; exact ⟨(x, n), ⟨hn, h1, h2⟩, rfl⟩

/-- the OPTIONS / 405 / 404 part of ServeHTTP against the one of the specification -/
theorem Rel.special (hroot : urlPath = [SLASH] → path = [SLASH]) (cfg : Cfg) (m : Bytes) :
    Agree (Model.special cfg rs m host path) (specSpecial cfg methods store m host path urlPath) := by
  by_cases h : m = OPTIONS ∧ cfg.autoOptions = true
  · rw [C11.special_options h, specSpecial_options h]
    by_cases hp : path = [STAR]
    · subst hp
      exact agree_hits (Or.inl rfl) (fun x => (H.star_iff x).2) (fun _ x => (H.star_iff x).1) fun _ => List.mem_append
    · rw [optList_of_ne hp, C11.optionsHits_of_ne hp]
      exact agree_hits (Or.inl rfl)
        (fun x hx => H.hits_sub rfl (List.mem_filter.1 hx).2)
        (fun hf x hx => List.mem_filter.2 ((H.hits_sup hroot hf hx).imp_right And.right))
        fun _ => List.mem_append
  · cases hn : cfg.noMethod with
    | false =>
      rw [C11.special_noRoute h hn, specSpecial_noRoute h hn]
      exact agree_served _
    | true =>
      rw [C11.special_noMethod h hn, specSpecial_noMethod h hn, C11.noMethodHits_eq]
      exact agree_hits (Or.inr rfl)
        (fun x hx => H.hits_sub (mem_others.1 hx).2.1 (mem_others.1 hx).2.2)
        (fun hf x hx => mem_others.2 (H.hits_sup hroot hf hx))
        (mem_noMethod_allow cfg _)

/-- the special part carries the F17 tag exactly when the loop that runs meets an F17 hit -/
theorem Rel.special_tag (cfg : Cfg) (m : Bytes) :
    F17 ∈ (Model.special cfg rs m host path).tags ↔
      f17Hit store host path ∧
        if m = OPTIONS ∧ cfg.autoOptions = true then path ≠ [STAR] else cfg.noMethod = true ∧ m ≠ CONNECT := by
  by_cases h : m = OPTIONS ∧ cfg.autoOptions = true
  · rw [if_pos h, C11.special_options h, hitsOutcome_tag]
    by_cases hp : path = [STAR]
    · subst hp
      rw [C11.star_untagged]
      exact ⟨nofun, fun h => absurd rfl h.2⟩
    · rw [C11.optionsHits_of_ne hp, H.hits_tag]
      exact ⟨fun h => ⟨h.2, hp⟩, fun h => ⟨rfl, h.1⟩⟩
  · rw [if_neg h]
    cases hn : cfg.noMethod with
    | false =>
      rw [C11.special_noRoute h hn]
      exact ⟨nofun, fun h => nomatch h.2.1⟩
    | true =>
      rw [C11.special_noMethod h hn, hitsOutcome_tag, C11.noMethodHits_eq, H.hits_tag,
        Bool.not_eq_true', beq_eq_false_iff_ne]
      exact ⟨fun h => ⟨h.2, rfl, Ne.symm h.1⟩, fun h => ⟨Ne.symm h.2.2, h.1⟩⟩

/-- ServeHTTP's dispatch on a matcher that answers as the specification. When the specification's dispatch acts, the code
    gives its answer (and no F17 tag); when it does not, the code's answer is its special part, up to the tags - and the
    tags added are not F17. -/
theorem Rel.serve_cases (cfg : Cfg) (m : Bytes) :
    (dispatched (store m) m host path urlPath = true ∧
      Spec.serve cfg methods store m host path urlPath = served (Model.serve cfg rs m host path urlPath) ∧
      F17 ∉ (Model.serve cfg rs m host path urlPath).tags) ∨
    (dispatched (store m) m host path urlPath = false ∧
      ∃ ts, (F17 ∈ ts ↔ F17 ∈ (Model.special cfg rs m host path).tags) ∧
        Model.serve cfg rs m host path urlPath = { Model.special cfg rs m host path with tags := ts }) := by
  have happ : ∀ t : String, t ≠ F17 → (F17 ∈ (Model.special cfg rs m host path).tags ++ [t] ↔
      F17 ∈ (Model.special cfg rs m host path).tags) := fun t ht =>
    List.mem_append.trans ⟨fun h => h.elim id fun e => absurd (List.mem_singleton.1 e).symm ht, Or.inl⟩
  have hno : ∀ t : String, t ≠ F17 → F17 ∉ [t] := fun t ht h => ht (List.mem_singleton.1 h).symm
  unfold Spec.serve Model.serve dispatched
  rw [H.look m]
  cases route (store m) host path with
  | none => exact Or.inr ⟨rfl, _, Iff.rfl, rfl⟩
  | some f =>
    obtain ⟨r, ps, tsr⟩ := f
    cases tsr with
    | false => exact Or.inl ⟨rfl, rfl, hno "direct" (by decide)⟩
    | true =>
      unfold toResult onTsr
      dsimp only
      cases m != CONNECT && urlPath != [SLASH] with
      | false => exact Or.inr ⟨rfl, _, happ "tsr-guarded" (by decide), rfl⟩
      | true =>
        cases r.ignoreTS with
        | true => exact Or.inl ⟨rfl, rfl, hno "ignore-ts" (by decide)⟩
        | false =>
          cases r.redirectTS && path == cleanRef path with
          | true => exact Or.inl ⟨rfl, rfl, hno "redirect-ts" (by decide)⟩
          | false => exact Or.inr ⟨rfl, _, happ "tsr-unserved" (by decide), rfl⟩

/-- **`Model.serve` agrees with `Spec.serve`** for related (method roots, route lists). -/
theorem Rel.serve (hroot : urlPath = [SLASH] → path = [SLASH]) (cfg : Cfg) (m : Bytes) :
    Agree (Model.serve cfg rs m host path urlPath) (Spec.serve cfg methods store m host path urlPath) := by
  rcases H.serve_cases cfg m with ⟨_, hs, _⟩ | ⟨hd, ts, ht, ho⟩
  · rw [hs]
    exact agree_served _
  · rw [ho, spec_serve_undispatched hd]
    -- agreement looks at the tags only for F17
    have hA := H.special hroot cfg m
    exact ⟨hA.route, hA.params, hA.code, hA.sub, fun hn => hA.exact (mt ht.2 hn),
      hA.kind.imp_right fun ⟨h1, h2, h3⟩ => ⟨h1, h2, ht.2 h3⟩⟩

/-- **exactly when the F17 tag appears**: the request is unmatched (the specification's dispatch does not act), the
    routes registered for CONNECT match the host and path only through an ignored trailing slash, and an Allow loop that
    probes CONNECT runs - the OPTIONS loop for a target other than "*", or the 405 loop of a non-CONNECT request -/
theorem Rel.serve_tag (cfg : Cfg) (m : Bytes) :
    F17 ∈ (Model.serve cfg rs m host path urlPath).tags ↔
      dispatched (store m) m host path urlPath = false ∧ f17Hit store host path ∧
        if m = OPTIONS ∧ cfg.autoOptions = true then path ≠ [STAR] else cfg.noMethod = true ∧ m ≠ CONNECT := by
  rcases H.serve_cases cfg m with ⟨hd, _, hF⟩ | ⟨hd, ts, ht, ho⟩
  · rw [hd]
    exact ⟨fun h => absurd h hF, fun h => nomatch h.1⟩
  · rw [ho, hd]
    exact (ht.trans (H.special_tag cfg m)).trans ⟨fun h => ⟨rfl, h⟩, And.right⟩

variable {cfg : Cfg} {m : Bytes}

/-- a route handler runs or a redirect is sent exactly when the specification's dispatch acts -/
theorem Rel.acts_iff :
    ((Model.serve cfg rs m host path urlPath).kind = .route ∨ (Model.serve cfg rs m host path urlPath).kind = .redirect) ↔
      dispatched (store m) m host path urlPath = true := by
  rcases H.serve_cases cfg m with ⟨hd, hs, _⟩ | ⟨hd, ts, _, ho⟩
  · rcases spec_serve_cases cfg methods store m host path urlPath with ⟨_, hk, _⟩ | ⟨hd', _⟩
    · rw [hs] at hk
      exact iff_of_true hk hd
    · rw [hd] at hd'
      cases hd'
  · rw [hd, ho]
    have hsp := C11.special_kind_ne cfg rs m host path
    exact iff_of_false (fun h => h.elim hsp.1 hsp.2) Bool.false_ne_true

end

theorem route_nil (host path : Bytes) : route [] host path = none := by
  unfold route
  simp only [List.filter_nil, true_or, if_true]
  rw [pathOnly_eq]
  exact pathOnlyS_nil path []

theorem routes_of_serves {R : List Route} {x host path urlPath : Bytes} (h : serves R x host path urlPath = true) :
    R ≠ [] := by
  intro hR
  rw [hR, serves_eq_strict, route_nil] at h
  cases h

/-- what the OPTIONS handler of the specification lists for method `x` -/
def optListed (store : Bytes → List Route) (host path urlPath x : Bytes) : Prop :=
  if path = [STAR] then x ≠ OPTIONS ∧ store x ≠ [] else serves (store x) x host path urlPath = true

section
variable {cfg : Cfg} {methods : List Bytes} {store : Bytes → List Route} {m host path urlPath : Bytes}
variable (hM : ∀ x, x ∈ methods ↔ store x ≠ [])
include hM

theorem mem_optList (x : Bytes) :
    x ∈ optList methods store host path urlPath ↔ optListed store host path urlPath x := by
  unfold optListed
  by_cases hp : path = [STAR]
  · subst hp
    rw [if_pos rfl]
    show x ∈ methods.filter (· != OPTIONS) ↔ _
    rw [List.mem_filter, bne_iff_ne, hM]
    exact And.comm
  · rw [if_neg hp, optList_of_ne hp, List.mem_filter, hM]
    exact ⟨And.right, fun h => ⟨routes_of_serves h, h⟩⟩

theorem mem_noMethodList (x : Bytes) :
    x ∈ (methods.filter fun x => x != m && serves (store x) x host path urlPath) ↔
      x ≠ m ∧ serves (store x) x host path urlPath = true := by
  rw [mem_others, hM, bne_iff_ne]
  exact ⟨And.right, fun h => ⟨routes_of_serves h.2, h⟩⟩

/-- the specification answers with the OPTIONS handler exactly for OPTIONS requests with automatic replies on when some
    method is listed -/
theorem specSpecial_options_iff :
    (specSpecial cfg methods store m host path urlPath).kind = .options ↔
      m = OPTIONS ∧ cfg.autoOptions = true ∧ ∃ x, optListed store host path urlPath x := by
  by_cases h : m = OPTIONS ∧ cfg.autoOptions = true
  · rw [specSpecial_options h, listed_kind_iff (k' := .options) nofun]
    simp only [mem_optList hM, h, true_and]
  · refine ⟨fun hk => ?_, fun hr => absurd ⟨hr.1, hr.2.1⟩ h⟩
    cases hn : cfg.noMethod with
    | false => rw [specSpecial_noRoute h hn] at hk; cases hk
    | true =>
      rw [specSpecial_noMethod h hn, listed_kind_iff (k' := .options) nofun] at hk
      cases hk.1

/-- and then its Allow header lists OPTIONS and the listed methods -/
theorem spec_serve_options (hk : (Spec.serve cfg methods store m host path urlPath).kind = .options) :
    m = OPTIONS ∧ cfg.autoOptions = true ∧
    ∀ x, x ∈ (Spec.serve cfg methods store m host path urlPath).allow ↔ x = OPTIONS ∨ optListed store host path urlPath x := by
  have hs := spec_serve_special hk nofun nofun
  rw [hs] at hk ⊢
  have h0 := (specSpecial_options_iff hM).1 hk
  refine ⟨h0.1, h0.2.1, fun x => ?_⟩
  rw [specSpecial_options ⟨h0.1, h0.2.1⟩] at hk ⊢
  rw [mem_listed (by rw [hk]; nofun), mem_optList hM, List.mem_singleton]
  exact Or.comm

/-- the specification answers with the 405 handler exactly when method-not-allowed is on, the request is not an
    automatic OPTIONS one, and some *other* method serves the host and path -/
theorem specSpecial_noMethod_iff :
    (specSpecial cfg methods store m host path urlPath).kind = .noMethod ↔
      ¬(m = OPTIONS ∧ cfg.autoOptions = true) ∧ cfg.noMethod = true ∧
        ∃ x, x ≠ m ∧ serves (store x) x host path urlPath = true := by
  by_cases h : m = OPTIONS ∧ cfg.autoOptions = true
  · refine ⟨fun hk => ?_, fun hr => absurd h hr.1⟩
    rw [specSpecial_options h, listed_kind_iff (k' := .noMethod) nofun] at hk
    cases hk.1
  · cases hn : cfg.noMethod with
    | false =>
      rw [specSpecial_noRoute h hn]
      exact ⟨nofun, fun hr => nomatch hr.2.1⟩
    | true =>
      rw [specSpecial_noMethod h hn, listed_kind_iff (k' := .noMethod) nofun]
      simp only [mem_noMethodList hM, h, not_false_eq_true, true_and]

/-- and then its Allow header lists the other serving methods, and OPTIONS when automatic replies are on -/
theorem spec_serve_noMethod (hk : (Spec.serve cfg methods store m host path urlPath).kind = .noMethod) :
    ¬(m = OPTIONS ∧ cfg.autoOptions = true) ∧ cfg.noMethod = true ∧
    ∀ x, x ∈ (Spec.serve cfg methods store m host path urlPath).allow ↔
      (x ≠ m ∧ serves (store x) x host path urlPath = true) ∨ (cfg.autoOptions = true ∧ x = OPTIONS) := by
  have hs := spec_serve_special hk nofun nofun
  rw [hs] at hk ⊢
  have h0 := (specSpecial_noMethod_iff hM).1 hk
  refine ⟨h0.1, h0.2.1, fun x => ?_⟩
  rw [specSpecial_noMethod h0.1 h0.2.1] at hk ⊢
  rw [mem_listed (by rw [hk]; nofun), mem_noMethodList hM]
  cases cfg.autoOptions <;> simp

end

end Fox.ServeSpec
