import FoxModel.Model.LRURing
import FoxModel.Lemmas.LRU
/-
  FoxModel.Lemmas.LRURing — the pointer operations of list.go on a well-formed ring are list operations on the order
  of its entries.
-/
namespace Fox.LRU.Ring
open Fox.LRU

/-- a doubly linked segment: `a → l₀ → l₁ → … → b` through `next`, and back through `prev` -/
def Chain (nx pv : Nat → Option Nat) : Nat → List Nat → Nat → Prop
  | a, [], b => nx a = some b ∧ pv b = some a
  | a, x :: l, b => nx a = some x ∧ pv x = some a ∧ Chain nx pv x l b

theorem upd_same {α} (f : Nat → α) (i : Nat) (v : α) : upd f i v i = v := if_pos rfl
theorem upd_other {α} (f : Nat → α) {i j : Nat} (v : α) (h : j ≠ i) : upd f i v j = f j := if_neg h

/-- the node before `b` in the segment -/
def lastOf (a : Nat) (l : List Nat) : Nat := (a :: l).getLast (by simp)
/-- the node after `a` in the segment -/
def headOf (l : List Nat) (b : Nat) : Nat := (l ++ [b]).head (by simp)

theorem lastOf_nil (a : Nat) : lastOf a [] = a := rfl
theorem lastOf_cons (a x : Nat) (l : List Nat) : lastOf a (x :: l) = lastOf x l :=
  List.getLast_cons (List.cons_ne_nil x l)
theorem lastOf_mem (a : Nat) (l : List Nat) : lastOf a l ∈ a :: l := List.getLast_mem _

section chain
variable {nx pv nx' pv' : Nat → Option Nat} {a b : Nat} {l : List Nat}

theorem chain_congr (h1 : ∀ i ∈ a :: l, nx' i = nx i) (h2 : ∀ i ∈ l ++ [b], pv' i = pv i)
    (h : Chain nx pv a l b) : Chain nx' pv' a l b := by
  induction l generalizing a with
  | nil => exact ⟨(h1 a List.mem_cons_self).trans h.1, (h2 b List.mem_cons_self).trans h.2⟩
  | cons x l ih =>
    exact ⟨(h1 a List.mem_cons_self).trans h.1, (h2 x List.mem_cons_self).trans h.2.1,
      ih (fun i hi => h1 i (List.mem_cons_of_mem _ hi)) (fun i hi => h2 i (List.mem_cons_of_mem _ hi)) h.2.2⟩

theorem chain_upd {i j : Nat} (hi : i ∉ a :: l) (hj : j ∉ b :: l) (v w : Option Nat) (h : Chain nx pv a l b) :
    Chain (upd nx i v) (upd pv j w) a l b :=
  chain_congr (fun _ hk => upd_other _ _ (ne_of_mem_of_not_mem hk hi))
    (fun _ hk => upd_other _ _ (ne_of_mem_of_not_mem (List.perm_append_singleton b l |>.mem_iff.mp hk) hj)) h

theorem chain_append {l1 l2 : List Nat} {x : Nat} :
    Chain nx pv a (l1 ++ x :: l2) b ↔ Chain nx pv a l1 x ∧ Chain nx pv x l2 b := by
  induction l1 generalizing a with
  | nil => exact and_assoc.symm
  | cons y l1 ih =>
    show _ ∧ _ ∧ Chain nx pv y (l1 ++ x :: l2) b ↔ (_ ∧ _ ∧ Chain nx pv y l1 x) ∧ _
    rw [ih, and_assoc, and_assoc]

theorem chain_last (h : Chain nx pv a l b) : nx (lastOf a l) = some b ∧ pv b = some (lastOf a l) := by
  induction l generalizing a with
  | nil => exact h
  | cons x l ih => rw [lastOf_cons]; exact ih h.2.2

theorem chain_head (h : Chain nx pv a l b) : nx a = some (headOf l b) ∧ pv (headOf l b) = some a := by
  cases l with
  | nil => exact h
  | cons x l => exact ⟨h.1, h.2.1⟩

theorem chain_retarget {e n : Nat} (h : Chain nx pv a l e) (hnd : (a :: l).Nodup) (hn : n ∉ l) :
    Chain (upd nx (lastOf a l) (some n)) (upd pv n (some (lastOf a l))) a l n := by
  induction l generalizing a with
  | nil => exact ⟨upd_same _ _ _, upd_same _ _ _⟩
  | cons x l ih =>
    rw [lastOf_cons]
    have hax : a ≠ lastOf x l := fun e0 => (List.nodup_cons.mp hnd).1 (e0 ▸ lastOf_mem x l)
    have hxn : x ≠ n := fun e1 => hn (e1 ▸ List.mem_cons_self)
    exact ⟨(upd_other _ _ hax).trans h.1, (upd_other _ _ hxn).trans h.2.1,
      ih h.2.2 (List.nodup_cons.mp hnd).2 (fun hm => hn (List.mem_cons_of_mem _ hm))⟩

end chain

/-- `link e at` with `at` the sentinel, for an entry that is not in the ring: `e` becomes the first entry -/
theorem link_front {r : Ring} {order : List Nat} (h : Chain r.next r.prev 0 order 0) (hnd : (0 :: order).Nodup)
    {e : Nat} (he : e ∉ 0 :: order) :
    ∃ r', link r e 0 = some r' ∧ Chain r'.next r'.prev 0 (e :: order) 0 ∧ r'.key = r.key ∧ r'.val = r.val ∧
      r'.len = r.len ∧ r'.items = r.items ∧ r'.cap = r.cap ∧ r'.fresh = r.fresh := by
  have he0 : e ≠ 0 := fun e0 => he (e0 ▸ List.mem_cons_self)
  have hn : headOf order 0 ≠ e := fun e1 =>
    he (e1 ▸ (List.perm_append_singleton 0 order).mem_iff.mp (List.head_mem _))
  have hh := (chain_head h).1
  unfold link
  simp only [bind, Option.bind, hh, upd_same, upd_other _ _ he0]
  refine ⟨_, rfl, ?_, rfl, rfl, rfl, rfl, rfl, rfl⟩
  dsimp only
  refine ⟨upd_same _ _ _, (upd_other _ _ hn.symm).trans (upd_same _ _ _), ?_⟩
  -- the old ring does not see `e`; what is left is to enter it from `e` instead of from the sentinel
  have h' := chain_upd he he (some (headOf order 0)) (some 0) h
  cases order with
  | nil => exact ⟨(upd_other _ _ he0).trans (upd_same _ _ _), upd_same _ _ _⟩
  | cons x l =>
    have hx : x ∉ 0 :: l := (List.nodup_cons.mp ((List.Perm.swap 0 x l).nodup_iff.mpr hnd)).1
    exact ⟨(upd_other _ _ he0).trans (upd_same _ _ _), upd_same _ _ _,
      chain_upd (List.nodup_cons.mp hnd).1 hx _ _ h'.2.2⟩

/-- `unlink e` for an entry of the ring: its neighbours are joined; `e` keeps its own pointers -/
theorem unlink_mid {r : Ring} {l1 l2 : List Nat} {e : Nat} (h : Chain r.next r.prev 0 (l1 ++ e :: l2) 0)
    (hnd : (0 :: (l1 ++ e :: l2)).Nodup) :
    ∃ r', unlink r e = some r' ∧ Chain r'.next r'.prev 0 (l1 ++ l2) 0 ∧ r'.key = r.key ∧ r'.val = r.val ∧
      r'.len = r.len ∧ r'.items = r.items ∧ r'.cap = r.cap ∧ r'.fresh = r.fresh := by
  obtain ⟨hc1, hc2⟩ := chain_append.mp h
  have hl := (chain_last hc1).2
  have hh := (chain_head hc2).1
  -- the part up to `e` and the part from `e` on share no node
  obtain ⟨hnd1, hnd2, hdisj⟩ := List.nodup_append.mp (show ((0 :: l1) ++ e :: l2).Nodup from hnd)
  have hpe : e ≠ lastOf 0 l1 := fun e1 => hdisj _ (lastOf_mem 0 l1) e List.mem_cons_self e1.symm
  unfold unlink
  simp only [bind, Option.bind, hl, hh, upd_other _ _ hpe]
  refine ⟨_, rfl, ?_, rfl, rfl, rfl, rfl, rfl, rfl⟩
  dsimp only
  cases l2 with
  | nil => rw [List.append_nil]; exact chain_retarget hc1 hnd1 (List.nodup_cons.mp hnd1).1
  | cons x l2 =>
    have hx : x ∈ e :: x :: l2 := List.mem_cons_of_mem _ List.mem_cons_self
    have hx0 : x ∉ 0 :: l2 := fun hm => (List.mem_cons.mp hm).elim (fun e1 => hdisj 0 List.mem_cons_self x hx e1.symm)
      (List.nodup_cons.mp (List.nodup_cons.mp hnd2).2).1
    have hp : lastOf 0 l1 ∉ x :: l2 := fun hm => hdisj _ (lastOf_mem 0 l1) _ (List.mem_cons_of_mem _ hm) rfl
    exact chain_append.mpr ⟨chain_retarget hc1 hnd1 (fun hm => hdisj x (List.mem_cons_of_mem _ hm) x hx rfl),
      chain_upd hp hx0 _ _ hc2.2.2⟩

/-- the ring: a segment from the sentinel back to the sentinel, without repetition -/
structure Rep (r : Ring) (order : List Nat) : Prop where
  chain : Chain r.next r.prev 0 order 0
  nodup : (0 :: order).Nodup
  len : r.len = order.length

theorem nodup_mid {l1 l2 : List Nat} {e : Nat} (h : (0 :: (l1 ++ e :: l2)).Nodup) : (e :: 0 :: (l1 ++ l2)).Nodup :=
  (List.perm_middle (a := e) (l₁ := 0 :: l1) (l₂ := l2)).nodup_iff.mp h

theorem nodup_front {order : List Nat} {e : Nat} (h : (e :: 0 :: order).Nodup) : (0 :: e :: order).Nodup :=
  (List.Perm.swap e 0 order).nodup_iff.mpr h

theorem pushFront_rep {r : Ring} {order : List Nat} (h : Rep r order) (he : r.fresh ∉ 0 :: order) (k v : Nat) :
    ∃ r', pushFront r k v = some (r', r.fresh) ∧ Rep r' (r.fresh :: order) ∧ r'.key = upd r.key r.fresh k ∧
      r'.val = upd r.val r.fresh v ∧ r'.fresh = r.fresh + 1 ∧ r'.items = r.items ∧ r'.cap = r.cap := by
  obtain ⟨r', hl, hc, hk, hv, hlen, hit, hcap, hfr⟩ :=
    link_front (r := { r with key := upd r.key r.fresh k, val := upd r.val r.fresh v, fresh := r.fresh + 1 })
      h.chain h.nodup he
  refine ⟨{ r' with len := r'.len + 1 }, ?_, ⟨hc, nodup_front (List.nodup_cons.mpr ⟨he, h.nodup⟩), ?_⟩,
    hk, hv, hfr, hit, hcap⟩
  · unfold pushFront insert
    simp only [bind, Option.bind, hl]
  · show r'.len + 1 = order.length + 1
    rw [hlen]; exact congrArg (· + 1) h.len

theorem remove_rep {r : Ring} {l1 l2 : List Nat} {e : Nat} (h : Rep r (l1 ++ e :: l2)) :
    ∃ r', remove r e = some r' ∧ Rep r' (l1 ++ l2) ∧ r'.key = r.key ∧ r'.val = r.val ∧ r'.items = r.items ∧
      r'.cap = r.cap ∧ r'.fresh = r.fresh := by
  obtain ⟨r1, hu, hc, hk, hv, hlen, hit, hcap, hfr⟩ := unlink_mid h.chain h.nodup
  obtain ⟨hee, hnd⟩ := List.nodup_cons.mp (nodup_mid h.nodup)
  refine ⟨{ r1 with next := upd r1.next e none, prev := upd r1.prev e none, len := r1.len - 1 }, ?_,
    ⟨chain_upd hee hee _ _ hc, hnd, ?_⟩, hk, hv, hit, hcap, hfr⟩
  · unfold remove; simp only [bind, Option.bind, hu]
  · show r1.len - 1 = (l1 ++ l2).length
    rw [hlen, h.len, List.perm_middle.length_eq]; rfl

theorem moveToFront_rep {r : Ring} {order : List Nat} (h : Rep r order) {e : Nat} (he : e ∈ order) :
    ∃ r', moveToFront r e = some r' ∧ Rep r' (e :: order.erase e) ∧ r'.key = r.key ∧ r'.val = r.val ∧
      r'.items = r.items ∧ r'.cap = r.cap ∧ r'.fresh = r.fresh := by
  obtain ⟨l1, l2, hel1, rfl, her⟩ := List.exists_erase_eq he
  have hh := (chain_head h.chain).1
  unfold moveToFront
  rw [her]
  cases l1 with
  | nil =>
    -- already in front
    exact ⟨r, by simp only [bind, Option.bind, hh]; exact if_pos rfl, h, rfl, rfl, rfl, rfl, rfl⟩
  | cons x l1 =>
    have hxe : x ≠ e := fun e1 => hel1 (e1 ▸ List.mem_cons_self)
    have he0 : e ≠ 0 := fun e1 => (List.nodup_cons.mp h.nodup).1 (e1 ▸ he)
    obtain ⟨r1, hu, hc, hk, hv, hlen, hit, hcap, hfr⟩ := unlink_mid h.chain h.nodup
    have hmid := nodup_mid h.nodup
    obtain ⟨hee, hnd1⟩ := List.nodup_cons.mp hmid
    obtain ⟨r2, hl, hc2, hk2, hv2, hlen2, hit2, hcap2, hfr2⟩ := link_front hc hnd1 hee
    refine ⟨r2, ?_, ⟨hc2, nodup_front hmid, ?_⟩, hk2.trans hk, hv2.trans hv, hit2.trans hit, hcap2.trans hcap,
      hfr2.trans hfr⟩
    · simp only [bind, Option.bind, hh, move, hu]
      rw [if_neg (show headOf (x :: l1 ++ e :: l2) 0 ≠ e from hxe), if_neg he0]; exact hl
    · rw [hlen2, hlen, h.len]; exact List.perm_middle.length_eq

theorem back_rep {r : Ring} {order : List Nat} (h : Rep r order) : back r = some order.getLast? := by
  unfold back
  cases order with
  | nil => exact if_pos h.len
  | cons x l =>
    rw [if_neg (h.len ▸ Nat.succ_ne_zero _), (chain_last h.chain).2, List.getLast?_eq_some_getLast (List.cons_ne_nil x l)]
    rfl

/-! ### `LRU.Add` / `LRU.Get` over the ring refine the recency-list model -/

/-- a ring whose map `items` names exactly its entries, each under its key; entry indices stay below `fresh` -/
structure Inv (r : Ring) (order : List Nat) : Prop where
  rep : Rep r order
  bound : ∀ i ∈ order, i < r.fresh
  pos : 0 < r.fresh
  sound : ∀ p ∈ r.items, p.2 ∈ order ∧ r.key p.2 = p.1
  complete : ∀ i ∈ order, (r.key i, i) ∈ r.items
  keysNodup : (r.items.map (·.1)).Nodup

/-- what the ring holds, as a cache of the list model -/
def absOf (r : Ring) (order : List Nat) : LRU := ⟨r.cap, order.map fun i => (r.key i, r.val i)⟩

/-- the map holds one entry per key, so the entries of the ring have distinct keys -/
theorem key_inj {r : Ring} {order : List Nat} (h : Inv r order) {i j : Nat} (hi : i ∈ order) (hj : j ∈ order)
    (hk : r.key i = r.key j) : i = j := by
  have hne : r.items.Pairwise (fun p q => p.1 ≠ q.1) := List.pairwise_map.mp h.keysNodup
  have := List.Pairwise.forall_of_forall_of_flip (R := fun p q => p.1 = q.1 → p = q) (fun _ _ _ => rfl)
    (hne.imp fun hn he => absurd he hn) (hne.imp fun hn he => absurd he.symm hn) (h.complete i hi) (h.complete j hj) hk
  exact (Prod.mk.inj this).2

theorem abs_hit {r : Ring} {order : List Nat} (h : Inv r order) {k e : Nat} (hl : lookup r.items k = some e) :
    e ∈ order ∧ r.key e = k ∧ (absOf r order).peek k = some (r.val e) := by
  obtain ⟨p, hf, rfl⟩ := Option.map_eq_some_iff.mp hl
  obtain ⟨he, hk⟩ := h.sound p (List.mem_of_find?_eq_some hf)
  -- `==` on `Nat` unfolds to `decide (_ = _)` here; `eq_of_beq` would search a `LawfulBEq` instance, which is dear
  have hpk := List.find?_some hf
  obtain rfl : p.1 = k := of_decide_eq_true hpk
  refine ⟨he, hk, ?_⟩
  show ((order.map _).find? _).map _ = _
  rw [List.find?_map]
  cases hf' : order.find? ((·.1 == p.1) ∘ fun i => (r.key i, r.val i)) with
  | none => exact absurd (decide_eq_true hk) (List.find?_eq_none.mp hf' p.2 he)
  | some e' =>
    -- the first entry with this key is the one the map names, since the keys are distinct
    have hk' := List.find?_some hf'
    rw [key_inj h (List.mem_of_find?_eq_some hf') he ((of_decide_eq_true hk').trans hk.symm)]; rfl

theorem abs_miss {r : Ring} {order : List Nat} (h : Inv r order) {k : Nat} (hl : lookup r.items k = none) :
    (absOf r order).peek k = none ∧ ∀ p ∈ r.items, p.1 ≠ k := by
  have hn := List.find?_eq_none.mp (Option.map_eq_none_iff.mp hl)
  refine ⟨Option.map_eq_none_iff.mpr (List.find?_eq_none.mpr fun p hp => ?_), fun p hp e1 => hn p hp (decide_eq_true e1)⟩
  obtain ⟨i, hi, rfl⟩ := List.mem_map.mp hp
  exact hn (r.key i, i) (h.complete i hi)

theorem abs_without {r : Ring} {order : List Nat} (h : Inv r order) {e : Nat} (he : e ∈ order) :
    without (absOf r order).items (r.key e) = (order.erase e).map fun i => (r.key i, r.val i) := by
  rw [(List.nodup_cons.mp h.rep.nodup).2.erase_eq_filter]
  show (order.map _).filter _ = _
  rw [List.filter_map]
  refine congrArg _ (List.filter_congr fun i hi => ?_)
  show (r.key i != r.key e) = (i != e)
  by_cases hie : i = e
  · rw [hie, bne_self_eq_false, bne_self_eq_false]
  · rw [bne_iff_ne.mpr hie, bne_iff_ne.mpr fun e1 => hie (key_inj h hi he e1)]

/-- the invariant only looks at the entries of the ring as a set, apart from the ring structure itself -/
theorem inv_perm {r r' : Ring} {order order' : List Nat} (h : Inv r order) (hrep : Rep r' order')
    (hp : order'.Perm order) (hk : r'.key = r.key) (hit : r'.items = r.items) (hfr : r'.fresh = r.fresh) :
    Inv r' order' :=
  { rep := hrep
    bound := fun i hi => hfr ▸ h.bound i (hp.mem_iff.mp hi)
    pos := hfr ▸ h.pos
    sound := fun p hp' => hk ▸ ⟨hp.mem_iff.mpr (h.sound p (hit ▸ hp')).1, (h.sound p (hit ▸ hp')).2⟩
    complete := fun i hi => hit ▸ hk ▸ h.complete i (hp.mem_iff.mp hi)
    keysNodup := hit ▸ h.keysNodup }

theorem inv_push {r r' : Ring} {order : List Nat} (h : Inv r order) {k v : Nat} (hk : ∀ p ∈ r.items, p.1 ≠ k)
    (hrep : Rep r' (r.fresh :: order)) (hkey : r'.key = upd r.key r.fresh k) (hval : r'.val = upd r.val r.fresh v)
    (hfr : r'.fresh = r.fresh + 1) (hit : r'.items = (k, r.fresh) :: r.items) (hcap : r'.cap = r.cap) :
    Inv r' (r.fresh :: order) ∧ absOf r' (r.fresh :: order) = ⟨r.cap, (k, v) :: (absOf r order).items⟩ := by
  -- the old entries keep their key and value: the new index is beyond them
  have hfresh : ∀ i ∈ order, i ≠ r.fresh := fun i hi => Nat.ne_of_lt (h.bound i hi)
  refine ⟨⟨hrep, ?_, hfr ▸ Nat.succ_pos _, ?_, ?_, ?_⟩, ?_⟩
  · rw [hfr]
    exact List.forall_mem_cons.mpr ⟨Nat.lt_succ_self _, fun i hi => Nat.lt_succ_of_lt (h.bound i hi)⟩
  · rw [hkey, hit]
    refine List.forall_mem_cons.mpr ⟨⟨List.mem_cons_self, upd_same _ _ _⟩, fun p hp => ?_⟩
    obtain ⟨h1, h2⟩ := h.sound p hp
    exact ⟨List.mem_cons_of_mem _ h1, (upd_other _ _ (hfresh _ h1)).trans h2⟩
  · rw [hkey, hit]
    refine List.forall_mem_cons.mpr ⟨upd_same r.key _ _ ▸ List.mem_cons_self, fun i hi => ?_⟩
    rw [upd_other _ _ (hfresh _ hi)]; exact List.mem_cons_of_mem _ (h.complete i hi)
  · rw [hit]
    exact List.nodup_cons.mpr ⟨fun hm => let ⟨p, hp, e1⟩ := List.mem_map.mp hm; hk p hp e1, h.keysNodup⟩
  · show LRU.mk r'.cap ((r.fresh :: order).map fun i => (r'.key i, r'.val i)) = ⟨r.cap, (k, v) :: order.map _⟩
    rw [hcap, hkey, hval, List.map_cons, upd_same, upd_same]
    refine congrArg (LRU.mk r.cap <| _ :: ·) (List.map_congr_left fun i hi => ?_)
    rw [upd_other _ _ (hfresh i hi), upd_other _ _ (hfresh i hi)]

/-- **`LRU.Get` over the ring = `get` of the list model** -/
theorem get_refines {r : Ring} {order : List Nat} (h : Inv r order) (k : Nat) :
    ∃ r' order', get r k = some (r', ((absOf r order).get k).2) ∧ Inv r' order' ∧
      absOf r' order' = ((absOf r order).get k).1 := by
  unfold get
  cases hl : lookup r.items k with
  | none =>
    rw [get_miss (abs_miss h hl).1]
    exact ⟨r, order, rfl, h, rfl⟩
  | some e =>
    obtain ⟨he, rfl, hp⟩ := abs_hit h hl
    obtain ⟨r', hm, hrep, hkey, hval, hit, hcap, hfr⟩ := moveToFront_rep h.rep he
    rw [get_hit hp]
    refine ⟨r', e :: order.erase e, ?_, inv_perm h hrep (List.perm_cons_erase he).symm hkey hit hfr, ?_⟩
    · simp only [bind, Option.bind, hm, hval]
    · show LRU.mk r'.cap ((e :: order.erase e).map fun i => (r'.key i, r'.val i)) = ⟨r.cap, _ :: without _ _⟩
      rw [abs_without h he, hcap, hkey, hval]; rfl

theorem get_some_mem {r r' : Ring} {order : List Nat} (h : Inv r order) {k out : Nat}
    (hg : get r k = some (r', some out)) : k ∈ (absOf r order).keysMRU := by
  obtain ⟨_, _, hg', _, _⟩ := get_refines h k
  have hout : ((absOf r order).get k).2 = some out := (Prod.mk.inj (Option.some.inj (hg'.symm.trans hg))).2
  exact (peek_some_iff _ k).mp (by rw [← get_snd, hout]; rfl)

theorem removeElement_inv {r : Ring} {l1 l2 : List Nat} {e : Nat} (h : Inv r (l1 ++ e :: l2)) :
    ∃ r', removeElement r e = some r' ∧ Inv r' (l1 ++ l2) ∧ r'.key = r.key ∧ r'.val = r.val ∧ r'.cap = r.cap := by
  obtain ⟨r1, hrm, hrep1, hk, hv, hit, hcap, hfr⟩ := remove_rep h.rep
  have hmem : ∀ {i}, i ∈ l1 ++ e :: l2 ↔ i ∈ e :: (l1 ++ l2) := List.perm_middle.mem_iff
  have hsub : ∀ i ∈ l1 ++ l2, i ∈ l1 ++ e :: l2 := fun i hi => hmem.mpr (List.mem_cons_of_mem _ hi)
  have hee : e ∉ l1 ++ l2 := fun hm =>
    (List.nodup_cons.mp (nodup_mid h.rep.nodup)).1 (List.mem_cons_of_mem _ hm)
  refine ⟨{ r1 with items := r1.items.filter (·.1 != r1.key e) }, ?_, ?_, hk, hv, hcap⟩
  · unfold removeElement; simp only [bind, Option.bind, hrm]
  · refine ⟨⟨hrep1.chain, hrep1.nodup, hrep1.len⟩, fun i hi => hfr ▸ h.bound i (hsub i hi), hfr ▸ h.pos, ?_, ?_, ?_⟩
    · intro p hp
      obtain ⟨hp1, hp2⟩ := List.mem_filter.mp hp
      obtain ⟨h1, h2⟩ := h.sound p (hit ▸ hp1)
      refine ⟨(List.mem_cons.mp (hmem.mp h1)).resolve_left fun e1 => bne_iff_ne.mp hp2 ?_, hk ▸ h2⟩
      rw [hk, ← e1, h2]
    · intro i hi
      refine List.mem_filter.mpr ⟨hit ▸ hk ▸ h.complete i (hsub i hi), bne_iff_ne.mpr fun e1 => hee ?_⟩
      rw [hk] at e1
      exact key_inj h (hsub i hi) (hmem.mpr List.mem_cons_self) e1 ▸ hi
    · exact (hit ▸ h.keysNodup).sublist (List.filter_sublist.map _)

/-- `removeOldest` on a non-empty ring: `Back()` is the last entry; unlinking it and deleting its key drops the last
    entry of the list model -/
theorem evict_last {r : Ring} {full : List Nat} (h : Inv r full) (hne : full ≠ []) :
    ∃ r', back r = some (some (full.getLast hne)) ∧ removeElement r (full.getLast hne) = some r' ∧
      Inv r' full.dropLast ∧ absOf r' full.dropLast = ⟨r.cap, (absOf r full).items.dropLast⟩ := by
  have h' : Inv r (full.dropLast ++ full.getLast hne :: []) := by rw [List.dropLast_concat_getLast]; exact h
  obtain ⟨r', hre, hinv, hk, hv, hcap⟩ := removeElement_inv h'
  rw [List.append_nil] at hinv
  refine ⟨r', ?_, hre, hinv, ?_⟩
  · rw [back_rep h.rep, List.getLast?_eq_some_getLast hne]
  · show LRU.mk r'.cap (full.dropLast.map fun i => (r'.key i, r'.val i)) = ⟨r.cap, (full.map _).dropLast⟩
    rw [hcap, hk, hv, List.map_dropLast]

/-- **`LRU.Add` over the ring = `add` of the list model** (moving an existing entry to the front, or pushing a new one
    and evicting the oldest beyond the capacity) -/
theorem add_refines {r : Ring} {order : List Nat} (h : Inv r order) (k v : Nat) :
    ∃ r' order', add r k v = some (r', ((absOf r order).add k v).2) ∧ Inv r' order' ∧
      absOf r' order' = ((absOf r order).add k v).1 := by
  unfold add
  cases hl : lookup r.items k with
  | some e =>
    obtain ⟨he, rfl, hp⟩ := abs_hit h hl
    obtain ⟨r1, hm, hrep, hkey, hval, hit, hcap, hfr⟩ := moveToFront_rep h.rep he
    rw [add_hit (by rw [contains_eq_peek, hp]; rfl)]
    -- the invariant does not look at the values, so the ring with the new value has it as `r1` does
    refine ⟨{ r1 with val := upd r1.val e v }, e :: order.erase e, ?_,
      inv_perm h ⟨hrep.chain, hrep.nodup, hrep.len⟩ (List.perm_cons_erase he).symm hkey hit hfr, ?_⟩
    · simp only [bind, Option.bind, hm]
    · show LRU.mk r1.cap ((e :: order.erase e).map fun i => (r1.key i, upd r1.val e v i)) =
        ⟨r.cap, (r.key e, v) :: without _ _⟩
      rw [abs_without h he, hcap, hkey, hval, List.map_cons, upd_same]
      refine congrArg (LRU.mk r.cap <| _ :: ·) (List.map_congr_left fun i hi => ?_)
      rw [upd_other _ _ fun e1 => ((List.nodup_cons.mp h.rep.nodup).2.mem_erase_iff.mp (e1 ▸ hi)).1 rfl]
  | none =>
    obtain ⟨hp, hnop⟩ := abs_miss h hl
    obtain ⟨r1, hpf, hrep1, hkey, hval, hfr, hit, hcap⟩ := pushFront_rep h.rep
      (fun hm => (List.mem_cons.mp hm).elim (Nat.ne_of_gt h.pos) fun h1 => Nat.lt_irrefl _ (h.bound _ h1)) k v
    obtain ⟨hinv2, habs2⟩ := inv_push h hnop (r' := { r1 with items := (k, r.fresh) :: r1.items })
      ⟨hrep1.chain, hrep1.nodup, hrep1.len⟩ hkey hval hfr (congrArg _ hit) hcap
    rw [add_miss (by rw [contains_eq_peek, hp]; rfl)]
    simp only [bind, Option.bind, hpf]
    have hcond : (r1.len > r1.cap) = ((absOf r order).items.length + 1 > (absOf r order).cap) := by
      rw [hrep1.len, hcap]; exact congrArg (· + 1 > r.cap) (List.length_map _).symm
    by_cases hgt : r1.len > r1.cap
    · rw [if_pos hgt, if_pos (hcond ▸ hgt)]
      obtain ⟨r3, hb, hre, hinv3, habs3⟩ := evict_last hinv2 (List.cons_ne_nil _ _)
      refine ⟨r3, _, ?_, hinv3, habs3.trans ?_⟩
      · rw [hb]; simp only [hre, Option.map_some]
      · rw [habs2, hcap]; rfl
    · rw [if_neg hgt, if_neg (hcond ▸ hgt)]
      exact ⟨_, _, rfl, hinv2, habs2⟩

theorem inv_new (cap : Nat) : Inv (new cap) [] :=
  { rep := ⟨⟨rfl, rfl⟩, List.nodup_cons.mpr ⟨List.not_mem_nil, List.nodup_nil⟩, rfl⟩
    bound := fun _ hi => nomatch hi
    pos := Nat.one_pos
    sound := fun _ hp => nomatch hp
    complete := fun _ hi => nomatch hi
    keysNodup := List.nodup_nil }

theorem abs_new (cap : Nat) : absOf (new cap) [] = empty cap := rfl

theorem step_refines {r : Ring} {order : List Nat} (h : Inv r order) (op : TOp) :
    ∃ r' order', step r op = some (r', (LRU.step (absOf r order) op.toOp).2) ∧ Inv r' order' ∧
      absOf r' order' = (LRU.step (absOf r order) op.toOp).1 := by
  cases op with
  | add k v =>
    obtain ⟨r', o', h1, h2, h3⟩ := add_refines h k v
    exact ⟨r', o', congrArg (Option.map _) h1, h2, h3⟩
  | get k =>
    obtain ⟨r', o', h1, h2, h3⟩ := get_refines h k
    exact ⟨r', o', congrArg (Option.map _) h1, h2, h3⟩

theorem run_refines : ∀ (ops : List TOp) {r : Ring} {order : List Nat}, Inv r order →
    ∃ r' order', run r ops = some (r', (LRU.run (absOf r order) (ops.map TOp.toOp)).2) ∧ Inv r' order' ∧
      absOf r' order' = (LRU.run (absOf r order) (ops.map TOp.toOp)).1 := by
  intro ops
  induction ops with
  | nil => exact fun h => ⟨_, _, rfl, h, rfl⟩
  | cons op ops ih =>
    intro r order h
    obtain ⟨r1, o1, h1, hinv1, habs1⟩ := step_refines h op
    obtain ⟨r2, o2, h2, hinv2, habs2⟩ := ih hinv1
    rw [habs1] at h2 habs2
    refine ⟨r2, o2, ?_, hinv2, habs2⟩
    rw [run, h1]
    exact congrArg (Option.bind · _) h2

end Fox.LRU.Ring
