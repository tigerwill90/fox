import FoxModel.Lemmas.TreeInv
/-
  FoxModel.Lemmas.TreeRead — the readers of a tree, `Has` / `Route`, `All` and `Methods`, in terms of its suffix sets.

  The byte-wise search follows the walk that `getEdge` steers (`searchKids_pick`), so it finds every registered
  suffix (`found_searchNode`, over `Reg`), and what it returns lies in the searched subtree (`sound_searchNode`);
  `All` yields per method the routes of that method (`all_fiber`); a method is listed iff it holds a route
  (`mem_methods_iff`).
-/

namespace Fox.C02
open Fox Fox.Model Fox.Spec

/-! ### the exact-pattern lookup (`Has` / `Route`) -/

/-- on a text that starts with the first byte of `toks`, `searchKids` descends into the child `pickKid toks` selects -/
theorem searchKids_pick {toks : List Tok} {p : Bytes} (hp : p.head? = some (firstByte toks)) (cs : List Node) :
    searchKids cs p =
      (match pickKid toks cs with
       | none => none
       | some (_, c, _) => searchNode c p) := by
  induction cs with
  | nil => simp only [searchKids, pickKid]
  | cons c cs ih =>
    unfold searchKids
    simp only [pickKid, hp, Option.some.injEq]
    split
    · rfl
    · rw [ih]
      cases pickKid toks cs with
      | none => rfl
      | some x => rfl

/-- a registered suffix is found by the byte-wise search, in the node that carries its route -/
theorem found_searchNode {n : Node} {toks : List Tok} {x : Route} (h : Reg n toks x) :
    ∃ n', searchNode n (render toks) = some n' ∧ n'.route = some x := by
  induction h with
  | @here key x cs =>
    refine ⟨.mk key (some x) cs, ?_, rfl⟩
    -- the searched text is `render key` itself: the search ends in this node
    unfold searchNode
    simp
  | @under key route pre c post t ts x hp hc ih =>
    obtain ⟨n', h1, h2⟩ := ih
    refine ⟨n', ?_, h2⟩
    -- `render key` is a proper prefix of the searched text: the search goes on among the children
    obtain ⟨rest, hr⟩ := render_head t ts
    unfold searchNode
    have hlen : ¬ (render (key ++ t :: ts)).length ≤ (render key).length := by
      rw [render_append, List.length_append, hr, List.length_cons]
      exact Nat.not_le.mpr (Nat.lt_add_of_pos_right (Nat.succ_pos _))
    simp only [hlen, if_false]
    rw [render_append, List.take_left', List.drop_left', if_pos rfl, searchKids_pick (congrArg List.head? hr), hp]
    · exact h1
    · rfl
    · rfl

theorem searchKids_eq_some (cs : List Node) (p : Bytes) (n' : Node) (h : searchKids cs p = some n') :
    ∃ c ∈ cs, searchNode c p = some n' := by
  induction cs with
  | nil => simp [searchKids] at h
  | cons c cs ih =>
    unfold searchKids at h
    split at h
    · exact ⟨c, List.mem_cons_self, h⟩
    · obtain ⟨d, hd, hs⟩ := ih h
      exact ⟨d, List.mem_cons_of_mem _ hd, hs⟩

theorem routesNode_mk (k : List Tok) (r : Option Route) (cs : List Node) :
    routesNode (.mk k r cs) = (match r with | some r => [r] | none => []) ++ cs.flatMap routesNode := by
  conv => lhs; unfold routesNode
  rw [routesKids_eq_flatMap]
  cases r <;> rfl

/-- what `searchKids` returns lies below one of the children, if this holds for each child -/
theorem sound_searchKids {k : List Tok} {r : Option Route} {cs : List Node} {p : Bytes} {n' : Node} {x : Route}
    (h : searchKids cs p = some n') (ih : ∀ c ∈ cs, searchNode c p = some n' → x ∈ routesNode c) :
    x ∈ routesNode (.mk k r cs) := by
  obtain ⟨c, hc, hs⟩ := searchKids_eq_some _ _ _ h
  rw [routesNode_mk]
  exact List.mem_append_right _ (List.mem_flatMap.mpr ⟨c, hc, ih c hc hs⟩)

/-- the node returned by the byte-wise search lies in the searched subtree -/
theorem sound_searchNode (n : Node) : ∀ (p : Bytes) (n' : Node) (x : Route), searchNode n p = some n' →
    n'.route = some x → x ∈ routesNode n := by
  induction n using Node.ind with
  | h key route cs ih =>
    intro p n' x h hx
    unfold searchNode at h
    simp only [] at h
    by_cases hlen : p.length ≤ (render key).length
    · rw [if_pos hlen] at h
      split at h
      · cases h
        cases hx
        rw [routesNode_mk]
        exact List.mem_append_left _ List.mem_cons_self
      · cases h
    · rw [if_neg hlen] at h
      split at h
      · exact sound_searchKids h fun c hc hs => ih c hc _ _ _ hs hx
      · cases h

/-- `Has` / `Route` answer `x` iff the search from the root of the method ends in a node that carries `x`, and the
    text of `x` is the requested one -/
theorem has_some {t : Tree} {m txt : Bytes} {x : Route} : t.has m txt = some x ↔
    ∃ root n', methodRoot t.roots m = some root ∧ searchRoot root txt = some n' ∧ n'.route = some x ∧
      x.text = txt := by
  unfold Tree.has routeOf
  constructor
  · intro h
    split at h
    · cases h
    · next root hroot =>
      split at h
      · next n' hs =>
        split at h
        · next r hr =>
          split at h
          · next ht => cases h; exact ⟨root, n', hroot, hs, hr, ht⟩
          · cases h
        · cases h
      · cases h
  · rintro ⟨root, n', hroot, hs, hr, ht⟩
    simp only [hroot, hs, hr, ht, if_true]

/-! ### the iterators `All` and `Methods` -/

-- for `List.count` on (method, route) pairs in `count_fiber` and `C02_all`
instance : LawfulBEq Route where
  eq_of_beq {a b} h := by
    change instBEqRoute.beq a b = true at h
    obtain ⟨a1, a2, a3, a4, a5⟩ := a
    obtain ⟨b1, b2, b3, b4, b5⟩ := b
    simp only [instBEqRoute.beq, Bool.and_eq_true, beq_iff_eq] at h
    obtain ⟨rfl, rfl, rfl, rfl, rfl⟩ := h
    rfl
  rfl {a} := by
    change instBEqRoute.beq a a = true
    obtain ⟨a1, a2, a3, a4, a5⟩ := a
    simp [instBEqRoute.beq]

/-- a pair occurs in a list as often as its value occurs among the values filed under its method -/
theorem count_fiber (m : Bytes) (r : Route) (l : List (Bytes × Route)) :
    List.count (m, r) l = List.count r (fiber l m) := by
  simp only [fiber, List.count_eq_countP, List.countP_map, List.countP_filter]
  apply List.countP_congr
  intro e _
  exact Bool.and_comm _ _ ▸ Iff.rfl

/-- the routes `All` yields for one method are the routes of that method -/
theorem all_fiber {t : Tree} (hnd : (t.roots.map (·.1)).Nodup) (m : Bytes) : fiber t.all m = routesOf t m := by
  have : ∀ rs : Roots, fiber (rs.flatMap fun (m, n) => (routesNode n).map fun r => (m, r)) m =
      (fiber rs m).flatMap routesNode := by
    intro rs
    induction rs with
    | nil => rfl
    | cons x xs ih =>
      obtain ⟨m', n⟩ := x
      rw [List.flatMap_cons, fiber_append, ih, fiber_cons]
      show fiber ((routesNode n).map fun r => (m', r)) m ++ _ = _
      rw [fiber_const]
      cases m' == m <;> rfl
  rw [Tree.all, this, fiber_roots m _ hnd, routesOf]
  cases methodRoot t.roots m with
  | none => rfl
  | some root => exact List.append_nil _

/-- a method is listed by `Methods` iff the tree holds a route for it: a root has routes iff it has children -/
theorem mem_methods_iff {t : Tree} (hg : Good t) (m : Bytes) : m ∈ t.methods ↔ routesOf t m ≠ [] := by
  have hroot : ∀ n, RootOk n → (n.children.isEmpty = false ↔ routesNode n ≠ []) := by
    intro n hn
    cases hc : n.children.isEmpty
    · obtain ⟨k, ro, cs⟩ := n
      cases cs with
      | nil => cases hc
      | cons c cs =>
        have := routes_ne_nil_of_shape c ((shapeKids_iff _).mp hn.shape c List.mem_cons_self)
        simp [routesNode_mk, this]
    · simp [routesNode_eq, sufsNode_no_children hn.wf hc]
  simp only [Tree.methods, List.mem_map, List.mem_filter, Bool.not_eq_true', routesOf]
  constructor
  · rintro ⟨⟨_, n⟩, ⟨hx, hc⟩, rfl⟩
    rw [methodRoot_of_mem hg.nodup hx]
    exact (hroot n (hg.roots _ hx)).mp hc
  · intro hr
    cases hm : methodRoot t.roots m with
    | none => rw [hm] at hr; exact absurd rfl hr
    | some root =>
      rw [hm] at hr
      have hx := methodRoot_some hm
      exact ⟨(m, root), ⟨hx, (hroot root (hg.roots _ hx)).mpr hr⟩, rfl⟩

end Fox.C02
