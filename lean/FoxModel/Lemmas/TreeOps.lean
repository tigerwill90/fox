import FoxModel.Model.WF
import FoxModel.Spec.Store
/-
  FoxModel.Lemmas.TreeOps — the words in which the C02 statements are made, before anything is proved: the
  hypothesis `validPattern` on a registered route and `StoreOk` on the specification store, a mutating call as data
  (`Op`), one call and a history of calls on the radix tree (`stepModel`, `runModel`) and on the store (`stepSpec`,
  `runSpec`).
-/

namespace Fox.C02
open Fox Fox.Model Fox.Spec

/-! ### valid patterns -/

/-- what `insert` needs to know about a parsed route: literal tokens are not wildcard delimiters and a catch-all
    is followed by '/' (`keyOk`); `hostToks` is the index of the first literal '/' (the tokens before it contain
    no '/', the token at it is '/'); the hostname part does not end with a catch-all (fox rejects catch-alls in
    hostnames altogether). -/
def validPattern (r : Route) : Bool :=
  keyOk r.pattern && startsWithSlash (r.pattern.drop r.hostToks) && noSlashTok (r.pattern.take r.hostToks)
    && !endsWithCatchAll (r.pattern.take r.hostToks)

theorem validPattern_iff (r : Route) : validPattern r = true ↔
    keyOk r.pattern = true ∧ startsWithSlash (r.pattern.drop r.hostToks) = true ∧
      noSlashTok (r.pattern.take r.hostToks) = true ∧ endsWithCatchAll (r.pattern.take r.hostToks) = false := by
  simp [validPattern, and_assoc]

theorem validPattern_ne_nil {r : Route} (h : validPattern r = true) : r.pattern ≠ [] := by
  intro e
  have := ((validPattern_iff r).mp h).2.1
  rw [e] at this; simp [startsWithSlash] at this

theorem findIdx_slash_spec (toks : List Tok) (h : Tok.lit SLASH ∈ toks) :
    startsWithSlash (toks.drop (toks.findIdx (· == .lit SLASH))) = true ∧
    noSlashTok (toks.take (toks.findIdx (· == .lit SLASH))) = true := by
  induction toks with
  | nil => cases h
  | cons t ts ih =>
    by_cases ht : t = .lit SLASH
    · subst ht
      simp [List.findIdx_cons, startsWithSlash, noSlashTok]
    · have hb : (t == Tok.lit SLASH) = false := beq_false_of_ne ht
      obtain ⟨h1, h2⟩ := ih ((List.mem_cons.mp h).resolve_left (Ne.symm ht))
      simp only [List.findIdx_cons, hb, cond_false, List.drop_succ_cons, List.take_succ_cons]
      refine ⟨h1, ?_⟩
      simp only [noSlashTok, List.contains_cons, Bool.not_or, Bool.and_eq_true, Bool.not_eq_true'] at h2 ⊢
      exact ⟨beq_false_of_ne (Ne.symm ht), h2⟩

/-! ### the specification store -/

/-- no two entries of the store have the same key (method, pattern) -/
def StoreOk (s : Store) : Prop := (s.map fun e => (e.1, e.2.pattern)).Nodup

/-! ### histories of operations -/

/-- a mutating call on the router -/
inductive Op where
  | handle (m : Bytes) (r : Route)
  | update (m : Bytes) (r : Route)
  | delete (m : Bytes) (pat : List Tok)
  | truncate (ms : List Bytes)

/-- only `Handle` needs a hypothesis: the pattern it registers is well formed (what `parseRoute` accepts) -/
def Op.valid : Op → Bool
  | .handle _ r => validPattern r
  | _ => true

/-- one call on the radix tree; a failed call returns the tree it was given -/
def stepModel (t : Tree) : Op → Tree × Option Outcome
  | .handle m r =>
    match t.insert m r with
    | .ok (t', _) => (t', some (.ok r))
    | .error (.exist _) => (t, some .exist)
    | .error (.conflict cs) => (t, some (.conflict cs))
  | .update m r =>
    match t.update m r with
    | some t' => (t', some (.ok r))
    | none => (t, some .notFound)
  | .delete m pat =>
    match t.remove m pat with
    | some (t', old, _) => (t', some (.ok old))
    | none => (t, some .notFound)
  | .truncate ms => (t.truncate ms, none)

def stepSpec (s : Store) : Op → Store × Option Outcome
  | .handle m r => ((s.handle m r).1, some (s.handle m r).2)
  | .update m r => ((s.update m r).1, some (s.update m r).2)
  | .delete m pat => ((s.delete m pat).1, some (s.delete m pat).2)
  | .truncate ms => (s.truncate ms, none)

def runModel (t : Tree) : List Op → Tree × List (Option Outcome)
  | [] => (t, [])
  | op :: ops => ((runModel (stepModel t op).1 ops).1, (stepModel t op).2 :: (runModel (stepModel t op).1 ops).2)

def runSpec (s : Store) : List Op → Store × List (Option Outcome)
  | [] => (s, [])
  | op :: ops => ((runSpec (stepSpec s op).1 ops).1, (stepSpec s op).2 :: (runSpec (stepSpec s op).1 ops).2)

end Fox.C02
