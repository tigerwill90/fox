import FoxModel.Spec.Clean
import FoxModel.Model.Clean
import FoxModel.Lemmas.CleanSpec
/-
  FoxModel.Lemmas.CleanModel — the loop invariant of `CleanPath` and the proof that the index/buffer model of
  path.go computes the lexical specification (no Go panic, same bytes) for every input.
-/
namespace Fox.Model.Clean
open Fox Fox.Spec.Clean

/-! ### buffer primitives -/

theorem take_set_succ {b : Bytes} {w : Nat} (c : UInt8) (hw : w < b.length) : (b.set w c).take (w + 1) = b.take w ++ [c] := by
  rw [List.take_add_one, List.getElem?_set_self hw, List.take_set_of_le (Nat.le_refl w)]; rfl

theorem bufApp_spec {p : Bytes} {buf : Buf} {w : Nat} (c : UInt8) (hw : w < (view p buf).length) :
    ∃ buf', bufApp p buf w c = some buf' ∧
      (view p buf').take (w + 1) = (view p buf).take w ++ [c] ∧
      (view p buf').length = (view p buf).length := by
  cases buf with
  | some b => exact ⟨some (b.set w c), by simp [bufApp, setAt, show w < b.length from hw], take_set_succ c hw, by simp [view]⟩
  | none =>
    simp only [view] at hw
    by_cases hc : p[w] = c
    · refine ⟨none, by simp [bufApp, List.getElem?_eq_getElem hw, hc], ?_, rfl⟩
      simp only [view]
      rw [List.take_add_one, List.getElem?_eq_getElem hw, hc]; rfl
    · -- the prefix written so far is copied into a fresh buffer of the same length
      have hle := Nat.le_of_lt hw
      have hlen : (p.take w ++ List.replicate (p.length - w) (0 : UInt8)).length = p.length := by
        rw [List.length_append, List.length_take_of_le hle, List.length_replicate, Nat.add_sub_cancel' hle]
      have hw' := hlen ▸ hw
      refine ⟨some ((p.take w ++ List.replicate (p.length - w) 0).set w c), ?_, ?_, by simp only [view, List.length_set]; exact hlen⟩
      · simp only [bufApp, List.getElem?_eq_getElem hw, if_neg hc, setAt, if_pos hw']; rfl
      · simp only [view]
        rw [take_set_succ c hw', List.take_left' (List.length_take_of_le hle)]

/-! ### the backtracking scan of the '..' case -/

theorem scanBack_slash {x : Bytes} {w : Nat} (h : x[w + 2]? = some SLASH) : scanBack x (w + 2) = some (w + 2) := by
  rw [scanBack, h]; rfl

theorem scanBack_ne {x : Bytes} {w : Nat} {c : UInt8} (h : x[w + 2]? = some c) (hc : c ≠ SLASH) :
    scanBack x (w + 2) = scanBack x (w + 1) := by
  rw [scanBack, h]; exact if_neg hc

/-- the '..' scan stops on the last slash of what has been written, or at index 1 -/
theorem scanBack_spec {x pre e : Bytes} {w0 : Nat} (hx : x.take w0 = pre ++ SLASH :: e) (he : SLASH ∉ e) :
    ∀ k, k ≤ e.length → 1 ≤ pre.length + k → scanBack x (pre.length + k) = some (max 1 pre.length) := by
  -- `x` is read only where `pre ++ "/" ++ e` is
  have hget : ∀ (j : Nat) (c : UInt8), (pre ++ SLASH :: e)[j]? = some c → x[j]? = some c := by
    intro j c h
    rw [← hx, List.getElem?_take] at h
    split at h
    · exact h
    · cases h
  intro k
  induction k with
  | zero =>
    intro _ h1
    rw [Nat.add_zero] at h1 ⊢
    rcases Nat.lt_or_ge pre.length 2 with h2 | h2
    · rw [Nat.le_antisymm (Nat.le_of_lt_succ h2) h1]; rfl
    · obtain ⟨n, hn⟩ := Nat.exists_eq_add_of_le' h2
      have hs : (pre ++ SLASH :: e)[n + 2]? = some SLASH := by
        rw [← hn, List.getElem?_append_right (Nat.le_refl _), Nat.sub_self]; rfl
      rw [hn, scanBack_slash (hget _ _ hs), Nat.max_eq_right (Nat.le_add_left 1 (n + 1))]
  | succ k ih =>
    intro hk h1
    have hc : (pre ++ SLASH :: e)[pre.length + (k + 1)]? = some e[k] := by
      rw [List.getElem?_append_right (Nat.le_add_right _ _), Nat.add_sub_cancel_left, List.getElem?_cons_succ,
        List.getElem?_eq_getElem hk]
    have hne : e[k] ≠ SLASH := fun h => he (h ▸ List.getElem_mem hk)
    rcases Nat.eq_zero_or_pos (pre.length + k) with h0 | hpos
    · rw [show pre.length + (k + 1) = 1 from congrArg Nat.succ h0, Nat.eq_zero_of_add_eq_zero_right h0]; rfl
    · obtain ⟨i, hi⟩ := Nat.exists_eq_succ_of_ne_zero (Nat.ne_of_gt hpos)
      rw [show pre.length + (k + 1) = i + 2 from congrArg Nat.succ hi] at hc ⊢
      rw [scanBack_ne (hget _ _ hc) hne]
      have := ih (Nat.le_of_succ_le hk) hpos
      rw [hi] at this; exact this

/-! ### reading the input by index and by suffix -/

theorem drop_eq_cons {p : Bytes} {r : Nat} {c : UInt8} {t : Bytes} (h : p.drop r = c :: t) :
    ∃ hr : r < p.length, p[r] = c ∧ p.drop (r + 1) = t := by
  have hr : r < p.length := by
    apply Nat.lt_of_not_le
    intro hle
    rw [List.drop_eq_nil_of_le hle] at h
    cases h
  rw [List.drop_eq_getElem_cons hr] at h
  injection h with h1 h2
  exact ⟨hr, h1, h2⟩

theorem drop_add {p x t : Bytes} {r : Nat} (h : p.drop r = x ++ t) : p.drop (r + x.length) = t := by
  rw [← List.drop_drop, h, List.drop_left]

theorem getLast?_cons_of_ne_nil {α : Type} {a : α} {l : List α} (h : l ≠ []) : (a :: l).getLast? = l.getLast? := by
  cases l with
  | nil => exact absurd rfl h
  | cons b l => exact List.getLast?_cons_cons

theorem getLast?_of_append {α : Type} {x t : List α} {c : α} (h : (x ++ t).getLast? = some c) (ht : t ≠ []) :
    t.getLast? = some c := by
  rw [List.getLast?_append, List.getLast?_eq_some_getLast ht] at h
  rw [List.getLast?_eq_some_getLast ht]; exact h

/-- the `switch` looks at the unread input only -/
theorem classify_drop {p : Bytes} {r : Nat} (hr : r ≤ p.length) : classify p r = classify (p.drop r) 0 := by
  have hl : ∀ k, (0 + k = (p.drop r).length) = (r + k = p.length) := fun k => by
    rw [List.length_drop]; exact propext ⟨fun h => by omega, fun h => by omega⟩
  unfold classify
  simp only [List.getElem?_drop, hl, Nat.add_zero]

theorem dot_ne_slash : DOT ≠ SLASH := by decide

theorem classify_slash (t : Bytes) : classify (SLASH :: t) 0 = some .slash := rfl

theorem classify_dotEnd : classify [DOT] 0 = some .dotEnd := rfl

theorem classify_dot (t : Bytes) : classify (DOT :: SLASH :: t) 0 = some .dot := rfl

theorem classify_dotdotEnd : classify [DOT, DOT] 0 = some .dotdot := rfl

theorem classify_dotdot (t : Bytes) : classify (DOT :: DOT :: SLASH :: t) 0 = some .dotdot := rfl

/-- whatever follows it: the first byte that is not '.', or a third byte, decides -/
theorem classify_good {e : Bytes} (hg : GoodElem e) (rest : Bytes) : classify (e ++ rest) 0 = some .elem := by
  rcases goodElem_cases hg with ⟨c, t, rfl, hs, hd⟩ | ⟨c, t, rfl, hs, hd⟩ | ⟨c, t, rfl, hs⟩
  · simp [classify, hs, hd]
  · simp [classify, dot_ne_slash, hs, hd]
  · simp [classify, dot_ne_slash, hs]

/-! ### the element copy loop -/

theorem copyElem_spec {p : Bytes} : ∀ (e : Bytes) {r w : Nat} {buf : Buf} {rest : Bytes},
    p.drop r = e ++ rest → SLASH ∉ e → ElemEnd rest →
    w + e.length ≤ (view p buf).length →
    ∃ buf', copyElem p r w buf = some (r + e.length, w + e.length, buf') ∧
      (view p buf').take (w + e.length) = (view p buf).take w ++ e ∧
      (view p buf').length = (view p buf).length := by
  intro e
  induction e with
  | nil =>
    intro r w buf rest hd _ hb _
    refine ⟨buf, ?_, by simp, rfl⟩
    rcases hb with hb | ⟨t, hb⟩
    · subst hb
      rw [copyElem, dif_neg (Nat.not_lt_of_le (List.drop_eq_nil_iff.mp hd))]; rfl
    · subst hb
      obtain ⟨hr, hc, _⟩ := drop_eq_cons hd
      rw [copyElem, dif_pos hr, if_pos hc]; rfl
  | cons c e ih =>
    intro r w buf rest hd hs hb hw
    obtain ⟨hr, hc, hd'⟩ := drop_eq_cons hd
    have hcs : p[r] ≠ SLASH := by
      rw [hc]; intro h; exact hs (by simp [h])
    have hs' : SLASH ∉ e := fun h => hs (by simp [h])
    rw [List.length_cons] at hw ⊢
    obtain ⟨b1, hb1, hv1, hl1⟩ := bufApp_spec (p := p) (buf := buf) (w := w) p[r]
      (Nat.lt_of_lt_of_le (Nat.lt_add_of_pos_right (Nat.succ_pos _)) hw)
    obtain ⟨b2, hb2, hv2, hl2⟩ := ih (r := r + 1) (w := w + 1) (buf := b1) hd' hs' hb
      (by rw [hl1, Nat.add_right_comm]; exact hw)
    rw [Nat.add_right_comm r, Nat.add_right_comm w] at hb2
    rw [Nat.add_right_comm w] at hv2
    refine ⟨b2, ?_, ?_, by rw [hl2, hl1]⟩
    · rw [copyElem, dif_pos hr, if_neg hcs, hb1]
      exact hb2
    · rw [show w + (e.length + 1) = w + e.length + 1 from rfl, hv2, hv1, hc, List.append_assoc]
      rfl

/-! ### the specification on a suffix -/

/-- the last element of `rest` is ".": the loop will set `trailing` when it gets there -/
def lastDot (rest : Bytes) : Bool := (splitSlash rest).getLast? == some [DOT]

/-- the stack after the elements of `rest` have gone through it -/
def pushAll (st : List Bytes) (rest : Bytes) : List Bytes := (splitSlash rest).foldl push st

theorem pushAll_nil (st : List Bytes) : pushAll st [] = st := push_nil st

theorem lastDot_nil : lastDot [] = false := by decide

/-- a first element that ends at a slash is pushed; whether the last element is "." is decided behind the slash -/
theorem pushAll_seg (st : List Bytes) {e : Bytes} (he : SLASH ∉ e) (t : Bytes) :
    pushAll st (e ++ SLASH :: t) = pushAll (push st e) t ∧ lastDot (e ++ SLASH :: t) = lastDot t := by
  unfold pushAll lastDot
  rw [splitSlash_first he, getLast?_cons_of_ne_nil (splitSlash_ne_nil t)]
  exact ⟨rfl, rfl⟩

theorem pushAll_last (st : List Bytes) {e : Bytes} (he : SLASH ∉ e) :
    pushAll st e = push st e ∧ lastDot e = (e == [DOT]) := by
  unfold pushAll lastDot
  rw [splitSlash_noslash he]
  exact ⟨rfl, by simp⟩

/-- a proper element is pushed, wherever the copy loop stops: at the end of the input or in front of the slash -/
theorem pushAll_good (st : List Bytes) {e rest : Bytes} (hg : GoodElem e) (hb : ElemEnd rest) :
    pushAll st (e ++ rest) = pushAll (e :: st) rest ∧ lastDot (e ++ rest) = lastDot rest := by
  rcases hb with rfl | ⟨t, rfl⟩
  · obtain ⟨h1, h2⟩ := pushAll_last st hg.noslash
    rw [List.append_nil, h1, h2, push_of_good hg, pushAll_nil, lastDot_nil]
    exact ⟨rfl, by simpa using hg.2.1⟩
  · obtain ⟨h1, h2⟩ := pushAll_seg st hg.noslash t
    obtain ⟨h3, h4⟩ := pushAll_seg (e :: st) (e := []) (by simp) t
    rw [h1, h2, push_of_good hg]
    exact ⟨by rw [push_nil] at h3; exact h3.symm, h4.symm⟩

/-! ### `loop` unfolded, branch by branch -/

theorem loop_exit {p : Bytes} {r w : Nat} {buf : Buf} {tr : Bool} (hr : ¬ r < p.length) :
    loop p r w buf tr = some (w, buf, tr) := by
  rw [loop, dif_neg hr]

theorem loop_past_end {p : Bytes} {r r' w : Nat} {buf : Buf} {tr : Bool} (hr : p.length ≤ r) (hr' : p.length ≤ r') :
    loop p r w buf tr = loop p r' w buf tr := by
  rw [loop_exit (Nat.not_lt_of_le hr), loop_exit (Nat.not_lt_of_le hr')]

theorem loop_slash {p : Bytes} {r w : Nat} {buf : Buf} {tr : Bool} (hr : r < p.length)
    (hc : classify p r = some .slash) : loop p r w buf tr = loop p (r + 1) w buf tr := by
  rw [loop, dif_pos hr]
  split <;> simp_all

theorem loop_dotEnd {p : Bytes} {r w : Nat} {buf : Buf} {tr : Bool} (hr : r < p.length)
    (hc : classify p r = some .dotEnd) : loop p r w buf tr = loop p (r + 1) w buf true := by
  rw [loop, dif_pos hr]
  split <;> simp_all

theorem loop_dot {p : Bytes} {r w : Nat} {buf : Buf} {tr : Bool} (hr : r < p.length)
    (hc : classify p r = some .dot) : loop p r w buf tr = loop p (r + 2) w buf tr := by
  rw [loop, dif_pos hr]
  split <;> simp_all

theorem loop_dotdot {p : Bytes} {r w w' : Nat} {buf : Buf} {tr : Bool} (hr : r < p.length)
    (hc : classify p r = some .dotdot) (hb : backtrack p buf w = some w') :
    loop p r w buf tr = loop p (r + 3) w' buf tr := by
  rw [loop, dif_pos hr]
  split <;> simp_all

theorem loop_elem {p : Bytes} {r w w1 r' w' : Nat} {buf buf1 buf' : Buf} {tr : Bool} (hr : r < p.length)
    (hc : classify p r = some .elem) (ha : addSlash p buf w = some (w1, buf1))
    (he : copyElem p r w1 buf1 = some (r', w', buf')) :
    loop p r w buf tr = loop p r' w' buf' tr := by
  rw [loop, dif_pos hr]
  split <;> simp_all
  split <;> simp_all

/-! ### the invariant -/

/-- the surviving elements (top of the stack first) printed without the leading-root special case -/
def jr (st : List Bytes) : Bytes := join st.reverse

/-- what has been written so far: "/" for the empty stack, "/a/b" otherwise -/
def outOf (st : List Bytes) : Bytes := if st = [] then [SLASH] else jr st

theorem jr_cons (e : Bytes) (st : List Bytes) : jr (e :: st) = jr st ++ SLASH :: e := by
  simp [jr, join]

theorem jr_length_ge {st : List Bytes} (hne : st ≠ []) (hg : ∀ e ∈ st, GoodElem e) : 2 ≤ (jr st).length := by
  cases st with
  | nil => exact absurd rfl hne
  | cons e st =>
    rw [jr_cons]
    have : 1 ≤ e.length := List.length_pos_iff.mpr (hg e (by simp)).1
    simp; omega

theorem max_one_jr {st : List Bytes} (hg : ∀ e ∈ st, GoodElem e) : max 1 (jr st).length = (outOf st).length := by
  unfold outOf
  by_cases h : st = []
  · simp [h, jr, join]
  · have := jr_length_ge h hg
    simp [h]; omega

/-- Loop invariant of `CleanPath` at the head of the main loop. `L` is the length of the (virtual) buffer:
    `len(p)` for a rooted input, `len(p)+1` otherwise. The first `w` bytes of the buffer are the stack `st` printed (`vw`).
    No write is out of range because the output never overtakes the input: what is written plus what is unread fits (`slack`).
    A proper element is written behind a separating slash that the input need not have at that place (after "//", "./",
    "../"); the byte for it is there (`strict`) because either a byte has been skipped since, or the unread input is empty or starts
    with the slash that separates the elements, which the next round skips. When `trailing` is set (`trail`), either it comes from
    the final slash of the input, which is still unread and so keeps a byte free, or the input is read up and a byte is free
    (if the stack is not empty; on the root no slash is written). -/
structure Inv (p : Bytes) (L r w : Nat) (buf : Buf) (tr : Bool) (st : List Bytes) : Prop where
  good : ∀ e ∈ st, GoodElem e
  len : (outOf st).length = w
  vw : (view p buf).take w = outOf st
  blen : (view p buf).length = L
  slack : w + (p.drop r).length ≤ L
  strict : 1 < w → w + (p.drop r).length < L ∨ p.drop r = [] ∨ ∃ t, p.drop r = SLASH :: t
  trail : tr = true →
    (p.drop r ≠ [] ∧ (p.drop r).getLast? = some SLASH) ∨ (p.drop r = [] ∧ (1 < w → w < L))

theorem Inv.one_lt_iff {p : Bytes} {L r w : Nat} {buf : Buf} {tr : Bool} {st : List Bytes} (h : Inv p L r w buf tr st) :
    1 < w ↔ st ≠ [] := by
  rw [← h.len]
  unfold outOf
  by_cases hs : st = []
  · simp [hs]
  · have := jr_length_ge hs h.good
    simp [hs]; omega

/-- One iteration of the main loop: it goes on from a later position, in a state that satisfies the invariant for a stack
    from which the specification has the same work left. -/
abbrev Step (p : Bytes) (L r w : Nat) (buf : Buf) (tr : Bool) (st : List Bytes) : Prop :=
  ∃ r' w' buf' tr' st', r < r' ∧ loop p r w buf tr = loop p r' w' buf' tr' ∧ Inv p L r' w' buf' tr' st' ∧
    pushAll st (p.drop r) = pushAll st' (p.drop r') ∧ (tr || lastDot (p.drop r)) = (tr' || lastDot (p.drop r'))

/-- an iteration that consumes a non-empty piece `x` of the input and does not grow the output -/
theorem step_of_skip {p : Bytes} {L r w : Nat} {buf : Buf} {tr : Bool} {st : List Bytes}
    (h : Inv p L r w buf tr st) {x t : Bytes} {w' : Nat} {tr' : Bool} {st' : List Bytes}
    (hd : p.drop r = x ++ t) (hx : x ≠ []) (hloop : loop p r w buf tr = loop p (r + x.length) w' buf tr')
    (hw : w' ≤ w) (hgood : ∀ e ∈ st', GoodElem e) (hlen : (outOf st').length = w')
    (hvw : (view p buf).take w' = outOf st') (htr : tr' = true → t ≠ [] → tr = true)
    (hpush : pushAll st (x ++ t) = pushAll st' t) (hlast : (tr || lastDot (x ++ t)) = (tr' || lastDot t)) :
    Step p L r w buf tr st := by
  have hxl : 1 ≤ x.length := List.length_pos_iff.mpr hx
  have hd' := drop_add hd
  have hs := h.slack
  rw [hd, List.length_append] at hs
  obtain ⟨hlt, hroom⟩ : r < r + x.length ∧ w' + t.length < L := by omega
  refine ⟨r + x.length, w', buf, tr', st', hlt, hloop, ?_, by rw [hd, hd']; exact hpush, by rw [hd, hd']; exact hlast⟩
  rw [← hd'] at hroom
  refine ⟨hgood, hlen, hvw, h.blen, Nat.le_of_lt hroom, fun _ => Or.inl hroom, ?_⟩
  intro ht
  rw [hd'] at hroom ⊢
  by_cases hte : t = []
  · exact Or.inr ⟨hte, fun _ => Nat.lt_of_le_of_lt (Nat.le_add_right _ _) hroom⟩
  · refine Or.inl ⟨hte, ?_⟩
    rcases h.trail (htr ht hte) with ⟨_, h2⟩ | ⟨h1, _⟩
    · exact getLast?_of_append (hd ▸ h2) hte
    · rw [hd] at h1
      exact absurd (List.append_eq_nil_iff.mp h1).2 hte

theorem backtrack_spec {p : Bytes} {L r w : Nat} {buf : Buf} {tr : Bool} {st : List Bytes}
    (h : Inv p L r w buf tr st) :
    ∃ w', backtrack p buf w = some w' ∧ w' ≤ w ∧ (outOf st.tail).length = w' ∧
      (view p buf).take w' = outOf st.tail := by
  cases st with
  | nil =>
    have hw : w = 1 := h.len.symm
    refine ⟨w, ?_, Nat.le_refl _, h.len, h.vw⟩
    rw [hw]; rfl
  | cons e st' =>
    obtain ⟨hge, hg'⟩ := List.forall_mem_cons.mp h.good
    have hout : outOf (e :: st') = jr st' ++ SLASH :: e := by simp [outOf, jr_cons]
    have hvw : (view p buf).take w = jr st' ++ SLASH :: e := by rw [← hout]; exact h.vw
    have hel : 1 ≤ e.length := List.length_pos_iff.mpr hge.ne_nil
    have hlen : (jr st').length + (e.length + 1) = w := by
      rw [← h.len, hout, List.length_append, List.length_cons]
    have hmax := max_one_jr hg'
    -- the scan starts on the last byte of `e`
    obtain ⟨hw, hw1, hle⟩ : 1 < w ∧ w - 1 = (jr st').length + e.length ∧ max 1 (jr st').length ≤ w := by omega
    refine ⟨max 1 (jr st').length, ?_, hle, hmax.symm, ?_⟩
    · rw [backtrack, if_pos hw, hw1]
      exact scanBack_spec hvw hge.noslash e.length (Nat.le_refl _) (Nat.le_trans hel (Nat.le_add_left _ _))
    · rw [← Nat.min_eq_left hle, ← List.take_take, hvw, List.tail_cons]
      by_cases hst : st' = []
      · subst hst; rfl
      · have h2 := jr_length_ge hst hg'
        rw [Nat.max_eq_right (Nat.le_of_succ_le h2), List.take_left' rfl]
        simp [outOf, hst]

/-- `n` bytes are still to be written: they fit behind the separating slash if there was room to spare for it -/
theorem addSlash_spec {p : Bytes} {L r w n : Nat} {buf : Buf} {tr : Bool} {st : List Bytes}
    (h : Inv p L r w buf tr st) (hsl : w + n ≤ L) (hroom : 1 < w → w + n < L) :
    ∃ w1 buf1, addSlash p buf w = some (w1, buf1) ∧ (view p buf1).length = L ∧ w1 + n ≤ L ∧
      (view p buf1).take w1 = jr st ++ [SLASH] := by
  by_cases hw : 1 < w
  · have hst : st ≠ [] := h.one_lt_iff.mp hw
    have hn := hroom hw
    obtain ⟨b1, hb1, hv1, hl1⟩ := bufApp_spec (p := p) (buf := buf) (w := w) SLASH (by rw [h.blen]; omega)
    refine ⟨w + 1, b1, ?_, by rw [hl1, h.blen], by omega, ?_⟩
    · simp [addSlash, hw, hb1]
    · rw [hv1, h.vw]; simp [outOf, hst]
  · have hst : st = [] := Decidable.not_not.mp (mt h.one_lt_iff.mpr hw)
    refine ⟨w, buf, ?_, h.blen, hsl, ?_⟩
    · simp [addSlash, hw]
    · rw [h.vw]; simp [outOf, hst, jr, join]

/-! ### the main loop computes the stack of the remaining input -/

/-- a proper element: the separating slash is written if something precedes it, then the element is copied -/
theorem step_of_elem {p : Bytes} {L r w : Nat} {buf : Buf} {tr : Bool} {st : List Bytes}
    (h : Inv p L r w buf tr st) (hr : r < p.length) {e rest : Bytes} (hd : p.drop r = e ++ rest) (hg : GoodElem e)
    (hb : ElemEnd rest) : Step p L r w buf tr st := by
  have hcl : classify p r = some .elem := by rw [classify_drop (Nat.le_of_lt hr), hd, classify_good hg]
  have hne : p.drop r ≠ [] := fun h0 => Nat.not_le_of_lt hr (List.drop_eq_nil_iff.mp h0)
  have hel : 1 ≤ e.length := List.length_pos_iff.mpr hg.ne_nil
  have hdl : (p.drop r).length = e.length + rest.length := by rw [hd, List.length_append]
  -- the element does not start with a slash, so there is room for the separating slash
  have hroom : 1 < w → w + (p.drop r).length < L := fun hw =>
    (h.strict hw).resolve_right (hd ▸ hg.not_elemEnd rest)
  obtain ⟨w1, buf1, ha1, ha2, ha3, ha4⟩ := addSlash_spec h h.slack hroom
  obtain ⟨hw1, hsl', hlt⟩ : w1 + e.length ≤ L ∧ w1 + e.length + rest.length ≤ L ∧ r < r + e.length := by omega
  obtain ⟨buf2, hc1, hc2, hc3⟩ :=
    copyElem_spec (p := p) e (r := r) (w := w1) (buf := buf1) hd hg.noslash hb (by rw [ha2]; exact hw1)
  have hd' := drop_add hd
  have hout : outOf (e :: st) = jr st ++ [SLASH] ++ e := by simp [outOf, jr_cons]
  have hw1v : w1 = (jr st ++ [SLASH]).length := by
    rw [← ha4, List.length_take, ha2, Nat.min_eq_left (Nat.le_trans (Nat.le_add_right _ _) hw1)]
  obtain ⟨f1, f2⟩ := pushAll_good st hg hb
  refine ⟨r + e.length, w1 + e.length, buf2, tr, e :: st, hlt, loop_elem hr hcl ha1 hc1, ?_,
    by rw [hd, hd']; exact f1, by rw [hd, hd', f2]⟩
  refine ⟨List.forall_mem_cons.mpr ⟨hg, h.good⟩, ?_, ?_, by rw [hc3, ha2], ?_, ?_, ?_⟩
  · rw [hout, List.length_append, ← hw1v]
  · rw [hc2, ha4, hout]
  · rw [hd']; exact hsl'
  · intro _
    rw [hd']
    exact Or.inr hb
  · intro ht
    rw [hd']
    rcases h.trail ht with ⟨_, h2⟩ | ⟨h1, _⟩
    · have hr2 : rest ≠ [] := by
        intro h0
        rw [hd, h0, List.append_nil] at h2
        exact hg.noslash (List.mem_of_getLast? h2)
      exact Or.inl ⟨hr2, getLast?_of_append (hd ▸ h2) hr2⟩
    · exact absurd h1 hne

/-- The unread input is a slash-free element `e` followed by nothing or by a slash; the `switch` tells "", "." and ".."
    from a proper element. -/
theorem loop_step {p : Bytes} {L r w : Nat} {buf : Buf} {tr : Bool} {st : List Bytes}
    (h : Inv p L r w buf tr st) (hr : r < p.length) : Step p L r w buf tr st := by
  have hcl := classify_drop (Nat.le_of_lt hr)
  have hne : p.drop r ≠ [] := fun h0 => Nat.not_le_of_lt hr (List.drop_eq_nil_iff.mp h0)
  obtain ⟨e, rest, hd, hs, hb⟩ := first_slash_decomp (p.drop r)
  by_cases h0 : e = []
  · subst h0
    rcases hb with rfl | ⟨t, rfl⟩
    · exact absurd hd hne
    · rw [hd, List.nil_append, classify_slash] at hcl
      obtain ⟨f1, f2⟩ := pushAll_seg st hs t
      rw [push_nil] at f1
      exact step_of_skip h (x := [SLASH]) hd (List.cons_ne_nil _ _) (loop_slash hr hcl) (Nat.le_refl _)
        h.good h.len h.vw (fun a _ => a) f1 (congrArg (tr || ·) f2)
  by_cases h1 : e = [DOT]
  · subst h1
    rcases hb with rfl | ⟨t, rfl⟩
    · rw [hd, List.append_nil, classify_dotEnd] at hcl
      have f1 := (pushAll_last st hs).1
      rw [push_dot, ← pushAll_nil st] at f1
      exact step_of_skip h (x := [DOT]) hd (List.cons_ne_nil _ _) (loop_dotEnd hr hcl) (Nat.le_refl _)
        h.good h.len h.vw (fun _ a => absurd rfl a) f1 (by rw [show lastDot ([DOT] ++ []) = true by decide, Bool.or_true]; rfl)
    · rw [hd, List.singleton_append, classify_dot] at hcl
      obtain ⟨f1, f2⟩ := pushAll_seg st hs t
      rw [push_dot] at f1
      exact step_of_skip h (x := [DOT, SLASH]) hd (List.cons_ne_nil _ _) (loop_dot hr hcl) (Nat.le_refl _)
        h.good h.len h.vw (fun a _ => a) f1 (congrArg (tr || ·) f2)
  by_cases h2 : e = [DOT, DOT]
  · subst h2
    obtain ⟨wb, hb1, hb2, hb3, hb4⟩ := backtrack_spec h
    have hgt : ∀ e ∈ st.tail, GoodElem e := fun e he => h.good e (List.mem_of_mem_tail he)
    rcases hb with rfl | ⟨t, rfl⟩
    · rw [hd, List.append_nil, classify_dotdotEnd] at hcl
      have f1 := (pushAll_last st hs).1
      rw [push_dotdot, ← pushAll_nil st.tail] at f1
      -- `r += 3` steps over the end of the input
      have hend : p.length ≤ r + 2 := List.drop_eq_nil_iff.mp (drop_add hd)
      exact step_of_skip h (x := [DOT, DOT]) hd (List.cons_ne_nil _ _)
        ((loop_dotdot hr hcl hb1).trans (loop_past_end (Nat.le_succ_of_le hend) hend)) hb2 hgt hb3 hb4
        (fun _ a => absurd rfl a) f1 (congrArg (tr || ·) (by decide : lastDot ([DOT, DOT] ++ []) = lastDot []))
    · rw [hd] at hcl
      obtain ⟨f1, f2⟩ := pushAll_seg st hs t
      rw [push_dotdot] at f1
      exact step_of_skip h (x := [DOT, DOT, SLASH]) hd (List.cons_ne_nil _ _)
        (loop_dotdot hr (hcl.trans (classify_dotdot t)) hb1) hb2 hgt hb3 hb4 (fun a _ => a) f1 (congrArg (tr || ·) f2)
  exact step_of_elem h hr hd ⟨h0, h1, h2, hs⟩ hb

theorem loop_spec (p : Bytes) (L : Nat) : ∀ (k r w : Nat) (buf : Buf) (tr : Bool) (st : List Bytes),
    p.length - r ≤ k → Inv p L r w buf tr st →
    ∃ r' w' buf', p.length ≤ r' ∧
      loop p r w buf tr = some (w', buf', tr || lastDot (p.drop r)) ∧
      Inv p L r' w' buf' (tr || lastDot (p.drop r)) (pushAll st (p.drop r)) := by
  intro k
  induction k with
  | zero =>
    intro r w buf tr st hk h
    have hr : p.length ≤ r := Nat.le_of_sub_eq_zero (Nat.le_zero.mp hk)
    rw [loop_exit (Nat.not_lt_of_le hr), List.drop_eq_nil_iff.mpr hr, lastDot_nil, Bool.or_false, pushAll_nil]
    exact ⟨r, w, buf, hr, rfl, h⟩
  | succ k ih =>
    intro r w buf tr st hk h
    by_cases hr : r < p.length
    · obtain ⟨r1, w1, buf1, tr1, st1, hlt, hloop, h1, hpush, hlast⟩ := loop_step h hr
      rw [hloop, hpush, hlast]
      exact ih r1 w1 buf1 tr1 st1 (by omega) h1
    · exact ih r w buf tr st (by omega) h

/-! ### before and after the loop -/

theorem wantsTrailing_eq (p : Bytes) :
    wantsTrailing p = (decide (p = [] ∨ p.getLast? = some SLASH) || lastDot p) := by
  have : ((splitSlash p).getLast? == some []) = decide (p = [] ∨ p.getLast? = some SLASH) :=
    Bool.eq_iff_iff.mpr (by simpa using lastElem_nil_iff p)
  unfold wantsTrailing lastDot
  rw [← this]

/-- at the end of the input the invariant makes `finish` return the printed stack, with the trailing slash if `trailing` is set -/
theorem finish_spec {p : Bytes} {L r w : Nat} {buf : Buf} {tr : Bool} {st : List Bytes}
    (h : Inv p L r w buf tr st) (hr : p.length ≤ r) :
    finish p w buf tr = some (if st = [] then [SLASH] else jr st ++ (if tr then [SLASH] else [])) := by
  have hd : p.drop r = [] := List.drop_eq_nil_iff.mpr hr
  have hsl : w ≤ (view p buf).length := by
    have := h.slack
    rw [hd, List.length_nil, Nat.add_zero, ← h.blen] at this
    exact this
  unfold finish
  by_cases htw : tr = true ∧ w > 1
  · -- the trailing slash is written behind a non-empty stack
    have hst : st ≠ [] := h.one_lt_iff.mp htw.2
    have hlt : w < L := (h.trail htw.1).elim (fun h1 => absurd hd h1.1) (fun h2 => h2.2 htw.2)
    obtain ⟨b1, hb1, hv1, hl1⟩ := bufApp_spec (p := p) (buf := buf) (w := w) SLASH (by rw [h.blen]; exact hlt)
    rw [if_pos htw, hb1]
    simp only [slice]
    rw [if_pos (by rw [hl1, h.blen]; exact hlt), hv1, h.vw]
    simp [outOf, hst, htw.1]
  · rw [if_neg htw, slice, if_pos hsl, h.vw]
    -- no slash: `trailing` is not set, or the stack is empty
    by_cases hst : st = []
    · simp [outOf, hst]
    · have : tr = false := by
        cases tr
        · rfl
        · exact absurd ⟨rfl, h.one_lt_iff.mpr hst⟩ htw
      simp [outOf, hst, this]

theorem initTrailing_spec {p : Bytes} (hp : p ≠ []) :
    initTrailing p = some (decide (1 < p.length ∧ p.getLast? = some SLASH)) := by
  unfold initTrailing
  by_cases hl : p.length > 1
  · rw [if_pos hl, ← List.getLast?_eq_getElem?]
    cases hg : p.getLast? with
    | none => exact absurd (List.getLast?_eq_none_iff.mp hg) hp
    | some x => simp [hl, Bool.beq_eq_decide_eq]
  · rw [if_neg hl]; simp [hl]

/-- Before the loop the invariant holds for the empty stack, and the specification has the whole input left: a leading slash
    only gives an empty first element. -/
theorem start_spec {p : Bytes} (hp : p ≠ []) {tr : Bool} (htr : tr = true → 1 < p.length ∧ p.getLast? = some SLASH) :
    ∃ r0 buf0 L, start p = some (r0, 1, buf0) ∧ Inv p L r0 1 buf0 tr [] ∧
      pushAll [] (p.drop r0) = pushAll [] p ∧ lastDot (p.drop r0) = lastDot p := by
  have hnil : ∀ e ∈ ([] : List Bytes), GoodElem e := fun _ h => nomatch h
  cases p with
  | nil => exact absurd rfl hp
  | cons c t =>
    by_cases hc : c = SLASH
    · subst hc
      obtain ⟨f1, f2⟩ := pushAll_seg [] (e := []) (by simp) t
      refine ⟨1, none, (SLASH :: t).length, by simp [start], ?_, f1.symm, f2.symm⟩
      refine ⟨hnil, rfl, rfl, rfl, Nat.le_of_eq (Nat.add_comm _ _), fun h => absurd h (Nat.lt_irrefl 1), ?_⟩
      intro h
      obtain ⟨h1, h2⟩ := htr h
      have ht : t ≠ [] := by intro h0; simp [h0] at h1
      exact Or.inl ⟨ht, by rw [← h2]; exact (getLast?_cons_of_ne_nil ht).symm⟩
    · refine ⟨0, some (SLASH :: List.replicate (c :: t).length 0), (c :: t).length + 1, ?_, ?_, rfl, rfl⟩
      · simp [start, hc, setAt, List.replicate_succ]
      · refine ⟨hnil, rfl, rfl, by simp [view], Nat.le_of_eq (Nat.add_comm _ _), fun h => absurd h (Nat.lt_irrefl 1), ?_⟩
        intro h
        exact Or.inl ⟨List.cons_ne_nil _ _, (htr h).2⟩

/-- `start_spec`, `loop_spec` from the empty stack and `finish_spec` in a row; what is left is that `trailing` as the loop leaves
    it and `wantsTrailing` agree wherever the stack is not empty -/
theorem cleanPathO_eq_spec (p : Bytes) : cleanPathO p = some (Spec.Clean.clean p) := by
  by_cases hp : p = []
  · subst hp; decide
  · obtain ⟨r0, buf0, L, hs, hinv, hf, hl⟩ := start_spec hp (fun h => of_decide_eq_true h)
    obtain ⟨r', w', buf', h1, h2, h3⟩ := loop_spec p L _ r0 1 buf0 _ [] (Nat.le_refl _) hinv
    simp only [cleanPathO, if_neg hp, hs, initTrailing_spec hp, h2, finish_spec h3 h1]
    rw [hf, hl]
    show _ = some (if (pushAll [] p).reverse = [] then _ else join (pushAll [] p).reverse ++ _)
    congr 1
    by_cases hst : pushAll [] p = []
    · simp [hst]
    · simp only [hst, if_false, List.reverse_eq_nil_iff, jr]
      congr 2
      -- `trailing` starts out false on "/" where the specification wants a slash, but there the stack is empty
      rw [wantsTrailing_eq]
      congr 2
      have : p.getLast? = some SLASH → 1 < p.length := by
        intro hsl
        obtain ⟨x, rfl⟩ := List.getLast?_eq_some_iff.mp hsl
        cases x with
        | nil => exact absurd (by decide) hst
        | cons _ _ => simp
      simp only [hp, false_or]
      exact decide_eq_decide.mpr ⟨fun h => h.2, fun h => ⟨this h, h⟩⟩

/-- `fox.CleanPath` (as modelled) never panics and returns the lexical canonical form, for every input. -/
theorem cleanPath_eq_spec (p : Bytes) : cleanPath p = .ok (Spec.Clean.clean p) := by
  simp [cleanPath, cleanPathO_eq_spec]

end Fox.Model.Clean
