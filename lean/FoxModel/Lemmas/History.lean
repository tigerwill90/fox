import FoxModel.Spec.History
/-
  FoxModel.Lemmas.History — what `stepSeq`, `runSeq`, `sortedWrites` and `mkSegs` compute, and that a linearizable history
  passes every check of `checkHistory` (a rejection is never a false alarm).
-/
namespace Fox.Spec.History
variable {σ W Q : Type} (S : Sem σ W Q)

/-- the specification's observations expose the version they were made at (and no other) -/
def ExposesVersion (S : Sem σ W Q) : Prop := ∀ v st q n, (S.rd v st q).ver = some n → n = v

variable {c : Call W Q} {L : List (Call W Q)} {s s' : Nat × σ}

theorem isW_w {x : W} (hop : c.op = .w x) : c.isW = true := by rw [Call.isW, hop]
theorem isW_r {q : Q} (hop : c.op = .r q) : c.isW = false := by rw [Call.isW, hop]

theorem op_of_isW (hw : c.isW = true) : ∃ x, c.op = .w x := by
  cases hop : c.op with
  | w x => exact ⟨x, rfl⟩
  | r q => cases (isW_r hop).symm.trans hw

theorem op_of_not_isW (hw : c.isW = false) : ∃ q, c.op = .r q := by
  cases hop : c.op with
  | w x => cases (isW_w hop).symm.trans hw
  | r q => exact ⟨q, rfl⟩

theorem stepSeq_w {x : W} (hop : c.op = .w x) :
    stepSeq S s c = some s' ↔ (c.ver = s.1 + 1 ∧ c.res = (S.wr s.2 x).2) ∧ (s.1 + 1, (S.wr s.2 x).1) = s' := by
  rw [stepSeq, hop]
  simp only [Option.ite_none_right_eq_some, Option.some.injEq]

theorem stepSeq_r {q : Q} (hop : c.op = .r q) :
    stepSeq S s c = some s' ↔ c.res = S.rd s.1 s.2 q ∧ s = s' := by
  rw [stepSeq, hop]
  simp only [Option.ite_none_right_eq_some, Option.some.injEq]

theorem stepSeq_ver (h : stepSeq S s c = some s') :
    s'.1 = s.1 + (if c.isW = true then 1 else 0) := by
  cases hop : c.op with
  | w x => rw [← ((stepSeq_w S hop).1 h).2, isW_w hop]; rfl
  | r q => rw [← ((stepSeq_r S hop).1 h).2, isW_r hop]; rfl

theorem stepSeq_notW (hw : c.isW = false) (h : stepSeq S s c = some s') : s' = s :=
  have ⟨_, hop⟩ := op_of_not_isW hw
  ((stepSeq_r S hop).1 h).2.symm

theorem stepSeq_isW (hw : c.isW = true) (h : stepSeq S s c = some s') :
    c.ver = s.1 + 1 ∧ s'.1 = s.1 + 1 := by
  obtain ⟨x, hop⟩ := op_of_isW hw
  obtain ⟨⟨hv, _⟩, rfl⟩ := (stepSeq_w S hop).1 h
  exact ⟨hv, rfl⟩

theorem stepSeq_ver_le (h : stepSeq S s c = some s') : s.1 ≤ s'.1 :=
  stepSeq_ver S h ▸ Nat.le_add_right ..

theorem runSeq_cons {cs : List (Call W Q)} :
    runSeq S s (c :: cs) = some s' ↔ ∃ m, stepSeq S s c = some m ∧ runSeq S m cs = some s' := by
  simp only [runSeq]
  cases stepSeq S s c with
  | none => exact ⟨nofun, nofun⟩
  | some m => exact ⟨fun h => ⟨m, rfl, h⟩, fun ⟨_, e, h⟩ => Option.some.inj e ▸ h⟩

theorem runSeq_append {A B : List (Call W Q)} :
    runSeq S s (A ++ B) = some s' ↔ ∃ m, runSeq S s A = some m ∧ runSeq S m B = some s' := by
  induction A generalizing s with
  | nil => exact ⟨fun h => ⟨s, rfl, h⟩, fun ⟨_, e, h⟩ => Option.some.inj e ▸ h⟩
  | cons a A ih =>
    simp only [List.cons_append, runSeq_cons, ih]
    constructor
    · rintro ⟨m, h1, m', h2, h3⟩; exact ⟨m', ⟨m, h1, h2⟩, h3⟩
    · rintro ⟨m', ⟨m, h1, h2⟩, h3⟩; exact ⟨m, h1, m', h2, h3⟩

theorem runSeq_det {a b : Nat × σ} (h1 : runSeq S s L = some a) (h2 : runSeq S s L = some b) :
    a = b := Option.some.inj (h1.symm.trans h2)

theorem runSeq_ver_le (h : runSeq S s L = some s') : s.1 ≤ s'.1 := by
  induction L generalizing s with
  | nil => cases h; exact Nat.le_refl _
  | cons c cs ih =>
    obtain ⟨m, h1, h2⟩ := (runSeq_cons S).1 h
    exact Nat.le_trans (stepSeq_ver_le S h1) (ih h2)

/-- reads do not change the state: the writes alone replay to the same final state -/
theorem runSeq_filter (h : runSeq S s L = some s') :
    runSeq S s (L.filter Call.isW) = some s' := by
  induction L generalizing s with
  | nil => exact h
  | cons c cs ih =>
    obtain ⟨m, h1, h2⟩ := (runSeq_cons S).1 h
    rw [List.filter_cons]
    cases hw : c.isW
    · cases stepSeq_notW S hw h1
      exact ih h2
    · exact (runSeq_cons S).2 ⟨m, h1, ih h2⟩

theorem writes_increasing (h : runSeq S s L = some s') :
    (∀ c ∈ L.filter Call.isW, s.1 < c.ver) ∧ (L.filter Call.isW).Pairwise (fun a b => a.ver < b.ver) := by
  induction L generalizing s with
  | nil => exact ⟨List.forall_mem_nil _, .nil⟩
  | cons c cs ih =>
    obtain ⟨m, h1, h2⟩ := (runSeq_cons S).1 h
    obtain ⟨ih1, ih2⟩ := ih h2
    rw [List.filter_cons]
    cases hw : c.isW
    · cases stepSeq_notW S hw h1
      exact ⟨ih1, ih2⟩
    · obtain ⟨e1, e2⟩ := stepSeq_isW S hw h1
      rw [e2, ← e1] at ih1
      have hc : s.1 < c.ver := by rw [e1]; exact Nat.lt_succ_self _
      exact ⟨List.forall_mem_cons.2 ⟨hc, fun d hd => Nat.lt_trans hc (ih1 d hd)⟩, .cons ih1 ih2⟩

theorem pairwise_trichotomy {α : Type} {R : α → α → Prop} {l : List α} (hp : l.Pairwise R) {a b : α}
    (ha : a ∈ l) (hb : b ∈ l) : a = b ∨ R a b ∨ R b a :=
  List.Pairwise.forall_of_forall_of_flip (R := fun a b => a = b ∨ R a b ∨ R b a) (fun _ _ => .inl rfl)
    (hp.imp fun h => .inr (.inl h)) (hp.imp fun h => .inr (.inr h)) ha hb

theorem eq_of_ver_eq {l : List (Call W Q)} (hp : l.Pairwise (fun a b => a.ver < b.ver)) {a b : Call W Q}
    (ha : a ∈ l) (hb : b ∈ l) (he : a.ver = b.ver) : a = b :=
  (pairwise_trichotomy hp ha hb).elim id fun h => absurd he (h.elim Nat.ne_of_lt Nat.ne_of_gt)

theorem pairwise_mergeSort_key {α : Type} (f : α → Nat) (l : List α) :
    (l.mergeSort fun a b => decide (f a ≤ f b)).Pairwise fun a b => f a ≤ f b :=
  (List.pairwise_mergeSort (le := fun a b => decide (f a ≤ f b))
    (fun _ _ _ hab hbc => decide_eq_true (Nat.le_trans (of_decide_eq_true hab) (of_decide_eq_true hbc)))
    (fun a b => by rw [Bool.or_eq_true, decide_eq_true_eq, decide_eq_true_eq]; exact Nat.le_total ..) l).imp of_decide_eq_true

theorem eq_of_perm_of_ver_sorted {l₁ l₂ : List (Call W Q)} (p : l₁.Perm l₂) (s₁ : l₁.Pairwise fun a b => a.ver ≤ b.ver)
    (s₂ : l₂.Pairwise fun a b => a.ver < b.ver) : l₁ = l₂ :=
  List.Perm.eq_of_pairwise (fun _ _ ha hb hab hba => eq_of_ver_eq s₂ (p.subset ha) hb (Nat.le_antisymm hab hba))
    s₁ (s₂.imp Nat.le_of_lt) p

theorem sortedWrites_perm (h : List (Call W Q)) : (sortedWrites h).Perm (h.filter Call.isW) := List.mergeSort_perm ..

theorem isW_of_mem_sortedWrites {h : List (Call W Q)} {w : Call W Q} (hw : w ∈ sortedWrites h) : w.isW = true :=
  (List.mem_filter.1 ((sortedWrites_perm h).subset hw)).2

/-- sorting the writes of the history by version recovers the order of the linearization -/
theorem sortedWrites_eq {h L : List (Call W Q)} (hperm : L.Perm h)
    (hs : (L.filter Call.isW).Pairwise (fun a b => a.ver < b.ver)) : sortedWrites h = L.filter Call.isW :=
  eq_of_perm_of_ver_sorted ((sortedWrites_perm h).trans (hperm.symm.filter _)) (pairwise_mergeSort_key Call.ver _) hs

/-- the writer that installed the state current after the writes `l` (`b` if there is none) -/
def lastBy (b : Option (Call W Q)) : List (Call W Q) → Option (Call W Q)
  | [] => b
  | a :: r => lastBy (some a) r

theorem lastBy_mem {b : Option (Call W Q)} {l : List (Call W Q)} {w : Call W Q} (h : lastBy b l = some w) :
    w ∈ l ∨ b = some w := by
  induction l generalizing b with
  | nil => exact Or.inr h
  | cons a r ih =>
    rcases ih (b := some a) h with h' | h'
    · exact Or.inl (List.mem_cons_of_mem _ h')
    · exact Or.inl (Option.some.inj h' ▸ List.mem_cons_self ..)

section segs
variable {v : Nat} {st : σ} {b : Option (Call W Q)} {ws : List (Call W Q)} {segs : List (Seg σ W Q)}

theorem mkSegs_cons {w : Call W Q} :
    mkSegs S v st b (w :: ws) = some segs ↔ ∃ m rest, stepSeq S (v, st) w = some m ∧
      mkSegs S m.1 m.2 (some w) ws = some rest ∧ segs = ⟨v, st, b, some w⟩ :: rest := by
  rw [mkSegs]
  cases stepSeq S (v, st) w with
  | none => exact ⟨nofun, nofun⟩
  | some m =>
    rw [Option.map_eq_some_iff]
    exact ⟨fun ⟨rest, h, e⟩ => ⟨m, rest, rfl, h, e.symm⟩, fun ⟨_, rest, e, h, e'⟩ => by cases e; exact ⟨rest, h, e'.symm⟩⟩

theorem mkSegs_some_iff : (∃ segs, mkSegs S v st b ws = some segs) ↔ ∃ s', runSeq S (v, st) ws = some s' := by
  suffices h : (mkSegs S v st b ws).isSome = (runSeq S (v, st) ws).isSome by
    rw [← Option.isSome_iff_exists, ← Option.isSome_iff_exists, h]
  induction ws generalizing v st b with
  | nil => rfl
  | cons w ws ih =>
    rw [mkSegs, runSeq]
    cases stepSeq S (v, st) w with
    | none => rfl
    | some m => rw [Option.isSome_map]; exact ih

/-- the state after a prefix `A` of the writes is a segment: installed by the last write of `A`, replaced by the first
    write after it -/
theorem mem_mkSegs {A B : List (Call W Q)} {sA : Nat × σ} (h : mkSegs S v st b (A ++ B) = some segs)
    (hA : runSeq S (v, st) A = some sA) : ⟨sA.1, sA.2, lastBy b A, B.head?⟩ ∈ segs := by
  induction A generalizing v st b segs with
  | nil =>
    cases hA
    cases B with
    | nil => cases Option.some.inj h; exact List.mem_cons_self
    | cons w B => obtain ⟨_, _, _, _, rfl⟩ := (mkSegs_cons S).1 h; exact List.mem_cons_self
  | cons a A ih =>
    obtain ⟨m, rest, hs, hm, rfl⟩ := (mkSegs_cons S).1 h
    obtain ⟨m', hs', hA'⟩ := (runSeq_cons S).1 hA
    cases hs.symm.trans hs'
    exact List.mem_cons_of_mem _ (ih hm hA')

/-- over writes alone the segments carry the versions from `v` on, in this order, each but the first installed by the
    write of its version -/
theorem mkSegs_shape (hw : ∀ w ∈ ws, w.isW = true) (h : mkSegs S v st b ws = some segs) :
    segs.Pairwise (fun g g' => g.ver < g'.ver) ∧ ∃ nx rest, segs = ⟨v, st, b, nx⟩ :: rest ∧
      ∀ g ∈ rest, v < g.ver ∧ ∃ w ∈ ws, g.by_ = some w ∧ w.ver = g.ver := by
  induction ws generalizing v st b segs with
  | nil => cases Option.some.inj h; exact ⟨List.pairwise_singleton .., none, [], rfl, List.forall_mem_nil _⟩
  | cons w ws ih =>
    obtain ⟨m, rest, hs, hm, rfl⟩ := (mkSegs_cons S).1 h
    obtain ⟨v1, v2⟩ := stepSeq_isW S (hw w (List.mem_cons_self ..)) hs
    obtain ⟨hp, nx', rest', rfl, hall⟩ := ih (fun x hx => hw x (List.mem_cons_of_mem _ hx)) hm
    have key : ∀ g ∈ (⟨m.1, m.2, some w, nx'⟩ :: rest' : List (Seg σ W Q)),
        v < g.ver ∧ ∃ w' ∈ w :: ws, g.by_ = some w' ∧ w'.ver = g.ver := by
      intro g hg
      rcases List.mem_cons.1 hg with rfl | hg'
      · exact ⟨Nat.lt_of_lt_of_eq (Nat.lt_succ_self v) v2.symm, w, List.mem_cons_self .., rfl, v1.trans v2.symm⟩
      · obtain ⟨h1, w', hw', h2, h3⟩ := hall g hg'
        exact ⟨Nat.lt_trans (Nat.lt_of_lt_of_eq (Nat.lt_succ_self v) v2.symm) h1, w', List.mem_cons_of_mem _ hw', h2, h3⟩
    exact ⟨.cons (fun g hg => (key g hg).1) hp, some w, _, rfl, key⟩

/-- after the prefix `A` of a linearization the current state is a segment of the version chain: the one installed by
    the last write of `A` and replaced by the first write after `A` -/
theorem seg_at {A B : List (Call W Q)} {sA : Nat × σ}
    (hsegs : mkSegs S v st b ((A ++ B).filter Call.isW) = some segs) (hA : runSeq S (v, st) A = some sA) :
    ⟨sA.1, sA.2, lastBy b (A.filter Call.isW), (B.filter Call.isW).head?⟩ ∈ segs :=
  mem_mkSegs S (List.filter_append .. ▸ hsegs) (runSeq_filter S hA)

end segs

/-- a list replays if its writes form the version chain and every read is answered from a segment of the chain that no
    write in front of the read replaced and no write behind it installed. Whoever excludes such a write may use what it
    would be: the `next` of a segment carries the version after the segment's, the `by_` the segment's own. -/
theorem runSeq_of_segs (L : List (Call W Q)) : ∀ (k : Nat) (st : σ) (b : Option (Call W Q)) (segs : List (Seg σ W Q)),
    mkSegs S k st b (L.filter Call.isW) = some segs →
    (∀ P c R q, L = P ++ c :: R → c.op = .r q → ∃ g ∈ segs, c.res = S.rd g.ver g.st q ∧
      (∀ w ∈ P, w.isW = true → g.next = some w → w.ver ≠ g.ver + 1) ∧
      (∀ w ∈ R, w.isW = true → g.by_ = some w → w.ver ≠ g.ver)) →
    (runSeq S (k, st) L).isSome = true := by
  induction L with
  | nil => intro k st b segs _ _; rfl
  | cons c L ih =>
    intro k st b segs hsegs hr
    rw [List.filter_cons] at hsegs
    rw [runSeq]
    cases hw : c.isW with
    | true =>
      -- a write: the next of the chain; no read behind it is answered from the segment it replaces
      rw [hw, if_pos rfl] at hsegs
      obtain ⟨m, rest, hs, hm, rfl⟩ := (mkSegs_cons S).1 hsegs
      rw [hs]
      refine ih m.1 m.2 (some c) rest hm fun P d R q e hop => ?_
      obtain ⟨g, hg, hres, hN, hB⟩ := hr (c :: P) d R q (congrArg _ e) hop
      rcases List.mem_cons.1 hg with rfl | hg'
      · exact absurd (stepSeq_isW S hw hs).1 (hN c List.mem_cons_self hw rfl)
      · exact ⟨g, hg', hres, fun w hwP => hN w (List.mem_cons_of_mem _ hwP), hB⟩
    | false =>
      -- a read in front of all remaining writes: none of them installed its segment, which is therefore the current one
      rw [hw, if_neg Bool.false_ne_true] at hsegs
      obtain ⟨q, hop⟩ := op_of_not_isW hw
      obtain ⟨g, hg, hres, _, hB⟩ := hr [] c L q rfl hop
      obtain ⟨_, nx, rest, rfl, hrest⟩ := mkSegs_shape S (fun w hwm => (List.mem_filter.1 hwm).2) hsegs
      obtain rfl : g = ⟨k, st, b, nx⟩ := (List.mem_cons.1 hg).resolve_right fun hg' =>
        have ⟨_, w, hwm, hby, hwv⟩ := hrest g hg'
        hB w (List.mem_filter.1 hwm).1 (List.mem_filter.1 hwm).2 hby hwv
      rw [(stepSeq_r S hop).2 ⟨hres, rfl⟩]
      refine ih k st b _ hsegs fun P d R q' e hop' => ?_
      obtain ⟨g, hg, hres', hN, hB'⟩ := hr (c :: P) d R q' (congrArg _ e) hop'
      exact ⟨g, hg, hres', fun w hwP => hN w (List.mem_cons_of_mem _ hwP), hB'⟩

theorem rtOk_iff {l : List (Call W Q)} : rtOk l = true ↔ RT l := by
  induction l with
  | nil => exact ⟨fun _ => .nil, fun _ => rfl⟩
  | cons a r ih =>
    rw [rtOk, Bool.and_eq_true, List.all_eq_true, ih]
    unfold RT
    rw [List.pairwise_cons]
    simp only [Bool.not_eq_true', decide_eq_false_iff_not]

theorem RT_append_cons {A B : List (Call W Q)} (h : RT (A ++ c :: B)) :
    (∀ a ∈ A, a.call ≤ c.ret) ∧ ∀ b ∈ B, c.call ≤ b.ret :=
  have ⟨_, hcB, hAB⟩ := List.pairwise_append.1 h
  ⟨fun a ha => Nat.le_of_not_lt (hAB a ha c (List.mem_cons_self ..)),
    fun b hb => Nat.le_of_not_lt ((List.pairwise_cons.1 hcB).1 b hb)⟩

theorem lastBy_filter_mem {A : List (Call W Q)} {w : Call W Q} (h : lastBy none (A.filter Call.isW) = some w) : w ∈ A :=
  (lastBy_mem h).elim (fun hw => (List.mem_filter.1 hw).1) nofun

theorem explains_w {c : Call W Q} (hw : c.isW = true) {g : Seg σ W Q} : explains S c g = true ↔ c.ver = g.ver := by
  obtain ⟨x, hop⟩ := op_of_isW hw
  rw [explains, hop]
  exact decide_eq_true_iff

theorem explains_r {c : Call W Q} {q : Q} (hop : c.op = .r q) {g : Seg σ W Q} :
    explains S c g = true ↔ (∀ w, g.by_ = some w → w.call ≤ c.ret) ∧ c.res = S.rd g.ver g.st q := by
  rw [explains, hop, Bool.and_eq_true, decide_eq_true_eq]
  refine and_congr_left fun _ => ?_
  cases g.by_ with
  | none => exact ⟨fun _ _ => nofun, fun _ => rfl⟩
  | some w => exact ⟨fun h _ e => Option.some.inj e ▸ of_decide_eq_true h, fun h => decide_eq_true (h w rfl)⟩

/-! ### a linearization, call by call

  Each call of a legal sequential execution `L` takes effect at a version (`Occ`). Three facts about these versions are all
  that the checkers need of a linearization: they do not decrease along real time (`occ_mono`), each is explained by a
  segment of the version chain that was current at some instant of the call (`occ_seg`), and it is the version the call
  exposes, if it exposes one (`occ_seen`). -/

/-- call `a` takes effect at version `u` in the sequential execution `L` -/
def Occ (L : List (Call W Q)) (a : Call W Q) (u : Nat) : Prop :=
  ∃ A B sA, L = A ++ a :: B ∧ runSeq S (0, S.init) A = some sA ∧ u = sA.1 + (if a.isW = true then 1 else 0)

theorem occ_of_mem {sf : Nat × σ} (hrun : runSeq S (0, S.init) L = some sf) (hc : c ∈ L) : ∃ u, Occ S L c u := by
  obtain ⟨A, B, rfl⟩ := List.append_of_mem hc
  obtain ⟨sA, hA, _⟩ := (runSeq_append S).1 hrun
  exact ⟨_, A, B, sA, rfl, hA, rfl⟩

theorem occ_le {A A' : List (Call W Q)} {a : Call W Q} {sA s : Nat × σ} (hA : runSeq S (0, S.init) A = some sA)
    (h : runSeq S (0, S.init) (A ++ a :: A') = some s) : sA.1 + (if a.isW = true then 1 else 0) ≤ s.1 := by
  obtain ⟨m, hm1, hm2⟩ := (runSeq_append S).1 h
  cases runSeq_det S hm1 hA
  obtain ⟨m2, hs, hr⟩ := (runSeq_cons S).1 hm2
  exact stepSeq_ver S hs ▸ runSeq_ver_le S hr

theorem occ_mono {L : List (Call W Q)} (hrt : RT L) {a c : Call W Q} {ua uc : Nat} (ha : Occ S L a ua) (hc : Occ S L c uc)
    (hlt : a.ret < c.call) : ua ≤ uc := by
  obtain ⟨A1, B1, sA1, e1, r1, rfl⟩ := ha
  obtain ⟨A, B, sA, e2, r2, rfl⟩ := hc
  rcases List.append_eq_append_iff.1 (e1.symm.trans e2) with ⟨a', h1, h2⟩ | ⟨c', h1, h2⟩
  · cases a' with
    | nil =>
      -- the same place
      cases (List.cons.inj h2).1
      rw [h1, List.append_nil] at r2
      cases runSeq_det S r1 r2
      exact Nat.le_refl _
    | cons x a'' =>
      -- `a` comes first
      cases (List.cons.inj h2).1
      exact Nat.le_trans (occ_le S r1 (h1 ▸ r2)) (Nat.le_add_right ..)
  · cases c' with
    | nil =>
      cases (List.cons.inj h2).1
      rw [h1, List.append_nil] at r1
      cases runSeq_det S r1 r2
      exact Nat.le_refl _
    | cons x c'' =>
      -- `c` is placed before `a` although `a` returned before `c` was called
      obtain ⟨rfl, rfl⟩ := List.cons.inj h2
      rw [e2] at hrt
      exact absurd hlt (Nat.not_lt.2 ((RT_append_cons hrt).2 a (List.mem_append_right _ (List.mem_cons_self ..))))

section
variable {sf : Nat × σ} (hrun : runSeq S (0, S.init) L = some sf)
include hrun

theorem occ_seen (hv : ExposesVersion S) {u v : Nat} (hc : Occ S L c u) (hs : verSeen c = some v) : v = u := by
  obtain ⟨A, B, sA, rfl, hA, rfl⟩ := hc
  obtain ⟨sA', hA', hB⟩ := (runSeq_append S).1 hrun
  cases runSeq_det S hA' hA
  obtain ⟨m, hstep, _⟩ := (runSeq_cons S).1 hB
  rw [verSeen] at hs
  cases hop : c.op with
  | w x =>
    rw [hop] at hs
    rw [isW_w hop, if_pos rfl, ← (stepSeq_isW S (isW_w hop) hstep).1]
    exact (Option.some.inj hs).symm
  | r q =>
    rw [hop, ((stepSeq_r S hop).1 hstep).1] at hs
    rw [isW_r hop, if_neg Bool.false_ne_true]
    exact hv _ _ _ _ hs

/-- the segment at which a call takes effect explains it, and the write that replaced it comes later in `L` -/
theorem occ_seg (hrt : RT L) {segs : List (Seg σ W Q)} (hsegs : mkSegs S 0 S.init none (L.filter Call.isW) = some segs)
    {u : Nat} (hc : Occ S L c u) :
    ∃ g ∈ segs, g.ver = u ∧ explains S c g = true ∧ ∀ w, g.next = some w → c.call ≤ w.ret := by
  obtain ⟨A, B, sA, rfl, hA, rfl⟩ := hc
  obtain ⟨sA', hA', hB⟩ := (runSeq_append S).1 hrun
  cases runSeq_det S hA' hA
  obtain ⟨m, hstep, _⟩ := (runSeq_cons S).1 hB
  obtain ⟨hbefore, hafter⟩ := RT_append_cons hrt
  have hnext : ∀ w, (B.filter Call.isW).head? = some w → c.call ≤ w.ret := fun w hn =>
    hafter w (List.mem_filter.1 (List.mem_of_mem_head? hn)).1
  cases hop : c.op with
  | w x =>
    -- the segment the write installs
    have hw := isW_w hop
    obtain ⟨v1, v2⟩ := stepSeq_isW S hw hstep
    have hg := seg_at S (A := A ++ [c]) (B := B) (by rw [List.append_assoc]; exact hsegs)
      ((runSeq_append S).2 ⟨_, hA, (runSeq_cons S).2 ⟨m, hstep, rfl⟩⟩)
    exact ⟨_, hg, by rw [hw, if_pos rfl]; exact v2, (explains_w S hw).2 (v1.trans v2.symm), hnext⟩
  | r q =>
    -- the segment current when the read takes effect
    have hw := isW_r hop
    have hg := seg_at S hsegs hA
    rw [List.filter_cons_of_neg (hw ▸ Bool.false_ne_true)] at hg
    exact ⟨_, hg, by rw [hw, if_neg Bool.false_ne_true]; rfl,
      (explains_r S hop).2 ⟨fun w hb => hbefore w (lastBy_filter_mem hb), ((stepSeq_r S hop).1 hstep).1⟩, hnext⟩

end

theorem adjOk_of_pairs {l : List (Call W Q)}
    (h : ∀ a ∈ l, ∀ b ∈ l, ∀ va vb, a.ret < b.call → verSeen a = some va → verSeen b = some vb → va ≤ vb) :
    adjOk l = true := by
  induction l with
  | nil => rfl
  | cons a r ih =>
    cases r with
    | nil => rfl
    | cons b r' =>
      rw [adjOk, Bool.and_eq_true]
      refine ⟨?_, ih (fun x hx y hy => h x (List.mem_cons_of_mem _ hx) y (List.mem_cons_of_mem _ hy))⟩
      unfold pairOk
      cases hsa : verSeen a with
      | none => rfl
      | some va =>
        cases hsb : verSeen b with
        | none => rfl
        | some vb =>
          by_cases hlt : a.ret < b.call
          · have := h a (List.mem_cons_self ..) b (List.mem_cons_of_mem _ (List.mem_cons_self ..)) va vb hlt hsa hsb
            simp only [this, decide_true, Bool.or_true]
          · simp only [hlt, decide_false, Bool.not_false, Bool.true_or]

theorem readOk_of_lin {sf : Nat × σ} (hrun : runSeq S (0, S.init) L = some sf) (hrt : RT L)
    {segs : List (Seg σ W Q)} (hsegs : mkSegs S 0 S.init none (L.filter Call.isW) = some segs)
    (hc : c ∈ L) : readOk S segs c = true := by
  rw [readOk]
  cases hop : c.op with
  | w x => rfl
  | r q =>
    obtain ⟨u, ho⟩ := occ_of_mem S hrun hc
    obtain ⟨g, hg, _, he, hn⟩ := occ_seg S hrun hrt hsegs ho
    obtain ⟨hb, hres⟩ := (explains_r S hop).1 he
    refine List.any_eq_true.2 ⟨g, hg, ?_⟩
    simp only [segOk, Bool.and_eq_true, decide_eq_true_eq]
    refine ⟨⟨?_, ?_⟩, hres⟩
    · cases hby : g.by_ with
      | none => rfl
      | some w => exact decide_eq_true (hb w hby)
    · cases hnx : g.next with
      | none => rfl
      | some w => exact decide_eq_true (hn w hnx)

/-- a linearizable history passes all four checks: `checkHistory` never rejects one -/
theorem checkHistory_of_linearizable (hv : ExposesVersion S) {h : List (Call W Q)} (hl : Linearizable S h) :
    checkHistory S h = true := by
  obtain ⟨L, hperm, hrt, hrun⟩ := hl
  obtain ⟨sf, hsf⟩ := Option.isSome_iff_exists.1 hrun
  have hsw := sortedWrites_eq hperm (writes_increasing S hsf).2
  obtain ⟨segs, hsegs⟩ := (mkSegs_some_iff S).2 ⟨sf, runSeq_filter S hsf⟩
  rw [checkHistory, hsw, hsegs]
  simp only [Bool.and_eq_true, List.all_eq_true]
  refine ⟨⟨rtOk_iff.2 (hrt.sublist List.filter_sublist), fun c hc => readOk_of_lin S hsf hrt hsegs (hperm.symm.subset hc)⟩,
    adjOk_of_pairs fun a ha b hb va vb hlt hsa hsb => ?_⟩
  -- the versions two calls expose are those at which they take effect
  obtain ⟨ua, oa⟩ := occ_of_mem S hsf (hperm.symm.subset (List.mem_filter.1 ha).1)
  obtain ⟨ub, ob⟩ := occ_of_mem S hsf (hperm.symm.subset (List.mem_filter.1 hb).1)
  rw [occ_seen S hsf hv oa hsa, occ_seen S hsf hv ob hsb]
  exact occ_mono S hrt oa ob hlt

end Fox.Spec.History
