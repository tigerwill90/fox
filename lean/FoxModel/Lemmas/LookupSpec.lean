import FoxModel.Lemmas.HostStage
/-
  `roots.lookup` = the staged routing specification on the suffix set stored below the method root.
-/
namespace Fox.Spec
open Fox

/-- `Spec.route` on a suffix set: hostname patterns are the members that do not start with a literal '/' -/
def routeS (S : SufSet) (hostPort path : Bytes) : Option Found :=
  let H := S.filter (fun sr => !headSlash sr)
  let P := S.filter headSlash
  let h := stripHostPort hostPort
  if H = [] ∨ h = [] then pathOnlyS P path []
  else (hostOnlyS H h path []).orElse fun _ => pathOnlyS P path []

theorem filter_headSlash_endsHere (S : SufSet) (ps : Binds) : specAll (S.filter headSlash) [] ps = [] := by
  rw [specAll_nil_path]
  refine Model.endsHere_allNonempty (fun sr h hnil => ?_) ps
  have := (List.mem_filter.mp h).2
  rw [headSlash, hnil] at this
  cases this

theorem specHost_nil_path (S : SufSet) (host : Bytes) (ps : Binds) : specHost S host [] ps = [] := by
  fun_induction specHost S host [] ps with
  | case1 S ps => exact filter_headSlash_endsHere S ps
  | case2 S ps b rest ih1 ih2 =>
    rw [ih1, List.nil_append]
    split
    · rfl
    · rename_i hne
      rw [List.flatMap_eq_nil_iff]
      intro nm _
      exact ih2 hne nm

theorem filterMap_filter_of {α β} (f : α → Option β) (p : α → Bool) (l : List α)
    (h : ∀ x, p x = false → f x = none) : (l.filter p).filterMap f = l.filterMap f := by
  rw [List.filterMap_filter]
  congr 1
  funext x
  cases hp : p x with
  | true => rfl
  | false => exact (h x hp).symm

/-- for a non-empty host without '/', members that start with '/' (path-only patterns) play no role -/
theorem specHost_drop_slash (S : SufSet) (b : UInt8) (rest path : Bytes) (ps : Binds) (hb : b ≠ SLASH) :
    specHost S (b :: rest) path ps = specHost (S.filter (fun sr => !headSlash sr)) (b :: rest) path ps := by
  rw [specHost_cons, specHost_cons]
  have hhead : ∀ sr : List Tok × Route, (!headSlash sr) = false → ∃ s', sr.1 = Tok.lit SLASH :: s' := by
    intro sr h
    have h' : headSlash sr = true := by simpa using h
    unfold headSlash at h'
    split at h'
    · rename_i c s' hx
      exact ⟨s', by rw [hx, beq_iff_eq.mp h']⟩
    · cases h'
  have h1 : advLit b (S.filter (fun sr => !headSlash sr)) = advLit b S := by
    unfold advLit
    apply filterMap_filter_of
    intro sr h
    obtain ⟨s', hs⟩ := hhead sr h
    rw [hs]
    have : ¬ (SLASH = b) := fun h => hb h.symm
    simp [this]
  have h2 : advParam (S.filter (fun sr => !headSlash sr)) = advParam S := by
    unfold advParam
    apply filterMap_filter_of
    intro sr h
    obtain ⟨s', hs⟩ := hhead sr h
    rw [hs]
  rw [h1, hostParamPart_congr h2]

end Fox.Spec

namespace Fox.Model
open Fox Fox.Spec

theorem hostOnlyS_drop_slash (S : SufSet) (b : UInt8) (rest path : Bytes) (ps : Binds) (hb : b ≠ SLASH) :
    hostOnlyS S (b :: rest) path ps = hostOnlyS (S.filter (fun sr => !headSlash sr)) (b :: rest) path ps := by
  unfold hostOnlyS
  rw [specHost_drop_slash S b rest path ps hb]
  congr 1
  funext _
  cases adjust path with
  | none => rfl
  | some x =>
    obtain ⟨p', added⟩ := x
    cases added
    · exact congrArg (first · true) (specHost_drop_slash S b rest p' ps hb)
    · simp only [if_true]
      rw [specHost_drop_slash _ b rest p' ps hb, flt_filter_comm]

/-- **the hostname stage equals the specification** -/
theorem hostStage_eq_spec {root : Node} (hw : wfKids root.children = true) (hd : nodupB (kindsOf root.children) = true)
    (hh : hostOkKids root.children = true) (hL : LastOK (sufsKids root.children))
    (b : UInt8) (rest path : Bytes) (hs : SLASH ∉ (b :: rest)) (hn : noDbl path = true) :
    pick (hostWalk root [] (b :: rest) path []) =
      toResult (hostOnlyS ((sufsKids root.children).filter (fun sr => !headSlash sr)) (b :: rest) path []) := by
  have hb : b ≠ SLASH := by intro h; apply hs; simp [h]
  have hD : directs (hostWalk root [] (b :: rest) path []) = specHost (sufsKids root.children) (b :: rest) path [] := by
    rw [(hostWalk_refines_all path).1 root [] (b :: rest) [] hw hd hh rfl hs, specHost_sufsFrom_nil_cons]
  rw [pick_of_sim (hostWalk_no_bad hw hd hh _ path hs) hD (fun hS => by
      have := hostWalk_tsr path hn root [] (b :: rest) [] hw hd hh rfl hs (fun _ hc => hL.child hc) (hD.trans hS)
      rwa [specHost_sufsFrom_nil_cons_f] at this),
    first_adjusted (fun S p => specHost S (b :: rest) p []) _ path (specHost_nil_path _ _ _),
    ← hostOnlyS_drop_slash _ b rest path [] hb]
  rfl

theorem hostOnlyS_nil (host path ps) : hostOnlyS [] host path ps = none := by
  unfold hostOnlyS
  simp only [specHost_nil, first, Option.orElse]
  cases adjust path with
  | none => rfl
  | some x => obtain ⟨p', added⟩ := x; cases added <;> simp [specHost_nil, flt]

/-- the path stage of `roots.lookup` in terms of the suffix set below the root -/
theorem byPath_eq_spec {cs : List Node} (hw : wfKids cs = true) (hd : nodupB (kindsOf cs) = true)
    (hL : LastOK (sufsKids cs)) (path : Bytes) (hn : noDbl path = true) :
    pathAnswer cs path = toResult (pathOnlyS ((sufsKids cs).filter headSlash) path []) := by
  unfold pathAnswer
  rw [filter_headSlash_kids hw hd]
  cases hf : cs.find? (fun c => startsWithSlash c.key) with
  | none => simp only [pathOnlyS_nil]; rfl
  | some c =>
    have hmem := List.mem_of_find?_eq_some hf
    exact pathStage_eq_spec (wfKids_mem hw hmem) (hL.child hmem) path [] hn

/-- **`roots.lookup` equals the staged routing specification** evaluated on the set of pattern suffixes stored below the
    method root — for every tree satisfying the representation invariants, every Host (port and trailing dot stripped as
    `net.SplitHostPort` does, containing no '/') and every path without empty segment: hostname routes first (best direct
    match, else best slash-adjusted match), path-only routes exactly when that yields nothing (or no hostname route is
    registered, or the host is empty); direct before slash-adjusted; slash removed, or added against a literal '/'. -/
theorem lookup_eq_spec (rs : Roots) (m hostPort path : Bytes) (root : Node)
    (hm : methodRoot rs m = some root) (hroot : wfRoot root = true) (hok : hostOkKids root.children = true)
    (hL : LastOK (sufsKids root.children)) (hn : noDbl path = true) (hs : SLASH ∉ stripHostPort hostPort) :
    lookup rs m hostPort path = toResult (routeS (sufsKids root.children) hostPort path) := by
  obtain ⟨hw, hd⟩ := wfRoot_parts hroot
  rw [lookup_of_root hm, byPath_eq_spec hw hd hL path hn]
  unfold routeS
  dsimp only
  split
  · -- a single child, which starts with '/': no hostname route
    rename_i hsingle
    rw [if_pos (Or.inl ?_)]
    obtain ⟨c0, hcs⟩ : ∃ c0, root.children = [c0] := by
      cases hcs : root.children with
      | nil => rw [hcs] at hsingle; cases hsingle
      | cons c0 cs0 =>
        cases cs0 with
        | nil => exact ⟨c0, rfl⟩
        | cons x xs => rw [hcs] at hsingle; simp at hsingle
    rw [hcs] at hsingle hw ⊢
    have hc0 : startsWithSlash c0.key = true := by
      cases hx : startsWithSlash c0.key with
      | true => rfl
      | false => simp [hx] at hsingle
    have hh := allHead_of_static (wfKids_cons.mp hw).1 (fun _ => true) (startsWithSlash_eq_matches _ ▸ hc0)
    rw [flt_true] at hh
    rw [List.filter_eq_nil_iff]
    intro sr hsr
    simp only [sufsKids_cons, sufsKids_nil, List.append_nil] at hsr
    obtain ⟨s', hs'⟩ := hh sr hsr
    simp [headSlash, hs']
  · cases hh : stripHostPort hostPort with
    | nil => rw [if_pos (Or.inr rfl)]; rfl
    | cons b rest =>
      rw [hh] at hs
      rw [show ((b :: rest) == ([] : Bytes)) = false from rfl, if_neg (by decide),
        hostStage_eq_spec hw hd hok hL b rest path hs hn]
      by_cases hH : (sufsKids root.children).filter (fun sr => !headSlash sr) = []
      · rw [if_pos (Or.inl hH), hH, hostOnlyS_nil]; rfl
      · rw [if_neg (not_or.mpr ⟨hH, by simp⟩)]
        cases hostOnlyS ((sufsKids root.children).filter (fun sr => !headSlash sr)) (b :: rest) path [] <;> rfl

/-- "stored suffixes are the full patterns" gives the `LastOK` hypothesis of the trailing-slash refinement -/
theorem lastOK_of_patOk {root : Node}
    (h : ((sufsKids root.children).all fun sr =>
      sr.1 == sr.2.pattern && sr.2.hostToks == sr.2.pattern.findIdx (· == Tok.lit SLASH)) = true) :
    LastOK (sufsKids root.children) := by
  intro sr hsr _
  have := List.all_eq_true.mp h sr hsr
  simp only [Bool.and_eq_true, beq_iff_eq] at this
  rw [this.1]

theorem patOkRoots_root {rs : Roots} {m : Bytes} {root : Node} (h : patOkRoots rs = true)
    (hm : methodRoot rs m = some root) :
    ((sufsKids root.children).all fun sr =>
      sr.1 == sr.2.pattern && sr.2.hostToks == sr.2.pattern.findIdx (· == Tok.lit SLASH)) = true := by
  obtain ⟨x, hx, rfl⟩ := methodRoot_mem hm
  exact List.all_eq_true.mp h x hx

theorem hostOkRoots_root {rs : Roots} {m : Bytes} {root : Node} (h : hostOkRoots rs = true)
    (hm : methodRoot rs m = some root) : hostOkKids root.children = true := by
  obtain ⟨x, hx, rfl⟩ := methodRoot_mem hm
  exact List.all_eq_true.mp h x hx

/-- the suffix set of the routes registered for a method (empty if the method has no root) -/
def sufsOfMethod (rs : Roots) (m : Bytes) : SufSet :=
  match methodRoot rs m with
  | some root => sufsKids root.children
  | none => []

theorem routeS_nil (hostPort path : Bytes) : routeS [] hostPort path = none := by
  unfold routeS
  simp [pathOnlyS_nil]

/-- **The refinement on the three invariants of the method roots**: on every tree that
    satisfies `wfRoots`, `hostOkRoots` and `patOkRoots`, for every method, every Host without '/' (after stripping port
    and trailing dot) and every path without empty segment, the router's lookup is the routing specification evaluated on
    the patterns registered for that method. -/
theorem lookup_eq_spec_roots (rs : Roots) (m hostPort path : Bytes)
    (hwf : wfRoots rs = true) (hho : hostOkRoots rs = true) (hpo : patOkRoots rs = true)
    (hn : noDbl path = true) (hs : SLASH ∉ stripHostPort hostPort) :
    lookup rs m hostPort path = toResult (routeS (sufsOfMethod rs m) hostPort path) := by
  unfold sufsOfMethod
  cases hm : methodRoot rs m with
  | none => rw [lookup_no_root hm]; simp only [routeS_nil]; rfl
  | some root =>
    simp only
    exact lookup_eq_spec rs m hostPort path root hm (wfRoots_root hwf hm) (hostOkRoots_root hho hm)
      (lastOK_of_patOk (patOkRoots_root hpo hm)) hn hs

end Fox.Model
