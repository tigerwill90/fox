import FoxModel.Model.SearchLoop
import FoxModel.Lemmas.Tree.Mutations
/-
  FoxModel.Lemmas.SearchLoop — the two nested loops of `roots.search` compute `Model.searchNode`.
-/
namespace Fox.Model.SearchLoop
open Fox Fox.Model Fox.Model.InsScan

/-- the three ways the inner loop ends, in the terms of `searchNode`: the path is used up inside the key, the key is
    used up inside the path, or a byte differs (`break STOP`) and neither is a prefix of the other -/
theorem cowInner_cases (k : Bytes) : ∀ p : Bytes,
    (p.length ≤ k.length ∧ k.take p.length = p ∧ cowInner k p = (p.length, false)) ∨
    (k.length < p.length ∧ p.take k.length = k ∧ cowInner k p = (k.length, false)) ∨
    ((cowInner k p).2 = true ∧ k.take p.length ≠ p ∧ p.take k.length ≠ k) := by
  induction k with
  | nil =>
    intro p
    cases p with
    | nil => exact .inl ⟨Nat.le_refl _, rfl, rfl⟩
    | cons b bs => exact .inr (.inl ⟨Nat.succ_pos _, rfl, rfl⟩)
  | cons x k ih =>
    intro p
    cases p with
    | nil => exact .inl ⟨Nat.zero_le _, rfl, rfl⟩
    | cons b bs =>
      rw [show cowInner (x :: k) (b :: bs) =
        if x ≠ b then (0, true) else ((cowInner k bs).1 + 1, (cowInner k bs).2) from rfl]
      by_cases h : x = b
      · subst h
        rw [if_neg (fun h => h rfl)]
        rcases ih bs with ⟨h1, h2, h3⟩ | ⟨h1, h2, h3⟩ | ⟨h1, h2, h3⟩
        · exact .inl ⟨Nat.succ_le_succ h1, congrArg (x :: ·) h2, by rw [h3]; rfl⟩
        · exact .inr (.inl ⟨Nat.succ_lt_succ h1, congrArg (x :: ·) h2, by rw [h3]; rfl⟩)
        · exact .inr (.inr ⟨h1, fun e => h2 (List.cons.inj e).2, fun e => h3 (List.cons.inj e).2⟩)
      · rw [if_pos h]
        exact .inr (.inr ⟨rfl, fun e => h (List.cons.inj e).1, fun e => h (List.cons.inj e).1.symm⟩)

/-- `searchEdge` and `searchKids` scan the children in the same way, so they agree as soon as `searchAt` and
    `searchNode` agree on each child: this is how the induction hypothesis of `search_at_eq` enters, in place of a
    mutual induction. -/
theorem search_edge_congr {cs : List Node} (h : ∀ c ∈ cs, ∀ p, searchAt c p = searchNode c p) (q : Bytes) :
    searchEdge cs q = searchKids cs q := by
  induction cs with
  | nil => rfl
  | cons d ds ih =>
    unfold searchEdge searchKids
    rw [h d List.mem_cons_self q, ih fun c hc => h c (List.mem_cons_of_mem d hc)]

theorem search_at_eq (n : Node) : ∀ p : Bytes, searchAt n p = searchNode n p := by
  induction n using Node.ind with
  | h key route cs ih =>
    intro p
    unfold searchAt searchNode
    dsimp only
    rcases cowInner_cases (render key) p with ⟨h1, h2, h3⟩ | ⟨h1, h2, h3⟩ | ⟨h1, h2, h3⟩
    · rw [h3, if_pos h1, if_pos h2]
      dsimp only
      rw [if_neg Bool.false_ne_true, List.drop_length]
    · rw [h3, if_neg (Nat.not_le.mpr h1), if_pos h2]
      dsimp only
      obtain ⟨b, bs, hq⟩ := List.exists_cons_of_ne_nil (mt List.drop_eq_nil_iff.mp (Nat.not_le.mpr h1))
      rw [if_neg Bool.false_ne_true, hq]
      exact search_edge_congr ih (b :: bs)
    · rw [h1, if_pos rfl, if_neg h2, if_neg h3, ite_self]

theorem search_edge_eq (cs : List Node) (p : Bytes) : searchEdge cs p = searchKids cs p :=
  search_edge_congr (fun c _ => search_at_eq c) p

/-- **`roots.search` as the Go code runs it = the model's search**, for every tree and every byte string -/
theorem search_from_eq (root : Node) (p : Bytes) : searchFrom root p = searchRoot root p := by
  cases p with
  | nil => rfl
  | cons b bs => exact search_edge_eq root.children (b :: bs)

end Fox.Model.SearchLoop
