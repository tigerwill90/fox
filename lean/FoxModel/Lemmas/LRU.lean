import FoxModel.Model.LRU
/-
  FoxModel.Lemmas.LRU — invariants of the recency-list model of internal/simplelru.
-/
namespace Fox.LRU

theorem keys_without (items : List (Nat × Nat)) (k : Nat) :
    (without items k).map (·.1) = (items.map (·.1)).filter (· != k) := by
  rw [List.filter_map]; rfl

theorem mem_without {items : List (Nat × Nat)} {k x : Nat} :
    x ∈ (without items k).map (·.1) ↔ x ∈ items.map (·.1) ∧ x ≠ k := by
  rw [keys_without, List.mem_filter, bne_iff_ne]

theorem nodup_without {items : List (Nat × Nat)} (h : (items.map (·.1)).Nodup) (k : Nat) :
    ((without items k).map (·.1)).Nodup := by
  rw [keys_without]; exact h.filter _

theorem length_without_lt {items : List (Nat × Nat)} {k : Nat} (h : k ∈ items.map (·.1)) :
    (without items k).length < items.length := by
  rw [← List.length_map (·.1), keys_without, ← List.length_map (as := items) (·.1)]
  exact List.length_filter_lt_length_iff_exists.mpr ⟨k, h, bne_self_eq_false k ▸ Bool.false_ne_true⟩

theorem contains_iff (c : LRU) (k : Nat) : c.contains k = true ↔ k ∈ c.keysMRU := List.contains_iff_mem

theorem peek_some_iff (c : LRU) (k : Nat) : (c.peek k).isSome = true ↔ k ∈ c.keysMRU := by
  simp only [LRU.peek, Option.isSome_map, List.find?_isSome, LRU.keysMRU, List.mem_map, beq_iff_eq]

theorem contains_eq_peek (c : LRU) (k : Nat) : c.contains k = (c.peek k).isSome :=
  Bool.eq_iff_iff.mpr ((contains_iff c k).trans (peek_some_iff c k).symm)

theorem get_hit {c : LRU} {k v : Nat} (h : c.peek k = some v) :
    c.get k = ({ c with items := (k, v) :: without c.items k }, some v) := by
  unfold LRU.get; rw [h]

theorem get_miss {c : LRU} {k : Nat} (h : c.peek k = none) : c.get k = (c, none) := by
  unfold LRU.get; rw [h]

theorem get_snd (c : LRU) (k : Nat) : (c.get k).2 = c.peek k := by
  cases hp : c.peek k with
  | none => rw [get_miss hp]
  | some v => rw [get_hit hp]

theorem add_hit {c : LRU} {k : Nat} (h : c.contains k = true) (v : Nat) :
    c.add k v = ({ c with items := (k, v) :: without c.items k }, false) := if_pos h

theorem add_miss {c : LRU} {k : Nat} (h : c.contains k = false) (v : Nat) :
    c.add k v = if c.items.length + 1 > c.cap then ({ c with items := ((k, v) :: c.items).dropLast }, true)
      else ({ c with items := (k, v) :: c.items }, false) := by
  unfold LRU.add; rw [h]; rfl

/-- what every run of operations keeps: the keys are distinct, no more than the capacity, and all among `acc`, the keys
    added since the cache was created or last purged -/
structure Inv (c : LRU) (acc : List Nat) : Prop where
  nodup : c.keysMRU.Nodup
  bound : c.len ≤ c.cap
  added : ∀ k ∈ c.keysMRU, k ∈ acc

namespace Inv
variable {c : LRU} {acc : List Nat}

/-- entries taken, in their order, from a list with distinct keys among `acc'` -/
theorem of_sublist {cap : Nat} {l X : List (Nat × Nat)} {acc' : List Nat} (hs : l.Sublist X) (hX : (X.map (·.1)).Nodup)
    (hk : ∀ k ∈ X.map (·.1), k ∈ acc') (hl : l.length ≤ cap) : Inv ⟨cap, l⟩ acc' :=
  ⟨hX.sublist (hs.map _), hl, fun k hk' => hk k ((hs.map _).subset hk')⟩

theorem sub (h : Inv c acc) {l : List (Nat × Nat)} (hs : l.Sublist c.items) : Inv { c with items := l } acc :=
  of_sublist hs h.nodup h.added (Nat.le_trans hs.length_le h.bound)

/-- an entry of the cache moved to the front, with any value -/
theorem front (h : Inv c acc) {acc' : List Nat} (ha : ∀ x ∈ c.keysMRU, x ∈ acc') {k : Nat} (hk : k ∈ c.keysMRU) (v : Nat) :
    Inv { c with items := (k, v) :: without c.items k } acc' :=
  ⟨List.nodup_cons.mpr ⟨fun hm => (mem_without.mp hm).2 rfl, nodup_without h.nodup k⟩,
    Nat.le_trans (length_without_lt hk) h.bound,
    List.forall_mem_cons.mpr ⟨ha k hk, fun x hx => ha x (mem_without.mp hx).1⟩⟩

end Inv

theorem step_inv (c : LRU) (op : Op) {acc : List Nat} (h : Inv c acc) : Inv (step c op).1 (addedStep acc op) := by
  cases op with
  | add k v =>
    have ha : ∀ x ∈ c.keysMRU, x ∈ k :: acc := fun x hx => List.mem_cons_of_mem _ (h.added x hx)
    show Inv (c.add k v).1 (k :: acc)
    cases hc : c.contains k with
    | true => rw [add_hit hc]; exact h.front ha ((contains_iff c k).mp hc) v
    | false =>
      -- a new key in front of the others; beyond the capacity the last entry goes
      have hX : (((k, v) :: c.items).map (·.1)).Nodup :=
        List.nodup_cons.mpr ⟨fun hm => Bool.false_ne_true (hc.symm.trans ((contains_iff c k).mpr hm)), h.nodup⟩
      have hA : ∀ x ∈ ((k, v) :: c.items).map (·.1), x ∈ k :: acc := List.forall_mem_cons.mpr ⟨List.mem_cons_self, ha⟩
      rw [add_miss hc]
      split
      · refine .of_sublist (List.dropLast_sublist _) hX hA ?_
        rw [List.length_dropLast]; exact h.bound
      · next hgt => exact .of_sublist (List.Sublist.refl _) hX hA (Nat.le_of_not_gt hgt)
  | get k =>
    show Inv (c.get k).1 acc
    cases hp : c.peek k with
    | none => rw [get_miss hp]; exact h
    | some v =>
      rw [get_hit hp]
      exact h.front h.added ((peek_some_iff c k).mp (hp ▸ rfl)) v
  | remove k =>
    show Inv (c.remove k).1 acc
    unfold LRU.remove; split
    · exact h.sub List.filter_sublist
    · exact h
  | removeOldest =>
    show Inv c.removeOldest.1 acc
    unfold LRU.removeOldest; split
    · exact h.sub (List.dropLast_sublist _)
    · exact h
  | purge => exact .of_sublist (List.Sublist.refl _) List.nodup_nil nofun (Nat.zero_le _)
  | resize n =>
    exact .of_sublist (List.take_sublist _ _) h.nodup h.added
      (Nat.le_trans (List.length_take_le _ _) (Nat.min_le_right _ _))
  | contains _ | peek _ | keys | len => exact h

theorem inv_empty (cap : Nat) : Inv (empty cap) [] := ⟨List.nodup_nil, Nat.zero_le _, nofun⟩

theorem run_inv (ops : List Op) : ∀ (c : LRU) (acc : List Nat), Inv c acc → Inv (run c ops).1 (ops.foldl addedStep acc) := by
  induction ops with
  | nil => exact fun _ _ h => h
  | cons op ops ih => exact fun c acc h => ih _ _ (step_inv c op h)

end Fox.LRU
