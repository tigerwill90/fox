import FoxModel.Lemmas.Refine
/-
  The hostname walk (`lookupByDomain`) against `specHost`: one induction, `hostWalk_rel`, for every relation between
  event lists and results that respects concatenation. Direct matches are the instance proved here, trailing-slash
  candidates (HostStage) the other.
-/
namespace Fox.Model
open Fox Fox.Spec

theorem hostOkKids_cons {c : Node} {cs : List Node} :
    hostOkKids (c :: cs) = true ↔ hostOkNode c = true ∧ hostOkKids cs = true := by
  simp [hostOkKids]

/-! ### the members at their host/path boundary are those below the child "/" -/

theorem filter_headSlash_kids_f {cs : List Node} (hw : wfKids cs = true) (hd : nodupB (kindsOf cs) = true) (p) :
    (flt p (sufsKids cs)).filter headSlash =
      (match cs.find? (fun c => startsWithSlash c.key) with | some c => flt p (sufsNode c) | none => []) := by
  rw [op_kids (List.filter headSlash) (fun _ _ => List.filter_append ..) rfl (.static SLASH) p
    (fun hh hm => filter_headSlash_allHead hh (by rintro rfl; cases hm)) hw, find_slash_eq]
  rcases filter_kind hd (.static SLASH) with h | ⟨c, hc, hm, h⟩
  · rw [h]; rfl
  · rw [h, List.flatMap_singleton, filter_headSlash_allHead_slash (allHead_of_static (wfKids_mem hw hc) p hm)]; rfl

theorem filter_headSlash_kids {cs : List Node} (hw : wfKids cs = true) (hd : nodupB (kindsOf cs) = true) :
    (sufsKids cs).filter headSlash =
      (match cs.find? (fun c => startsWithSlash c.key) with | some c => sufsNode c | none => []) := by
  have := filter_headSlash_kids_f hw hd (fun _ => true)
  simpa only [flt_true] using this

theorem filter_headSlash_sufsFrom_nil (p) (n : Node) (hw : wfKids n.children = true) (hd : nodupB (kindsOf n.children) = true) :
    (flt p (sufsFrom n [])).filter headSlash =
      (match n.children.find? (fun c => startsWithSlash c.key) with
       | some c => flt p (sufsNode c)
       | none => []) := by
  rw [sufsFrom_nil, flt_append, List.filter_append, filter_headSlash_kids_f hw hd]
  have h1 : (flt p (routeSuf n.route [])).filter headSlash = [] := by
    cases n.route with
    | none => rfl
    | some r => simp [routeSuf, flt, headSlash, List.filter_cons]
  rw [h1]; rfl

theorem specHost_kids_f {cs : List Node} (hw : wfKids cs = true) (hd : nodupB (kindsOf cs) = true) (p)
    (b : UInt8) (rest path : Bytes) (ps : Binds) :
    specHost (flt p (sufsKids cs)) (b :: rest) path ps =
      (cs.filter (fun c => (Sel.static b).matches c.key)).flatMap (fun c => specHost (flt p (sufsNode c)) (b :: rest) path ps)
      ++ (cs.filter (fun c => Sel.param.matches c.key)).flatMap (fun c => specHost (flt p (sufsNode c)) (b :: rest) path ps) := by
  rw [specHost_cons]
  congr 1
  · rw [advLit_kids hw]
    rcases filter_kind hd (.static b) with h | ⟨c, hc, hm, h⟩
    · rw [h]; exact specHost_nil _ _ _
    · rw [h, List.flatMap_singleton, List.flatMap_singleton,
        specHost_eq_advLit (allHead_of_static (wfKids_mem hw hc) p hm)]
  · rcases filter_kind hd .param with h | ⟨c, hc, hm, h⟩
    · rw [h]; exact hostParamPart_of_advParam_nil (by rw [advParam_kids hw, h]; rfl) _ _ _
    · obtain ⟨n, hh⟩ := allHead_of_param (wfKids_mem hw hc) p hm
      rw [h, List.flatMap_singleton, specHost_eq_paramPart hh]
      exact hostParamPart_congr (by rw [advParam_kids hw, h, List.flatMap_singleton]) _ _ _

theorem specHost_sufsFrom_nil_cons_f (p) (n : Node) (b rest path ps) :
    specHost (flt p (sufsFrom n [])) (b :: rest) path ps = specHost (flt p (sufsKids n.children)) (b :: rest) path ps := by
  rw [sufsFrom_nil, flt_append]
  cases n.route with
  | none => rfl
  | some r =>
    by_cases hp : p r = true
    · have : flt p (routeSuf (some r) []) = [([], r)] := by simp [routeSuf, flt, hp]
      rw [this]; exact specHost_cons_nil r _ b rest path ps
    · have : flt p (routeSuf (some r) []) = [] := by simp [routeSuf, flt, hp]
      rw [this]; rfl

theorem specHost_sufsFrom_nil_cons (n : Node) (b rest path ps) :
    specHost (sufsFrom n []) (b :: rest) path ps = specHost (sufsKids n.children) (b :: rest) path ps := by
  have := specHost_sufsFrom_nil_cons_f (fun _ => true) n b rest path ps
  simpa only [flt_true] using this

theorem noSlashTok_cons {t : Tok} {k : List Tok} :
    noSlashTok (t :: k) = true ↔ t ≠ .lit SLASH ∧ noSlashTok k = true := by
  unfold noSlashTok
  rw [List.contains_cons, Bool.not_or, Bool.and_eq_true, Bool.not_eq_true', beq_eq_false_iff_ne, ne_comm]

/-! The direct-match instance of `hostWalk_rel` as motives: `H1` for `hostWalk`, `H2` for `hostKids`. -/

def H1 (path : Bytes) (n : Node) (k : List Tok) (host : Bytes) (ps : Binds) : Prop :=
  wfKids n.children = true → nodupB (kindsOf n.children) = true → hostOkKids n.children = true →
  noSlashTok k = true → SLASH ∉ host →
  directs (hostWalk n k host path ps) = specHost (sufsFrom n k) host path ps

def H2 (path : Bytes) (sel : Sel) (cs : List Node) (host : Bytes) (ps : Binds) : Prop :=
  wfKids cs = true → hostOkKids cs = true → sel ≠ .static SLASH → sel ≠ .catchAll → SLASH ∉ host →
  directs (hostKids sel cs host path ps) =
    (cs.filter (fun c => sel.matches c.key)).flatMap (fun c => specHost (sufsNode c) host path ps)

/-- a child the hostname walk enters is no "/" child: its key and subtree have hostname shape -/
theorem hostOk_of_matches {sel : Sel} {c : Node} (hsel : sel ≠ .static SLASH) (hm : sel.matches c.key = true)
    (hh : hostOkNode c = true) : noSlashTok c.key = true ∧ hostOkKids c.children = true := by
  have hns : startsWithSlash c.key = false :=
    startsWithSlash_eq_matches _ ▸
      matches_false fun h => hsel (Option.some.inj (((sel_matches_iff _ _).mp hm).symm.trans h))
  cases c with
  | mk ck cr ccs =>
    simp only [hostOkNode, Bool.or_eq_true, Bool.and_eq_true] at hh
    rcases hh with h | h
    · rw [show startsWithSlash ck = false from hns] at h; cases h
    · exact h

/-- The hostname walk against `specHost` on the suffix set filtered by `p`, for any relation `R` between event lists and
    results that respects concatenation and holds of the path sub-lookups below the "/" children (`sub`); `G` is what
    `sub` may assume of such a child, passed down from the children of the start node. The walk runs on `path`, the
    specification on `path'`: the same path for direct matches, the slash-adjusted one for trailing-slash candidates. -/
theorem hostWalk_rel {R : List Ev → Res → Prop} {G : Node → Prop} (p : Route → Bool) (path path' : Bytes)
    (nil : R [] [])
    (append : ∀ {a b A B}, R a A → R b B → R (a ++ b) (A ++ B))
    (kids : ∀ {c c'}, G c → c' ∈ c.children → G c')
    (sub : ∀ {c} ps, wfNode c = true → G c → R (pathEvents c path ps) (specAll (flt p (sufsNode c)) path' ps)) :
    (∀ n k host ps, wfKids n.children = true → nodupB (kindsOf n.children) = true → hostOkKids n.children = true →
      noSlashTok k = true → SLASH ∉ host → (∀ c ∈ n.children, G c) →
      R (hostWalk n k host path ps) (specHost (flt p (sufsFrom n k)) host path' ps)) ∧
    (∀ sel cs host ps, wfKids cs = true → hostOkKids cs = true → sel ≠ .static SLASH → sel ≠ .catchAll →
      SLASH ∉ host → (∀ c ∈ cs, G c) →
      R (hostKids sel cs host path ps)
        ((cs.filter (fun c => sel.matches c.key)).flatMap fun c => specHost (flt p (sufsNode c)) host path' ps)) := by
  apply hostWalk.mutual_induct
  -- end of key, end of host: continue with the path below the "/" child
  · intro n ps c hc hw hd _ _ _ hG
    have hmem := List.mem_of_find?_eq_some hc
    rw [hostWalk_end_some hc, specHost_nil_host, filter_headSlash_sufsFrom_nil _ n hw hd, hc]
    exact sub ps (wfKids_mem hw hmem) (hG c hmem)
  · intro n ps hc hw hd _ _ _ _
    rw [hostWalk_end_none hc, specHost_nil_host, filter_headSlash_sufsFrom_nil _ n hw hd, hc, specAll_nil]
    exact nil
  -- end of key, host continues: static child, then param child
  · intro n ps b rest ih1 ih2 hw hd hh _ hs hG
    have hb : b ≠ SLASH := by intro h; apply hs; simp [h]
    rw [hostWalk_nil_cons, specHost_sufsFrom_nil_cons_f, specHost_kids_f hw hd]
    exact append (ih1 hw hh (by intro h; injection h with h; exact hb h) (by simp) hs hG)
      (ih2 hw hh (by simp) (by simp) hs hG)
  -- literal
  · intro n ps c k' _ _ _ hk _ _
    rw [hostWalk_tok_nil, specHost_nil_host,
      filter_headSlash_allHead ((allHead_sufsFrom n _ _).flt _) (noSlashTok_cons.mp hk).1, specAll_nil]
    exact nil
  · intro n ps k' b rest ih hw hd hh hk hs hG
    rw [hostWalk_lit, if_pos rfl, specHost_lit ((allHead_sufsFrom n _ _).flt _), tails_flt_sufsFrom, if_pos rfl]
    exact ih hw hd hh (noSlashTok_cons.mp hk).2 (by intro h; apply hs; simp [h]) hG
  · intro n ps c k' b rest hcb _ _ _ _ _ _
    rw [hostWalk_lit, if_neg hcb, specHost_lit ((allHead_sufsFrom n _ _).flt _), if_neg hcb]
    exact nil
  -- param
  · intro n ps nm k' _ _ _ _ _ _
    rw [hostWalk_tok_nil, specHost_nil_host, filter_headSlash_allHead ((allHead_sufsFrom n _ _).flt _) (by simp),
      specAll_nil]
    exact nil
  · intro n ps nm k' b rest he _ _ _ _ _ _
    rw [hostWalk_param, if_pos he, specHost_param ((allHead_sufsFrom n _ _).flt _), if_pos he]
    exact nil
  · intro n ps nm k' b rest he ih hw hd hh hk hs hG
    rw [hostWalk_param, if_neg he, specHost_param ((allHead_sufsFrom n _ _).flt _), tails_flt_sufsFrom, if_neg he]
    exact ih hw hd hh (noSlashTok_cons.mp hk).2 (fun h => hs (List.mem_of_mem_drop h)) hG
  -- catch-all (never in hostnames)
  · intro n host ps nm k' _ _ _ _ _ _
    rw [hostWalk_catch]
    cases host with
    | nil =>
      rw [specHost_nil_host, filter_headSlash_allHead ((allHead_sufsFrom n _ _).flt _) (by simp), specAll_nil]
      exact nil
    | cons b rest =>
      rw [specHost_catch ((allHead_sufsFrom n _ _).flt _)]
      exact nil
  -- hostKids
  · intro sel host ps _ _ _ _ _ _
    rw [hostKids_nil]
    exact nil
  · intro sel host ps c cs' ih1 ih2 hw hh hsel hsel2 hs hG
    have hw' := wfKids_cons.mp hw
    have hh' := hostOkKids_cons.mp hh
    have ht := ih2 hw'.2 hh'.2 hsel hsel2 hs fun x hx => hG x (List.mem_cons_of_mem _ hx)
    rw [hostKids_cons, List.filter_cons]
    by_cases hm : sel.matches c.key = true
    · have hp := wfNode_parts hw'.1
      have hok := hostOk_of_matches hsel hm hh'.1
      have := ih1 hp.1 hp.2.1 hok.2 hok.1 hs fun x hx => kids (hG c List.mem_cons_self) hx
      rw [← sufsNode_eq] at this
      rw [if_pos hm, if_pos hm, List.flatMap_cons]
      exact append this ht
    · rw [if_neg hm, if_neg hm]
      exact ht

theorem hostWalk_refines_all (path : Bytes) :
    (∀ n k host ps, H1 path n k host ps) ∧ (∀ sel cs host ps, H2 path sel cs host ps) := by
  have h := hostWalk_rel (R := fun evs D => directs evs = D) (G := fun _ => True) (fun _ => true) path path rfl
    (fun h1 h2 => by rw [directs_append, h1, h2]) (fun _ _ => trivial)
    (fun ps hc _ => by rw [flt_true]; exact pathEvents_direct hc path ps)
  simp only [flt_true] at h
  exact ⟨fun n k host ps hw hd hh hk hs => h.1 n k host ps hw hd hh hk hs fun _ _ => trivial,
    fun sel cs host ps hw hh h1 h2 hs => h.2 sel cs host ps hw hh h1 h2 hs fun _ _ => trivial⟩

end Fox.Model
