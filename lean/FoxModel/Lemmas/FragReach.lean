import FoxModel.Lemmas.InsScan
import FoxModel.Props.C02
import FoxModel.Lemmas.StoreInv
/-
  FoxModel.Lemmas.FragReach — the hypotheses of the byte-level theorems (`Fox.C02.Bytes.*`: every key made of grammar
  tokens, wildcards at the end of their segment / label) hold for every key of every tree reachable by registering
  patterns that have this shape: a key is a contiguous fragment of the pattern of any route below it.
-/
namespace Fox.Model.InsScan
open Fox Fox.Model Fox.Spec Fox.C02

def notSlash (t : Tok) : Bool := !(t == .lit SLASH)

/-- a pattern of the grammar: grammar tokens, hostname part (before the first '/') and path part well shaped -/
def patOK (p : List Tok) : Bool := toksOk p && fragOkHost (p.takeWhile notSlash) && fragOkPath (p.dropWhile notSlash)

/-- once the prefix consumed so far contains a '/', or the key starts with it, the key lies in the path part -/
theorem dropWhile_from_slash (a k tail : List Tok) (h : (∃ x ∈ a, notSlash x = false) ∨ startsWithSlash k = true) :
    ∃ c, (a ++ (k ++ tail)).dropWhile notSlash = c ++ (k ++ tail) := by
  induction a with
  | nil =>
    rcases h with ⟨x, hx, _⟩ | h
    · cases hx
    · obtain ⟨k', rfl⟩ := startsWithSlash_iff_cons.1 h
      exact ⟨[], rfl⟩
  | cons t a ih =>
    rw [List.cons_append, List.dropWhile_cons]
    cases ht : notSlash t with
    | false => exact ⟨t :: a, rfl⟩
    | true =>
      refine ih (h.imp_left fun ⟨x, hx, hxs⟩ => ?_)
      rcases List.mem_cons.1 hx with rfl | hx'
      · rw [ht] at hxs; cases hxs
      · exact ⟨x, hx', hxs⟩

theorem noSlashTok_all {k : List Tok} (h : noSlashTok k = true) : ∀ x ∈ k, notSlash x = true := by
  intro x hx
  rw [notSlash, Bool.not_eq_true', beq_eq_false_iff_ne]
  exact fun e => noSlashTok_iff.1 h (e ▸ hx)

/-- a key that is a fragment `pre ++ k ++ tail` of a well-shaped pattern is well shaped for the region it lies in -/
theorem frag_of_pattern {pre k tail : List Tok} (hp : patOK (pre ++ k ++ tail) = true) :
    toksOk k = true ∧
    ((∃ x ∈ pre, notSlash x = false) ∨ startsWithSlash k = true → fragOkPath k = true) ∧
    ((∀ x ∈ pre, notSlash x = true) → (∀ x ∈ k, notSlash x = true) → fragOkHost k = true) := by
  simp only [patOK, Bool.and_eq_true] at hp
  obtain ⟨⟨h1, h2⟩, h3⟩ := hp
  refine ⟨(toksOk_append (toksOk_append h1).1).2, fun hs => ?_, fun hpre hk => ?_⟩
  · obtain ⟨c, hc⟩ := dropWhile_from_slash pre k tail hs
    rw [List.append_assoc, hc] at h3
    exact (fragOkPath_append (fragOkPath_append h3).2).1
  · rw [List.takeWhile_append_of_pos (fun x hx => (List.mem_append.1 hx).elim (hpre x) (hk x))] at h2
    exact (fragOkHost_append (fragOkHost_append h2).1).2

/-! ### the induction over the tree -/

theorem sufsKids_of_child (k : List Tok) (r : Option Route) (cs : List Node) :
    ∀ sr' ∈ sufsKids cs, (k ++ sr'.1, sr'.2) ∈ sufsNode (.mk k r cs) := by
  intro sr' h
  rw [sufsNode_own]
  exact List.mem_append_right _ (List.mem_map.2 ⟨sr', h, rfl⟩)

/-- the siblings `cs` are reached through the tokens `pre`: every route below them has a well-shaped pattern, and the
    pattern is `pre` followed by the keys down to the route -/
def Below (pre : List Tok) (cs : List Node) : Prop :=
  ∀ sr ∈ sufsKids cs, patOK sr.2.pattern = true ∧ pre ++ sr.1 = sr.2.pattern

theorem below_child {pre k : List Tok} {r : Option Route} {cs rest : List Node}
    (h : Below pre (.mk k r cs :: rest)) : Below (pre ++ k) cs := by
  intro sr' hsr'
  have hm := mem_sufsKids.mpr ⟨_, List.mem_cons_self (l := rest), sufsKids_of_child k r cs sr' hsr'⟩
  obtain ⟨h1, h2⟩ := h _ hm
  exact ⟨h1, (List.append_assoc ..).trans h2⟩

theorem below_tail {pre : List Tok} {c : Node} {rest : List Node} (h : Below pre (c :: rest)) : Below pre rest := by
  intro sr hsr
  apply h
  rw [sufsKids_cons]
  exact List.mem_append_right _ hsr

/-- a key in the tree, as a fragment of the pattern of a route below it -/
theorem key_fragment {pre k : List Tok} {r : Option Route} {cs rest : List Node}
    (h : Below pre (.mk k r cs :: rest)) (hne : routesNode (.mk k r cs) ≠ []) :
    ∃ tail, patOK (pre ++ k ++ tail) = true := by
  rw [routesNode_eq, ne_eq, List.map_eq_nil_iff] at hne
  obtain ⟨sr, hsr⟩ := List.exists_mem_of_ne_nil _ hne
  obtain ⟨x, hx⟩ := sufsNode_key k r cs sr hsr
  obtain ⟨h1, h2⟩ := h sr (mem_sufsKids.mpr ⟨_, List.mem_cons_self .., hsr⟩)
  rw [hx, ← List.append_assoc] at h2
  exact ⟨x, h2 ▸ h1⟩

theorem slash_mem_append {pre k : List Tok} (h : (∃ x ∈ pre, notSlash x = false) ∨ startsWithSlash k = true) :
    ∃ x ∈ pre ++ k, notSlash x = false := by
  rcases h with ⟨x, hx, hxs⟩ | h
  · exact ⟨x, List.mem_append_left _ hx, hxs⟩
  · obtain ⟨k', rfl⟩ := startsWithSlash_iff_cons.1 h
    exact ⟨.lit SLASH, List.mem_append_right _ (List.mem_cons_self ..), rfl⟩

mutual
/-- below the first '/' (`pre` contains it, or the key starts with it) every key is a well-shaped path fragment -/
theorem frag_path_node : ∀ (n : Node) (rest : List Node) (pre : List Tok), pathNode n = true →
    ((∃ x ∈ pre, notSlash x = false) ∨ startsWithSlash n.key = true) → Below pre (n :: rest) → fragOkNode true n = true
  | .mk k r cs, rest, pre, hp, hs, hb => by
    obtain ⟨tail, hpat⟩ := key_fragment hb (routes_ne_nil_of_path _ hp)
    obtain ⟨f1, f2, _⟩ := frag_of_pattern hpat
    unfold pathNode at hp
    have hkids := frag_path_kids cs (pre ++ k) (Bool.and_eq_true_iff.1 hp).2 (slash_mem_append hs) (below_child hb)
    show (toksOk k && fragOkPath k && fragOkKids true cs) = true
    rw [f1, f2 hs, hkids]
    rfl
theorem frag_path_kids : ∀ (cs : List Node) (pre : List Tok), pathKids cs = true → (∃ x ∈ pre, notSlash x = false) →
    Below pre cs → fragOkKids true cs = true
  | [], _, _, _, _ => rfl
  | c :: cs, pre, hp, hs, hb => by
    unfold pathKids at hp
    obtain ⟨h1, h2⟩ := Bool.and_eq_true_iff.1 hp
    show (fragOkNode true c && fragOkKids true cs) = true
    rw [frag_path_node c cs pre h1 (Or.inl hs) hb, frag_path_kids cs pre h2 hs (below_tail hb)]
    rfl
end

mutual
/-- in front of the first '/' (`pre` has none): a key is a well-shaped hostname fragment, or starts with '/' and opens the
    path part, where `frag_path_node` takes over -/
theorem frag_shape_node : ∀ (n : Node) (rest : List Node) (pre : List Tok), shapeNode n = true →
    (∀ x ∈ pre, notSlash x = true) → Below pre (n :: rest) → fragOkNode false n = true
  | .mk k r cs, rest, pre, hp, hs, hb => by
    obtain ⟨tail, hpat⟩ := key_fragment hb (routes_ne_nil_of_shape _ hp)
    obtain ⟨f1, _, f3⟩ := frag_of_pattern hpat
    rcases (shapeNode_iff k r cs).1 hp with ⟨hsl, hpn⟩ | ⟨hsl, hk, _, _, hcs⟩
    · -- the node starts the path part: it is a path node, and its own flag says so
      have := frag_path_node (.mk k r cs) rest pre hpn (Or.inr hsl) hb
      simpa only [fragOkNode, hsl, Bool.or_true] using this
    · have hk := noSlashTok_all hk
      have hkids := frag_shape_kids cs (pre ++ k) ((shapeKids_iff cs).2 hcs)
        (fun x hx => (List.mem_append.1 hx).elim (hs x) (hk x)) (below_child hb)
      unfold fragOkNode
      simp only [hsl, Bool.or_false, Bool.false_eq_true, if_false]
      rw [f1, f3 hs hk, hkids]
      rfl
theorem frag_shape_kids : ∀ (cs : List Node) (pre : List Tok), shapeKids cs = true → (∀ x ∈ pre, notSlash x = true) →
    Below pre cs → fragOkKids false cs = true
  | [], _, _, _, _ => rfl
  | c :: cs, pre, hp, hs, hb => by
    unfold shapeKids at hp
    obtain ⟨h1, h2⟩ := Bool.and_eq_true_iff.1 hp
    show (fragOkNode false c && fragOkKids false cs) = true
    rw [frag_shape_node c cs pre h1 hs hb, frag_shape_kids cs pre h2 hs (below_tail hb)]
    rfl
end

/-! ### reachable trees -/

/-- a well-formed tree all of whose routes have well-shaped patterns has well-shaped keys everywhere -/
theorem fragOk_of_good {t : Tree} (hg : Good t)
    (hr : ∀ x ∈ t.roots, ∀ sr ∈ sufsNode x.2, patOK sr.2.pattern = true) : fragOkRoots t.roots = true := by
  refine List.all_eq_true.2 fun x hx => ?_
  have hok := hg.roots x hx
  rcases hxn : x.2 with ⟨k, r, cs⟩
  rw [hxn] at hok
  obtain ⟨rfl, rfl, _⟩ := (wfRoot_iff k r cs).1 hok.wf
  refine frag_shape_kids cs [] hok.shape (fun y hy => nomatch hy) fun sr hsr => ?_
  have hm : (sr.1, sr.2) ∈ sufsNode (.mk [] none cs) := sufsKids_of_child [] none cs sr hsr
  exact ⟨hr x hx _ (hxn ▸ hm), (hok.pats _ hm).1⟩

/-- only `Handle` brings patterns in: they are required to be well shaped (what the parser accepts is, `patOK_of_valid`) -/
def opPatOK : Fox.C02.Op → Bool
  | .handle _ r => patOK r.pattern
  | _ => true

theorem patOK_run (ops : List Fox.C02.Op) : ∀ (s : Store), (∀ e ∈ s, patOK e.2.pattern = true) →
    (∀ op ∈ ops, opPatOK op = true) → ∀ e ∈ (Fox.C02.runSpec s ops).1, patOK e.2.pattern = true := by
  induction ops with
  | nil => intro s h _; exact h
  | cons op ops ih =>
    intro s h hp
    refine ih _ (stepSpec_patterns (P := (patOK · = true)) op h fun m r ho => ?_) fun o ho => hp o (List.mem_cons_of_mem _ ho)
    have := hp op (List.mem_cons_self ..)
    rwa [ho] at this

/-- **every key of every reachable tree has the grammar shape**: after any history of Handle / Update / Delete / Truncate
    whose registered patterns are well shaped, `fragOkRoots` holds - the hypotheses of `Fox.C02.Bytes.*` are met at
    every node the insertion can stop at -/
theorem fragOk_reachable (ops : List Fox.C02.Op) (hv : ∀ op ∈ ops, op.valid = true) (hp : ∀ op ∈ ops, opPatOK op = true) :
    fragOkRoots (Fox.C02.runModel newTree ops).1.roots = true := by
  have hsim := (Fox.C02.C02_refines ops hv).1
  have hst := patOK_run ops [] (fun e he => nomatch he) hp
  apply fragOk_of_good hsim.good
  intro x hx sr hsr
  have hmr := methodRoot_of_mem hsim.good.nodup (m := x.1) (n := x.2) hx
  have hmem : sr ∈ Fox.C02.sufsOf (Fox.C02.runModel newTree ops).1 x.1 := by
    unfold Fox.C02.sufsOf
    rw [hmr]
    exact hsr
  exact hst _ (mem_routesOf.1 ((hsim.mem_iff x.1 sr.2).2 ⟨sr, hmem, rfl⟩))

end Fox.Model.InsScan
