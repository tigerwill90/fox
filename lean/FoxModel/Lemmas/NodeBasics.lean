import FoxModel.Model.WF
import FoxModel.Lemmas.Instances
/-
  What the tree-mutation proofs and the walk/machine proofs both need about nodes and keys: the mutually defined list
  functions as list combinators, kinds / `keyOk` / catch-all ends / first bytes of keys, `render`, and `wfNode` read once.
-/
namespace Fox.Model
open Fox

@[simp] theorem Node.key_mk (k : List Tok) (r : Option Route) (cs : List Node) : (Node.mk k r cs).key = k := rfl
@[simp] theorem Node.route_mk (k : List Tok) (r : Option Route) (cs : List Node) : (Node.mk k r cs).route = r := rfl
@[simp] theorem Node.children_mk (k : List Tok) (r : Option Route) (cs : List Node) :
    (Node.mk k r cs).children = cs := rfl

/-! ### the mutually defined list functions as list combinators -/

theorem kindsOf_eq_map (cs : List Node) : kindsOf cs = cs.map (fun c => kindOf c.key) := by
  induction cs with
  | nil => simp [kindsOf]
  | cons c cs ih => cases c; simp [kindsOf, ih, Node.key]

theorem wfKids_eq_all (cs : List Node) : wfKids cs = cs.all wfNode := by
  induction cs with
  | nil => simp [wfKids]
  | cons c cs ih => simp [wfKids, ih]

theorem allSlash_eq_all (cs : List Node) : allSlash cs = cs.all (fun c => startsWithSlash c.key) := by
  induction cs with
  | nil => simp [allSlash]
  | cons c cs ih => cases c; simp [allSlash, ih, Node.key]

theorem sufsKids_eq_flatMap (cs : List Node) : sufsKids cs = cs.flatMap sufsNode := by
  induction cs with
  | nil => simp [sufsKids]
  | cons c cs ih => simp [sufsKids, ih]

theorem routesKids_eq_flatMap (cs : List Node) : routesKids cs = cs.flatMap routesNode := by
  induction cs with
  | nil => simp [routesKids]
  | cons c cs ih => simp [routesKids, ih]

theorem nodupB_iff {α} [BEq α] [LawfulBEq α] (l : List α) : nodupB l = true ↔ l.Nodup := by
  induction l with
  | nil => simp [nodupB]
  | cons x xs ih => simp [nodupB, ih]

/-! ### keys: kinds, `keyOk`, catch-all ends -/

theorem kindOf_append {k : List Tok} (x : List Tok) (h : k ≠ []) : kindOf (k ++ x) = kindOf k := by
  cases k with
  | nil => exact absurd rfl h
  | cons t ts => cases t <;> simp [kindOf]

theorem startsWithSlash_append {k : List Tok} (x : List Tok) (h : k ≠ []) :
    startsWithSlash (k ++ x) = startsWithSlash k := by
  cases k with
  | nil => exact absurd rfl h
  | cons t ts => cases t <;> simp [startsWithSlash]

theorem startsWithSlash_ne_nil {k : List Tok} (h : startsWithSlash k = true) : k ≠ [] := by
  cases k with
  | nil => simp [startsWithSlash] at h
  | cons t ts => simp

theorem startsWithSlash_iff_kind (k : List Tok) : startsWithSlash k = true ↔ kindOf k = some (.static SLASH) := by
  cases k with
  | nil => simp [startsWithSlash, kindOf]
  | cons t ts => cases t <;> simp [startsWithSlash, kindOf]

theorem startsWithSlash_cons_iff (a : Tok) (as : List Tok) : startsWithSlash (a :: as) = true ↔ a = .lit SLASH := by
  cases a <;> simp [startsWithSlash]

theorem startsWithSlash_iff_cons {k : List Tok} : startsWithSlash k = true ↔ ∃ k', k = .lit SLASH :: k' := by
  cases k with
  | nil => simp [startsWithSlash]
  | cons t ts => cases t <;> simp [startsWithSlash]

theorem allSlash_iff_kinds (cs : List Node) : allSlash cs = true ↔ ∀ k ∈ kindsOf cs, k = some (.static SLASH) := by
  rw [allSlash_eq_all, kindsOf_eq_map]
  simp [startsWithSlash_iff_kind]

theorem allSlash_congr {cs ds : List Node} (h : kindsOf cs = kindsOf ds) : allSlash cs = allSlash ds := by
  rw [Bool.eq_iff_iff, allSlash_iff_kinds, allSlash_iff_kinds, h]

theorem allSlash_append (cs ds : List Node) : allSlash (cs ++ ds) = (allSlash cs && allSlash ds) := by
  simp only [allSlash_eq_all, List.all_append]

theorem endsWithCatchAll_nil : endsWithCatchAll [] = false := by simp [endsWithCatchAll]

theorem endsWithCatchAll_append (a : List Tok) {b : List Tok} (h : b ≠ []) :
    endsWithCatchAll (a ++ b) = endsWithCatchAll b := by
  have : ∃ x, b.getLast? = some x := by
    cases hb : b.getLast? with
    | none => exact absurd (List.getLast?_eq_none_iff.mp hb) h
    | some x => exact ⟨x, rfl⟩
  obtain ⟨x, hx⟩ := this
  simp [endsWithCatchAll, hx]

/-- `keyOk` of a concatenation: both parts, and a catch-all at the seam is followed by '/' -/
theorem keyOk_append_eq (a b : List Tok) : keyOk (a ++ b) =
    (keyOk a && keyOk b && (!endsWithCatchAll a || b.isEmpty || startsWithSlash b)) := by
  induction a with
  | nil => simp [keyOk, endsWithCatchAll]
  | cons t a ih =>
    cases a with
    | nil =>
      cases t with
      | lit c => simp [keyOk, endsWithCatchAll]
      | param n => simp [keyOk, endsWithCatchAll]
      | catchAll n =>
        cases b with
        | nil => rfl
        | cons u us =>
          have hb : ∀ c, (Tok.lit c == Tok.lit SLASH) = (c == SLASH) := fun c => by
            rw [Bool.eq_iff_iff, beq_iff_eq, beq_iff_eq, Tok.lit.injEq]
          cases u <;> simp [keyOk, endsWithCatchAll, startsWithSlash, Bool.and_comm, hb]
    | cons u a =>
      rw [List.cons_append] at ih
      rw [show endsWithCatchAll (t :: u :: a) = endsWithCatchAll (u :: a) from
        endsWithCatchAll_append [t] (List.cons_ne_nil u a)]
      cases t <;> simp only [List.cons_append, keyOk, ih, Bool.and_assoc]

theorem keyOk_append_iff (a b : List Tok) : keyOk (a ++ b) = true ↔
    keyOk a = true ∧ keyOk b = true ∧ (endsWithCatchAll a = true → b ≠ [] → startsWithSlash b = true) := by
  rw [keyOk_append_eq, Bool.and_eq_true, Bool.and_eq_true, and_assoc]
  refine and_congr_right fun _ => and_congr_right fun _ => ?_
  cases endsWithCatchAll a <;> cases b <;> simp

theorem keyOk_append_right (a b : List Tok) (h : keyOk (a ++ b) = true) : keyOk b = true :=
  ((keyOk_append_iff a b).mp h).2.1

theorem keyOk_append_left (a b : List Tok) (h : keyOk (a ++ b) = true) : keyOk a = true :=
  ((keyOk_append_iff a b).mp h).1

theorem keyOk_catch_slash (a b : List Tok) (h : keyOk (a ++ b) = true) (he : endsWithCatchAll a = true)
    (hb : b ≠ []) : startsWithSlash b = true :=
  ((keyOk_append_iff a b).mp h).2.2 he hb

theorem keyOk_append (a b : List Tok) (ha : keyOk a = true) (hb : keyOk b = true)
    (hc : endsWithCatchAll a = true → b ≠ [] → startsWithSlash b = true) : keyOk (a ++ b) = true :=
  (keyOk_append_iff a b).mpr ⟨ha, hb, hc⟩

theorem keyOk_lit_ne {c : UInt8} {k : List Tok} (h : keyOk (.lit c :: k) = true) : c ≠ STAR ∧ c ≠ LBR := by
  simp only [keyOk, Bool.and_eq_true, bne_iff_ne] at h
  exact ⟨h.1.1, h.1.2⟩

/-! ### rendered keys and first bytes -/

theorem render_cons (t : Tok) (ts : List Tok) : render (t :: ts) = t.render ++ render ts := by
  simp [render]

theorem render_append (a b : List Tok) : render (a ++ b) = render a ++ render b := by
  simp [render]

/-- a rendered non-empty key starts with the byte `getEdge` indexes it by -/
theorem render_head (t : Tok) (ts : List Tok) : ∃ rest, render (t :: ts) = firstByte (t :: ts) :: rest := by
  cases t <;> simp [render, Tok.render, firstByte]

theorem firstByte_eq_of_kindOf (k : List Tok) : firstByte k =
    match kindOf k with
    | some (.static c) => c
    | some .param => LBR
    | some .catchAll => STAR
    | none => 0 := by
  rcases k with _ | ⟨t, ts⟩
  · rfl
  · cases t <;> rfl

theorem kindOf_eq_of_firstByte {k : List Tok} (h : k ≠ []) (o : keyOk k = true) : kindOf k =
    some (if firstByte k = LBR then .param else if firstByte k = STAR then .catchAll else .static (firstByte k)) := by
  obtain ⟨t, ts, rfl⟩ := List.exists_cons_of_ne_nil h
  cases t with
  | lit c =>
    rw [firstByte, kindOf, if_neg (keyOk_lit_ne o).2, if_neg (keyOk_lit_ne o).1]
  | param n => rfl
  | catchAll n => rfl

/-- `getEdge` compares first bytes; on well-formed keys that is the comparison of kinds -/
theorem firstByte_eq_iff {k k' : List Tok} (h1 : k ≠ []) (h2 : k' ≠ []) (o1 : keyOk k = true) (o2 : keyOk k' = true) :
    firstByte k = firstByte k' ↔ kindOf k = kindOf k' :=
  ⟨fun e => by rw [kindOf_eq_of_firstByte h1 o1, kindOf_eq_of_firstByte h2 o2, e],
   fun e => by rw [firstByte_eq_of_kindOf k, firstByte_eq_of_kindOf k', e]⟩

theorem kind_ne_of_ne {a b : Tok} (as bs : List Tok) (hab : a ≠ b) (hw : isWildSame a b = false) :
    kindOf (a :: as) ≠ kindOf (b :: bs) := by
  cases a <;> cases b <;> simp_all [kindOf, isWildSame]

/-! ### `wfNode` and `wfRoot` read once -/

theorem wfNode_iff (k : List Tok) (r : Option Route) (cs : List Node) : wfNode (.mk k r cs) = true ↔
    k ≠ [] ∧ keyOk k = true ∧ (kindsOf cs).Nodup ∧
      (endsWithCatchAll k = true → r.isSome = true ∧ allSlash cs = true) ∧ wfKids cs = true := by
  conv => lhs; unfold wfNode
  simp only [Bool.and_eq_true, Bool.or_eq_true, Bool.not_eq_true', nodupB_iff, List.isEmpty_eq_false_iff]
  constructor
  · rintro ⟨⟨⟨⟨a, b⟩, c⟩, d⟩, e⟩
    refine ⟨a, b, c, ?_, e⟩
    intro h; rcases d with d | d
    · rw [h] at d; cases d
    · exact d
  · rintro ⟨a, b, c, d, e⟩
    refine ⟨⟨⟨⟨a, b⟩, c⟩, ?_⟩, e⟩
    cases h : endsWithCatchAll k
    · exact Or.inl rfl
    · exact Or.inr (d h)

theorem wfNode_key {c : Node} (h : wfNode c = true) : c.key ≠ [] ∧ keyOk c.key = true := by
  obtain ⟨k, r, cs⟩ := c
  exact ⟨((wfNode_iff ..).mp h).1, ((wfNode_iff ..).mp h).2.1⟩

theorem firstByte_eq_iff_wf {c : Node} (h : wfNode c = true) {k : List Tok} (hk : k ≠ []) (ho : keyOk k = true) :
    firstByte c.key = firstByte k ↔ kindOf c.key = kindOf k :=
  firstByte_eq_iff (wfNode_key h).1 hk (wfNode_key h).2 ho

theorem wfKids_mem {cs : List Node} (h : wfKids cs = true) {c : Node} (hc : c ∈ cs) : wfNode c = true := by
  rw [wfKids_eq_all, List.all_eq_true] at h; exact h c hc

theorem wfKids_of_forall {cs : List Node} (h : ∀ c ∈ cs, wfNode c = true) : wfKids cs = true := by
  rw [wfKids_eq_all, List.all_eq_true]; exact h

theorem wfRoot_iff (k : List Tok) (r : Option Route) (cs : List Node) : wfRoot (.mk k r cs) = true ↔
    k = [] ∧ r = none ∧ (kindsOf cs).Nodup ∧ wfKids cs = true := by
  simp only [wfRoot, Node.key_mk, Node.route_mk, Node.children_mk, Bool.and_eq_true, List.isEmpty_iff,
    Option.isNone_iff_eq_none, nodupB_iff, and_assoc]

/-! ### the root of a method, and the search from it -/

theorem methodRoot_mem {rs : Roots} {m : Bytes} {root : Node} (hm : methodRoot rs m = some root) :
    ∃ x ∈ rs, x.2 = root := by
  unfold methodRoot at hm
  cases hf : rs.find? (fun x => x.1 == m) with
  | none => rw [hf] at hm; cases hm
  | some x =>
    rw [hf] at hm
    exact ⟨x, List.mem_of_find?_eq_some hf, Option.some.inj hm⟩

theorem wfRoots_root {rs : Roots} {m : Bytes} {root : Node} (h : wfRoots rs = true)
    (hm : methodRoot rs m = some root) : wfRoot root = true := by
  obtain ⟨x, hx, rfl⟩ := methodRoot_mem hm
  simp only [wfRoots, Bool.and_eq_true] at h
  exact List.all_eq_true.mp h.1 x hx

/-- a method root has the empty key, so the search from it is the search at a node -/
theorem searchRoot_eq (r : Option Route) (cs : List Node) (p : Bytes) :
    searchRoot (.mk [] r cs) p = searchNode (.mk [] r cs) p := by
  unfold searchRoot searchNode
  cases p <;> simp [render]

/-! ### suffix sets of a list of children -/

theorem sufsKids_append (a b : List Node) : sufsKids (a ++ b) = sufsKids a ++ sufsKids b := by
  simp [sufsKids_eq_flatMap]

theorem sufsKids_cons (c : Node) (cs : List Node) : sufsKids (c :: cs) = sufsNode c ++ sufsKids cs := by
  simp [sufsKids]

theorem sufsNode_key (k : List Tok) (r : Option Route) (cs : List Node) :
    ∀ sr ∈ sufsNode (.mk k r cs), ∃ s, sr.1 = k ++ s := by
  intro sr hsr
  unfold sufsNode at hsr
  rcases List.mem_append.mp hsr with h | h
  · cases r with
    | none => cases h
    | some x => cases List.mem_singleton.mp h; exact ⟨[], (List.append_nil k).symm⟩
  · obtain ⟨sr', _, rfl⟩ := List.mem_map.mp h
    exact ⟨sr'.1, rfl⟩

theorem sufsKids_ne_nil {cs : List Node} (hwf : wfKids cs = true) : ∀ sr ∈ sufsKids cs, sr.1 ≠ [] := by
  intro sr hsr
  rw [sufsKids_eq_flatMap] at hsr
  obtain ⟨c, hc, hs⟩ := List.mem_flatMap.mp hsr
  have hk := (wfNode_key (wfKids_mem hwf hc)).1
  obtain ⟨k, r, ks⟩ := c
  obtain ⟨s, e⟩ := sufsNode_key k r ks sr hs
  rw [e]
  exact fun h => hk (List.append_eq_nil_iff.mp h).1

end Fox.Model
