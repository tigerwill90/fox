import FoxModel.Lemmas.Parse.Tokens
/-
  FoxModel.Lemmas.Parse.Wildcard — `parseWildcard` agrees with `tokenize` (`wLoop_tokens`): run over a string that reads as
  tokens, the scanner `wLoop` reports `wildPositions` of them. By `tokenize_ind`; a wildcard is three stretches of steps:
  the opening bytes (`wStep_open`), the name (`wScan`), the closing brace (`wStep_close`).
-/

namespace Fox.Model
open Fox

section W
variable {s : Bytes}

theorem wLoop_done {st : WSt} (h : ¬ st.i < s.length) : wLoop s st = some st := by
  rw [wLoop]; simp [h]

theorem wLoop_step {st st' : WSt} (hs : wStep s st = some st') : wLoop s st = wLoop s st' := by
  have h : st.i < s.length := Classical.byContradiction fun hn => by
    rw [wStep, List.getElem?_eq_none (Nat.le_of_not_lt hn)] at hs; cases hs
  rw [wLoop, if_pos h]
  split
  · rename_i he; rw [hs] at he; cases he
  · rename_i st'' he; rw [hs] at he; cases he; rfl

theorem wScan {st : WSt} {pre n rest : Bytes} (hst : st.state ≠ .default) (hs : s = pre ++ n ++ rest)
    (hi : st.i = pre.length) (hr : RBR ∉ n) :
    wLoop s st = wLoop s { st with i := st.i + n.length } := by
  induction n generalizing st pre with
  | nil => simp
  | cons b n ih =>
    have hc : s[st.i]? = some b := by rw [hs, hi]; simp
    have hb : b ≠ RBR := fun h => hr (by simp [h])
    have hstep : wStep s st = some { st with i := st.i + 1 } := by
      unfold wStep; rw [hc]
      cases hst' : st.state with
      | default => exact absurd hst' hst
      | param => simp [hb]
      | catchAll => simp [hb]
    rw [wLoop_step hstep]
    have := @ih { st with i := st.i + 1 } (pre ++ [b]) hst (by rw [hs]; simp) (by simp [hi])
      (fun h => hr (by simp [h]))
    rw [this]
    congr 1
    simp; omega

theorem slice_mid (a n r : Bytes) : slice (a ++ n ++ r) a.length (a.length + n.length) = some n := by
  unfold slice
  have h1 : a.length ≤ a.length + n.length ∧ a.length + n.length ≤ (a ++ n ++ r).length := by simp
  rw [if_pos h1]
  simp

def closedSt (st : WSt) (p : WParam) : WSt :=
  { st with params := st.params ++ [p], start := 0, state := .default, i := st.i + 1 }

theorem wStep_open (ca : Bool) {st : WSt} {pre rest : Bytes} (hs : s = pre ++ (wopen ca ++ rest))
    (hi : st.i = pre.length) (hst : st.state = .default) :
    wStep s st =
      some { st with state := wstate ca, i := st.i + (wopen ca).length, start := st.i + (wopen ca).length } := by
  unfold wStep
  cases ca
  · rw [show s[st.i]? = some LBR by rw [hs, hi]; exact getElem?_at ..]
    simp [hst, wstate, wopen, show LBR ≠ STAR by decide]
  · rw [show s[st.i]? = some STAR by rw [hs, hi]; exact getElem?_at ..]
    simp [hst, wstate, wopen]

theorem wStep_close (ca : Bool) {st : WSt} {pre n r : Bytes} (hs : s = pre ++ n ++ RBR :: r)
    (hst : st.state = wstate ca) (hstart : st.start = pre.length) (hi : st.i = pre.length + n.length) :
    wStep s st = some (closedSt st
      ⟨n, if r.isEmpty then -1 else ((pre.length + n.length + 1 : Nat) : Int), ca⟩) := by
  have hc : s[st.i]? = some RBR := by rw [hs, hi, ← List.length_append]; exact getElem?_at ..
  have hl : st.i + 1 ≤ s.length := by rw [hs, hi]; simp; omega
  have hsl : slice s st.start st.i = some n := by rw [hs, hstart, hi]; exact slice_mid pre n (RBR :: r)
  have he : (s.length - (st.i + 1) > 0) ↔ ¬ r.isEmpty = true := by
    rw [hs, hi]; cases r <;> simp <;> omega
  rw [show wStep s st = wClose s st ca by unfold wStep; rw [hc]; cases ca <;> simp [hst, wstate]]
  unfold wClose closedSt
  rw [if_pos hl, hsl]
  by_cases hr : r.isEmpty = true
  · simp only [mt he.mp (not_not_intro hr), if_false, hr, if_true]
  · simp only [he.mpr hr, if_true, hr, Bool.false_eq_true, if_false]
    simp only [hi]

theorem wLoop_tokens {suf : Bytes} {toks : List Tok} (ht : tokenize suf = some toks) :
    ∀ (pre : Bytes) (st : WSt), s = pre ++ suf → st.i = pre.length → st.state = .default →
      ∃ st', wLoop s st = some st' ∧ st'.params = st.params ++ wildPositions pre.length toks := by
  refine tokenize_ind (P := fun suf toks => ∀ (pre : Bytes) (st : WSt), s = pre ++ suf → st.i = pre.length →
    st.state = .default → ∃ st', wLoop s st = some st' ∧ st'.params = st.params ++ wildPositions pre.length toks)
    ?_ ?_ ?_ ht
  · intro pre st hs hi _
    exact ⟨st, wLoop_done (by rw [hs, hi]; simp), by simp [wildPositions]⟩
  · intro b bs ts h1 h2 _ ih pre st hs hi hst
    have hstep : wStep s st = some { st with i := st.i + 1 } := by
      unfold wStep; rw [show s[st.i]? = some b by rw [hs, hi]; simp]; simp [hst, h1, h2]
    rw [wLoop_step hstep]
    obtain ⟨st', h1', h2'⟩ := ih (pre ++ [b]) { st with i := st.i + 1 } (by rw [hs]; simp) (by simp [hi]) hst
    exact ⟨st', h1', by rw [h2']; simp [wildPositions]⟩
  · intro ca n r ts hrn htr ih pre st hs hi hst
    -- the opening bytes, the name, the closing brace
    have hs1 : s = (pre ++ wopen ca) ++ n ++ RBR :: r := by rw [hs]; simp
    have hlen : (pre ++ wopen ca).length = st.i + (wopen ca).length := by rw [List.length_append, hi]
    rw [wLoop_step (wStep_open ca hs hi hst),
      wScan (pre := pre ++ wopen ca) (by cases ca <;> nofun) hs1 hlen.symm hrn,
      wLoop_step (wStep_close ca hs1 rfl hlen.symm (by rw [hlen]))]
    refine (ih (pre ++ (wopen ca ++ (n ++ [RBR]))) _ (by rw [hs]; simp) ?_ rfl).imp fun st' h => ⟨h.1, ?_⟩
    · simp [closedSt, hi]; omega
    rw [h.2, wildPositions_wtok, isEmpty_tokenize htr]
    simp only [closedSt, List.append_assoc, List.cons_append, List.nil_append,
      List.length_append, List.length_cons, List.length_nil]
    have e1 : pre.length + (wopen ca).length + n.length + 1 = pre.length + n.length + ((wopen ca).length + 1) := by omega
    have e2 : pre.length + ((wopen ca).length + (n.length + (0 + 1))) = pre.length + n.length + ((wopen ca).length + 1) := by omega
    rw [e1, e2]

end W

end Fox.Model
