import FoxModel.Lemmas.Parse.Tokens
/-
  FoxModel.Lemmas.Parse.TokMachine — the validator of `parseRoute` seen one token at a time: a proof-side machine
  (`tokStep`, `tokLoop`, `tokAccept`) on the state `TSt`, which is what the validator keeps between two tokens. A wildcard is
  one step (`wildT`), a hostname literal is read in the grammar's terms (`hostLitT`). `Lemmas/Parse/ByteStep` relates it to
  the byte machine, `Lemmas/Parse/Grammar` to `Spec.validToks`; neither needs the other.
-/

namespace Fox.Model
open Fox

/-- the validator state between two tokens (no position, no scanning state) -/
structure TSt where
  /-- the first '/' has not been consumed yet -/
  inHost : Bool := true
  /-- last byte consumed -/
  prev : Option UInt8 := none
  /-- the byte before the first '/' (`none`: the pattern starts with '/'), recorded when the '/' is consumed -/
  hostEnd : Option UInt8 := none
  previous : PState := .default
  paramCnt : Nat := 0
  countStatic : Nat := 0
  nonNumeric : Bool := false
  partlen : Nat := 0
  totallen : Nat := 0
  last : UInt8 := DOT
deriving Repr, DecidableEq

/-- the look-ahead after a closing brace: the next byte `nx`, if any, must be the delimiter `d` or '/' -/
def nxBad (d : UInt8) (nx : Option UInt8) : Bool :=
  match nx with
  | some c => c != d && c != SLASH
  | none => false

/-- a wildcard token. A catch-all is rejected in the hostname, so below the first test `σ.inHost` is false for it:
    its delimiter is '/', and `nonNumeric` stays as it is. -/
def wildT (lim : Spec.Limits) (σ : TSt) (ca : Bool) (n : Bytes) (nx : Option UInt8) : Option TSt :=
  if ca = true ∧ σ.inHost = true then none
  else if σ.paramCnt + 1 > lim.maxParams then none
  else if Spec.nameOk lim σ.inHost n = false then none
  else if nxBad (if σ.inHost then DOT else SLASH) nx = true then none
  else if ca = true ∧ σ.previous = .catchAll ∧ σ.countStatic ≤ 1 then none
  else some { σ with prev := some RBR, previous := wstate ca, paramCnt := σ.paramCnt + 1, countStatic := 0,
                     nonNumeric := σ.inHost || σ.nonNumeric }

/-- the test a '.' makes on the label it closes: the text does not end with '-', has at most 63 bytes, and the
    '.' does not come right after a '.' (a parameter may stand in between) -/
def closeOK (σ : TSt) : Bool :=
  σ.last != DASH && decide (σ.partlen ≤ 63) && !decide (σ.last = DOT ∧ σ.prev ≠ some RBR)

def afterDot (σ : TSt) : TSt :=
  { σ with countStatic := σ.countStatic + 1, totallen := σ.totallen + (σ.partlen + 1), partlen := 0,
           last := DOT, prev := some DOT }

def afterLit (σ : TSt) (b : UInt8) : TSt :=
  { σ with countStatic := σ.countStatic + 1, nonNumeric := σ.nonNumeric || !Spec.isNum b,
           partlen := σ.partlen + 1, last := b, prev := some b }

/-- the state after the first '/' -/
def flipSt (σ : TSt) : TSt :=
  { σ with inHost := false, hostEnd := σ.prev, prev := some SLASH, countStatic := σ.countStatic + 1 }

/-- a literal byte of the hostname, in the grammar's terms: a '.' closes a label; any other byte is a letter, a
    digit or a '-' that does not begin its label, and everything but a digit makes the hostname non-numeric -/
def hostLitT (σ : TSt) (b : UInt8) : Option TSt :=
  if b = DOT then (if closeOK σ then some (afterDot σ) else none)
  else if Spec.isLDH b = true ∧ (σ.last = DOT → b ≠ DASH) then some (afterLit σ b) else none

/-- one token; `nx` = the byte that follows the token (`none` at the end of the pattern). The wildcard count is
    tested where it grows (`wildT`): between two wildcards the validator's test of it cannot fail. -/
def tokStep (lim : Spec.Limits) (σ : TSt) (t : Tok) (nx : Option UInt8) : Option TSt :=
  match t with
  | .param n => wildT lim σ false n nx
  | .catchAll n => wildT lim σ true n nx
  | .lit b =>
    if σ.inHost = false then some { σ with prev := some b, countStatic := σ.countStatic + 1 }
    else if b = SLASH then some (flipSt σ)
    else hostLitT σ b

def tokLoop (lim : Spec.Limits) (σ : TSt) : List Tok → Option UInt8 → Option TSt
  | [], _ => some σ
  | t :: ts, k =>
    match tokStep lim σ t (nextByte ts k) with
    | none => none
    | some σ' => tokLoop lim σ' ts k

/-- the hostname checks after the loop; `c` is the byte before the first '/' -/
def hostEndOK (σ : TSt) (c : UInt8) : Bool :=
  σ.last != DASH && c != DOT && σ.nonNumeric && decide (σ.partlen ≤ 63) && decide (σ.totallen + σ.partlen ≤ 255)

/-- the checks after the loop -/
def tfinish (σ : TSt) : Option Nat :=
  if σ.inHost then none else if σ.hostEnd.all (hostEndOK σ) then some σ.paramCnt else none

/-- acceptance of a token list by the token machine -/
def tokAccept (lim : Spec.Limits) (toks : List Tok) : Option Nat :=
  (tokLoop lim {} toks none).bind tfinish

/-! ### equations of `tokLoop` and `tokStep` -/

section Tok
open Spec
variable {lim : Limits}

theorem tokLoop_append (σ : TSt) (a b : List Tok) (k : Option UInt8) :
    tokLoop lim σ (a ++ b) k = (tokLoop lim σ a (nextByte b k)).bind (fun σ' => tokLoop lim σ' b k) := by
  induction a generalizing σ with
  | nil => simp [tokLoop]
  | cons t ts ih =>
    simp only [List.cons_append, tokLoop, nextByte_append]
    cases tokStep lim σ t (nextByte ts (nextByte b k)) with
    | none => simp
    | some σ' => simp [ih]

theorem tokStep_wtok (σ : TSt) (ca : Bool) (n : Bytes) (nx : Option UInt8) :
    tokStep lim σ (wtok ca n) nx = wildT lim σ ca n nx := by cases ca <;> rfl

theorem tokStep_host_lit {σ : TSt} (hin : σ.inHost = true) {b : UInt8} (hb : b ≠ SLASH) (nx : Option UInt8) :
    tokStep lim σ (.lit b) nx = hostLitT σ b := by
  show (if σ.inHost = false then _ else _) = _
  rw [if_neg (by rw [hin]; exact Bool.noConfusion), if_neg hb]

theorem tokStep_host_dot {σ : TSt} (hin : σ.inHost = true) (nx : Option UInt8) :
    tokStep lim σ (.lit DOT) nx = if closeOK σ then some (afterDot σ) else none :=
  (tokStep_host_lit hin (by decide) nx).trans (if_pos rfl)

def afterParam (σ : TSt) : TSt :=
  { σ with prev := some RBR, previous := .param, paramCnt := σ.paramCnt + 1, countStatic := 0, nonNumeric := true }

theorem tokStep_host_param {σ : TSt} (hin : σ.inHost = true) (hc : ¬ σ.paramCnt + 1 > lim.maxParams)
    (n : Bytes) (nx : Option UInt8) :
    tokStep lim σ (.param n) nx =
      if nameOk lim true n = false then none
      else if nxBad DOT nx = true then none
      else some (afterParam σ) := by
  show wildT lim σ false n nx = _
  unfold wildT afterParam
  rw [if_neg (fun h => Bool.false_ne_true h.1), if_neg hc, hin, if_pos rfl,
    if_neg fun h : false = true ∧ _ => Bool.false_ne_true h.1]
  rfl

end Tok

end Fox.Model
