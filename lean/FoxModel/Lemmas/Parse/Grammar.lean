import FoxModel.Lemmas.Parse.TokMachine
/-
  FoxModel.Lemmas.Parse.Grammar — token machine = grammar (`tokAccept_eq`): the token machine accepts a token list exactly
  when `Spec.validToks` holds, and returns the number of wildcards. The counts come from what every run preserves
  (`RunEffect`); the path is followed token by token (`path_phase`: a wildcard passes its look-ahead iff it ends its
  segment), the hostname label by label (`label_phase` in the states `TextMode`, `host_phase` over the `Pieces` between
  the dots).
-/

namespace Fox.Model
open Fox

section Tok
open Spec
variable {lim : Limits}

def wilds (ts : List Tok) : Nat := (ts.filter isWild).length

@[simp] theorem wilds_nil : wilds [] = 0 := rfl
@[simp] theorem wilds_lit (b : UInt8) (ts : List Tok) : wilds (.lit b :: ts) = wilds ts := by simp [wilds, isWild]
@[simp] theorem wilds_param (n : Bytes) (ts : List Tok) : wilds (.param n :: ts) = wilds ts + 1 := by
  simp [wilds, List.filter_cons, isWild]
@[simp] theorem wilds_catchAll (n : Bytes) (ts : List Tok) : wilds (.catchAll n :: ts) = wilds ts + 1 := by
  simp [wilds, List.filter_cons, isWild]
theorem wilds_append (a b : List Tok) : wilds (a ++ b) = wilds a + wilds b := by simp [wilds]

theorem some_of_guard {α} {c : Prop} [Decidable c] {x : Option α} {a : α}
    (h : (if c then none else x) = some a) : ¬ c ∧ x = some a := by
  by_cases hc : c
  · rw [if_pos hc] at h; cases h
  · rw [if_neg hc] at h; exact ⟨hc, h⟩

/-- what a run of the token machine over `ts` does to the fields the grammar proof follows: the wildcard count,
    the fields that only the hostname part writes, and the two flags that only the first '/' and a catch-all set -/
structure RunEffect (lim : Limits) (σ : TSt) (ts : List Tok) (σ' : TSt) : Prop where
  count : σ'.paramCnt = σ.paramCnt + wilds ts
  bound : σ.paramCnt ≤ lim.maxParams → σ'.paramCnt ≤ lim.maxParams
  prev : ts ≠ [] ∨ σ.prev ≠ none → σ'.prev ≠ none
  path : σ.inHost = false → σ'.inHost = false ∧ σ'.hostEnd = σ.hostEnd ∧ σ'.last = σ.last ∧
    σ'.partlen = σ.partlen ∧ σ'.totallen = σ.totallen ∧ σ'.nonNumeric = σ.nonNumeric
  host : σ.inHost = true → .lit SLASH ∉ ts →
    σ'.inHost = true ∧ (σ.previous ≠ .catchAll → σ'.previous ≠ .catchAll)

theorem RunEffect.nil (σ : TSt) : RunEffect lim σ [] σ :=
  ⟨rfl, id, fun h => h.resolve_left (· rfl), fun h => ⟨h, rfl, rfl, rfl, rfl, rfl⟩, fun h _ => ⟨h, id⟩⟩

theorem RunEffect.cons {σ σ1 σ' : TSt} {t : Tok} {ts : List Tok} (a : RunEffect lim σ [t] σ1) (b : RunEffect lim σ1 ts σ') :
    RunEffect lim σ (t :: ts) σ' where
  count := by rw [b.count, a.count, Nat.add_assoc, ← wilds_append]; rfl
  bound h := b.bound (a.bound h)
  prev _ := b.prev (.inr (a.prev (.inl (List.cons_ne_nil _ _))))
  path h :=
    have ⟨a0, a1, a2, a3, a4, a5⟩ := a.path h
    have ⟨b0, b1, b2, b3, b4, b5⟩ := b.path a0
    ⟨b0, b1.trans a1, b2.trans a2, b3.trans a3, b4.trans a4, b5.trans a5⟩
  host h hns :=
    have ⟨a0, a1⟩ := a.host h fun e => hns (List.mem_cons.mpr (.inl (List.mem_singleton.mp e)))
    have ⟨b0, b1⟩ := b.host a0 fun e => hns (List.mem_cons_of_mem _ e)
    ⟨b0, fun hp => b1 (a1 hp)⟩

theorem wilds_wtok (ca : Bool) (n : Bytes) (ts : List Tok) : wilds (wtok ca n :: ts) = wilds ts + 1 := by
  cases ca
  · exact wilds_param n ts
  · exact wilds_catchAll n ts

theorem wildT_effect {σ σ' : TSt} {ca : Bool} {n : Bytes} {nx : Option UInt8} (h : wildT lim σ ca n nx = some σ') :
    RunEffect lim σ [wtok ca n] σ' := by
  unfold wildT at h
  obtain ⟨h0, h⟩ := some_of_guard h
  obtain ⟨hc, h⟩ := some_of_guard h
  obtain ⟨_, h⟩ := some_of_guard h
  obtain ⟨_, h⟩ := some_of_guard h
  obtain ⟨_, h⟩ := some_of_guard h
  cases h
  refine ⟨(wilds_wtok ca n []).symm ▸ rfl, fun _ => Nat.le_of_not_gt hc, fun _ => nofun,
    fun hin => ⟨hin, rfl, rfl, rfl, rfl, by simp only [hin, Bool.false_or]⟩, fun hin _ => ⟨hin, fun _ => ?_⟩⟩
  cases ca
  · nofun
  · exact absurd ⟨rfl, hin⟩ h0

theorem tokStep_effect {σ σ' : TSt} {t : Tok} {nx : Option UInt8} (h : tokStep lim σ t nx = some σ') :
    RunEffect lim σ [t] σ' := by
  cases t with
  | param n => exact wildT_effect (ca := false) h
  | catchAll n => exact wildT_effect (ca := true) h
  | lit b =>
    change (if σ.inHost = false then _ else if b = SLASH then _ else _) = _ at h
    by_cases hin : σ.inHost = false
    · rw [if_pos hin] at h
      cases h
      exact ⟨rfl, id, fun _ => nofun, fun hin => ⟨hin, rfl, rfl, rfl, rfl, rfl⟩, fun h => absurd (hin ▸ h) nofun⟩
    rw [if_neg hin] at h
    by_cases hb : b = SLASH
    · rw [if_pos hb] at h
      cases h
      exact ⟨rfl, id, fun _ => nofun, fun hf => absurd hf hin, fun _ hns => absurd (hb ▸ List.mem_singleton.mpr rfl) hns⟩
    · rw [if_neg hb] at h
      -- `afterDot` and `afterLit` leave the count, `inHost` and `previous` alone
      unfold hostLitT at h
      by_cases hd : b = DOT
      · rw [if_pos hd] at h
        cases (Option.ite_none_right_eq_some.mp h).2
        exact ⟨rfl, id, fun _ => nofun, fun hf => absurd hf hin, fun hh _ => ⟨hh, id⟩⟩
      · rw [if_neg hd] at h
        cases (Option.ite_none_right_eq_some.mp h).2
        exact ⟨rfl, id, fun _ => nofun, fun hf => absurd hf hin, fun hh _ => ⟨hh, id⟩⟩

theorem tokLoop_effect {σ σ' : TSt} {ts : List Tok} {k : Option UInt8} (h : tokLoop lim σ ts k = some σ') :
    RunEffect lim σ ts σ' := by
  induction ts generalizing σ with
  | nil => cases h; exact .nil _
  | cons t ts ih =>
    rw [tokLoop] at h
    generalize h1 : tokStep lim σ t _ = o at h
    match o, h with
    | some σ1, h => exact (tokStep_effect h1).cons (ih h)

/-! ### the path part -/

/-- the look-ahead after a wildcard passes exactly when the wildcard ends its piece: a token of the piece `l` (which
    has no `d` and no '/') makes it fail, the byte `k` after the piece does not. `d` is '.' or '/'. -/
theorem nxBad_piece {d : UInt8} (hdd : d = DOT ∨ d = SLASH) {l : List Tok} (hd : .lit d ∉ l) (hs : .lit SLASH ∉ l)
    {k : Option UInt8} (hk : nxBad d k = false) : nxBad d (nextByte l k) = !l.isEmpty := by
  match l with
  | [] => exact hk
  | .lit b :: _ =>
    have h1 : (b != d) = true := bne_iff_ne.mpr fun e => hd (e ▸ List.mem_cons_self ..)
    have h2 : (b != SLASH) = true := bne_iff_ne.mpr fun e => hs (e ▸ List.mem_cons_self ..)
    show (b != d && b != SLASH) = true
    rw [h1, h2]; rfl
  | .param _ :: _ => rcases hdd with rfl | rfl <;> rfl
  | .catchAll _ :: _ => rcases hdd with rfl | rfl <;> rfl

/-- in the path the piece in question is the first segment of what is still to come -/
theorem nxBad_path (ts : List Tok) :
    ∃ l ls, splitAtLit SLASH ts = l :: ls ∧ nxBad SLASH (nextByte ts none) = !l.isEmpty := by
  have hp := pieces_splitAtLit SLASH ts
  generalize splitAtLit SLASH ts = ps at hp
  cases hp with
  | last hd => exact ⟨_, [], rfl, nxBad_piece (.inr rfl) hd hd rfl⟩
  | sep hd _ => exact ⟨_, _, rfl, by rw [nextByte_append]; exact nxBad_piece (.inr rfl) hd hd rfl⟩

theorem segOk_lit_cons (b : UInt8) (l : List Tok) : segOk lim (.lit b :: l) = segOk lim l := by
  simp only [segOk, shape]
  cases shape l with
  | none => rfl
  | some p =>
    obtain ⟨txt, w⟩ := p
    cases w with
    | none => rfl
    | some v => cases v <;> rfl

theorem segOk_nil : segOk lim [] = true := rfl

theorem segOk_wild_cons (ca : Bool) (n : Bytes) (l : List Tok) :
    segOk lim (wtok ca n :: l) = (l.isEmpty && nameOk lim false n) := by
  cases ca <;> cases l <;> simp [segOk, shape, wtok]

theorem segOk_param_cons (n : Bytes) (l : List Tok) :
    segOk lim (.param n :: l) = (l.isEmpty && nameOk lim false n) := segOk_wild_cons false n l

theorem segOk_catchAll_cons (n : Bytes) (l : List Tok) :
    segOk lim (.catchAll n :: l) = (l.isEmpty && nameOk lim false n) := segOk_wild_cons true n l

/-- the validator's "consecutive wildcard" bookkeeping as a function of the tokens still to come:
    `pc` = the last wildcard was a catch-all, `cs` = literal bytes since then -/
def consecT : Bool → Nat → List Tok → Bool
  | _, _, [] => false
  | pc, cs, .lit _ :: ts => consecT pc (cs + 1) ts
  | _, _, .param _ :: ts => consecT false 0 ts
  | pc, cs, .catchAll _ :: ts => (pc && decide (cs ≤ 1)) || consecT true 0 ts

/-- after a catch-all and `cs` literal bytes, the next catch-all comes so early in `ts` that it is "consecutive"
    to the first: at most one literal byte lies between the two -/
def nearCatch : List Tok → Nat → Bool
  | .catchAll _ :: _, cs => decide (cs ≤ 1)
  | .lit _ :: .catchAll _ :: _, 0 => true
  | _, _ => false

theorem consecCatchAll_catch (n : Bytes) (ts : List Tok) :
    consecCatchAll (.catchAll n :: ts) = (nearCatch ts 0 || consecCatchAll ts) := by
  match ts with
  | [] | .catchAll _ :: _ | .param _ :: _ | [.lit _] => rfl
  | .lit _ :: t :: _ => cases t <;> rfl

theorem nearCatch_lit (b : UInt8) (ts : List Tok) (cs : Nat) : nearCatch (.lit b :: ts) cs = nearCatch ts (cs + 1) := by
  cases ts with
  | nil => cases cs <;> rfl
  | cons t ts' => cases t <;> cases cs <;> simp [nearCatch]

theorem consecT_eq (pc : Bool) (cs : Nat) (ts : List Tok) :
    consecT pc cs ts = ((pc && nearCatch ts cs) || consecCatchAll ts) := by
  induction ts generalizing pc cs with
  | nil => simp [consecT, nearCatch, consecCatchAll]
  | cons t ts ih =>
    cases t with
    | lit b =>
      simp only [consecT, ih, nearCatch_lit]
      congr 1
    | param n =>
      simp only [consecT, ih, nearCatch, Bool.false_and, Bool.false_or, Bool.and_false]
      rfl
    | catchAll n =>
      simp only [consecT, ih, nearCatch, Bool.true_and, consecCatchAll_catch]

theorem consecT_wtok (pc : Bool) (cs : Nat) (ca : Bool) (n : Bytes) (ts : List Tok) :
    consecT pc cs (wtok ca n :: ts) = ((ca && pc && decide (cs ≤ 1)) || consecT ca 0 ts) := by
  cases ca <;> simp [consecT, wtok]

/-- the path part: with the count known to fit (`hcnt`) the count check never fires, and a wildcard passes its
    look-ahead iff it ends its segment (`nxBad_path`) -/
theorem path_phase (p : List Tok) (σ : TSt) (hin : σ.inHost = false)
    (hcnt : σ.paramCnt + wilds p ≤ lim.maxParams) :
    (tokLoop lim σ p none).isSome =
      ((splitAtLit SLASH p).all (segOk lim) && !consecT (decide (σ.previous = .catchAll)) σ.countStatic p) := by
  induction p generalizing σ with
  | nil => simp [tokLoop, splitAtLit, segOk_nil, consecT]
  | cons t ts ih =>
    -- a wildcard of either kind
    have wild : ∀ ca n, t = wtok ca n → (tokLoop lim σ (t :: ts) none).isSome =
        ((splitAtLit SLASH (t :: ts)).all (segOk lim) &&
          !consecT (decide (σ.previous = .catchAll)) σ.countStatic (t :: ts)) := by
      rintro ca n rfl
      have hc : ¬ σ.paramCnt + 1 > lim.maxParams := by rw [wilds_wtok] at hcnt; omega
      obtain ⟨l, ls, h1, hnx⟩ := nxBad_path ts
      have h2 : splitAtLit SLASH (wtok ca n :: ts) = (wtok ca n :: l) :: ls := by
        cases ca <;> simp [splitAtLit, wtok, h1]
      rw [h2, List.all_cons, segOk_wild_cons, consecT_wtok, tokLoop, tokStep_wtok, wildT,
        if_neg (fun h => by rw [hin] at h; exact Bool.false_ne_true h.2), if_neg hc, hin,
        if_neg Bool.false_ne_true]
      by_cases hn : nameOk lim false n = false
      · rw [if_pos hn, hn, Bool.and_false, Bool.false_and]; rfl
      rw [if_neg hn, Bool.of_not_eq_false hn, Bool.and_true, hnx]
      cases l with
      | cons x xs => rw [if_pos (show (!(x :: xs).isEmpty) = true from rfl)]; rfl
      | nil =>
        rw [if_neg (show ¬ (!([] : List Tok).isEmpty) = true from Bool.false_ne_true)]
        rw [show (ca && decide (σ.previous = .catchAll) && decide (σ.countStatic ≤ 1)) =
          decide (ca = true ∧ σ.previous = .catchAll ∧ σ.countStatic ≤ 1) by cases ca <;> simp]
        by_cases hcons : ca = true ∧ σ.previous = .catchAll ∧ σ.countStatic ≤ 1
        · rw [if_pos hcons, decide_eq_true hcons, Bool.true_or, Bool.not_true, Bool.and_false]; rfl
        · rw [if_neg hcons, decide_eq_false hcons, Bool.false_or,
            ih _ rfl (by rw [wilds_wtok] at hcnt; show σ.paramCnt + 1 + wilds ts ≤ _; omega), h1]
          cases ca <;> simp [segOk_nil, wstate]
    cases t with
    | param n => exact wild false n rfl
    | catchAll n => exact wild true n rfl
    | lit b =>
      simp only [tokLoop, tokStep, hin, if_true, consecT]
      rw [ih _ rfl (by simpa using hcnt)]
      by_cases hb : b = SLASH
      · subst hb; rw [splitAtLit_sep]; simp [segOk_nil]
      · obtain ⟨l, ls, h1, h2⟩ := splitAtLit_cons (d := SLASH) (t := .lit b) ts (by simpa using hb)
        rw [h1, h2]; simp [segOk_lit_cons]

/-! ### the hostname part -/

theorem shape_lits_append (cur : Bytes) (l : List Tok) :
    shape (cur.map .lit ++ l) = (shape l).map (fun p => (cur ++ p.1, p.2)) := by
  induction cur with
  | nil =>
    simp only [List.map_nil, List.nil_append]
    cases shape l <;> simp
  | cons b cur ih =>
    simp only [List.map_cons, List.cons_append, shape, ih]
    cases h : shape l <;> simp

def nonNumTok : Tok → Bool
  | .lit b => !(isNum b || b == DOT)
  | _ => true

/-- the token machine is in the literal text of a hostname label, of which `cur` has been consumed -/
structure TextMode (σ : TSt) (cur : Bytes) : Prop where
  inHost : σ.inHost = true
  partlen : σ.partlen = cur.length
  last : σ.last = cur.getLast?.getD DOT
  prevNil : cur = [] → σ.prev = none ∨ σ.prev = some DOT
  prevCons : cur ≠ [] → σ.prev = cur.getLast?
  ldh : cur.all isLDH = true
  head : cur.head? ≠ some DASH

theorem isLetter_eq (b : UInt8) : isLetter b = isAlpha b := rfl
theorem isDigit_eq (b : UInt8) : isDigit b = isNum b := rfl

theorem labelOk_text (cur : Bytes) :
    labelOk lim (cur.map .lit) =
      (cur.all isLDH && cur.head? != some DASH && cur.getLast? != some DASH && decide (cur.length ≤ 63) &&
        !cur.isEmpty) := by
  have := shape_lits_append cur []
  simp only [List.append_nil, shape, Option.map_some] at this
  simp only [labelOk, this]

theorem labelOk_param (cur n : Bytes) (l : List Tok) :
    labelOk lim (cur.map .lit ++ .param n :: l) =
      (l.isEmpty && (cur.all isLDH && cur.head? != some DASH && cur.getLast? != some DASH && decide (cur.length ≤ 63) &&
        nameOk lim true n)) := by
  simp only [labelOk, shape_lits_append]
  cases l <;> simp [shape]

theorem labelOk_catchAll (cur n : Bytes) (l : List Tok) : labelOk lim (cur.map .lit ++ .catchAll n :: l) = false := by
  simp only [labelOk, shape_lits_append]
  cases l <;> simp [shape]

theorem TextMode.last_ldh {σ : TSt} {cur : Bytes} (R : TextMode σ cur) {x : UInt8} (h : cur.getLast? = some x) :
    isLDH x = true :=
  List.all_eq_true.mp R.ldh x (List.mem_of_getLast? h)

theorem TextMode.last_dot {σ : TSt} {cur : Bytes} (R : TextMode σ cur) : σ.last = DOT ↔ cur = [] := by
  constructor
  · intro h
    cases hc : cur.getLast? with
    | none => exact List.getLast?_eq_none_iff.mp hc
    | some x =>
      have hl := R.last; rw [hc] at hl; simp at hl
      have := R.last_ldh hc
      rw [← hl, h] at this
      exact absurd this (by decide)
  · intro h; have := R.last; rw [h] at this; simpa using this

theorem TextMode.prev_ne_rbr {σ : TSt} {cur : Bytes} (R : TextMode σ cur) : σ.prev ≠ some RBR := by
  by_cases hc : cur = []
  · rcases R.prevNil hc with h | h <;> rw [h] <;> simp
    decide
  · rw [R.prevCons hc]
    exact fun h => absurd (R.last_ldh h) (by decide)

theorem TextMode.text_ok {σ : TSt} {cur : Bytes} (R : TextMode σ cur) :
    (cur.all isLDH && cur.head? != some DASH && cur.getLast? != some DASH && decide (cur.length ≤ 63)) =
      (σ.last != DASH && decide (σ.partlen ≤ 63)) := by
  have hh : (cur.head? != some DASH) = true := by simpa using R.head
  have hl : (cur.getLast? != some DASH) = (σ.last != DASH) := by
    rw [R.last]
    cases cur.getLast? with
    | none => decide
    | some x => simp only [bne, Option.some_beq_some, Option.getD_some]
  rw [R.ldh, hh, hl, R.partlen]; rfl

theorem TextMode.prev_dot {σ : TSt} {cur : Bytes} (R : TextMode σ cur) (hp : σ.prev ≠ none) :
    (σ.prev != some DOT) = !cur.isEmpty := by
  by_cases hc : cur = []
  · rw [(R.prevNil hc).resolve_left hp, hc]; rfl
  · rw [R.prevCons hc]
    cases hg : cur.getLast? with
    | none => exact absurd (List.getLast?_eq_none_iff.mp hg) hc
    | some x =>
      have hx : x ≠ DOT := fun e => absurd (e ▸ R.last_ldh hg) (by decide)
      cases cur with
      | nil => exact absurd rfl hc
      | cons _ _ => simp [hx]

theorem litBytes_lit (b : UInt8) (ts : List Tok) : litBytes (.lit b :: ts) = b :: litBytes ts := by simp [litBytes]
theorem litBytes_param (n : Bytes) (ts : List Tok) : litBytes (.param n :: ts) = litBytes ts := by simp [litBytes]
theorem litBytes_nil : litBytes [] = [] := rfl
theorem litBytes_append (a b : List Tok) : litBytes (a ++ b) = litBytes a ++ litBytes b := List.filterMap_append

theorem TextMode.dot_iff {σ : TSt} {cur : Bytes} (R : TextMode σ cur) :
    (σ.last = DOT ∧ σ.prev ≠ some RBR) ↔ cur = [] :=
  ⟨fun h => R.last_dot.mp h.1, fun h => ⟨R.last_dot.mpr h, R.prev_ne_rbr⟩⟩

theorem labelOk_bad_lit (cur : Bytes) (b : UInt8) (l : List Tok) (h : ¬ (isLDH b = true ∧ (cur = [] → b ≠ DASH))) :
    labelOk lim (cur.map .lit ++ .lit b :: l) = false := by
  simp only [labelOk, shape_lits_append, shape]
  cases shape l with
  | none => rfl
  | some p =>
    simp only [Option.map_some]
    by_cases h1 : isLDH b = true
    · have ⟨hc, hb⟩ := Classical.not_imp.mp fun h' => h ⟨h1, h'⟩
      rw [hc, Classical.not_not.mp hb]; simp
    · simp [h1]

theorem TextMode.dot {σ : TSt} (h : σ.inHost = true) : TextMode (afterDot σ) [] :=
  ⟨h, rfl, rfl, fun _ => Or.inr rfl, fun h => absurd rfl h, rfl, by simp⟩

theorem TextMode.snoc {σ σ' : TSt} {cur : Bytes} {b : UInt8} (R : TextMode σ cur) (hb : isLDH b = true)
    (hd : cur = [] → b ≠ DASH) (h1 : σ'.inHost = true) (h2 : σ'.partlen = σ.partlen + 1) (h3 : σ'.last = b)
    (h4 : σ'.prev = some b) : TextMode σ' (cur ++ [b]) := by
  refine ⟨h1, by simp [h2, R.partlen], by simp [h3], fun h => by simp at h, fun _ => by simp [h4], ?_, ?_⟩
  · simp [R.ldh, hb]
  · cases cur with
    | nil => simp; exact hd rfl
    | cons x xs => have := R.head; simpa using this

/-- how a run over a label ends: the state passes the test of a closing '.' exactly when the label is well formed,
    and has counted the label's text. At the end of the hostname the emptiness part of that test is made on the
    byte before the '/' instead (`prevDot`: in these states the two agree). -/
structure LabelEnd (lim : Limits) (σ : TSt) (cur : Bytes) (l : List Tok) (σ' : TSt) : Prop where
  close : closeOK σ' = labelOk lim (cur.map .lit ++ l)
  prevDot : σ'.prev ≠ none → (!decide (σ'.last = DOT ∧ σ'.prev ≠ some RBR)) = (σ'.prev != some DOT)
  partlen : σ'.partlen = cur.length + (litBytes l).length
  totallen : σ'.totallen = σ.totallen
  nonNum : σ'.nonNumeric = (σ.nonNumeric || l.any nonNumTok)

/-- one label, of which the text `cur` has been read, followed by the byte `nx`. A parameter must be its last
    token: its look-ahead wants `nx`. -/
theorem label_phase {nx : UInt8} (hnx : nx = DOT ∨ nx = SLASH) (l : List Tok) : ∀ {σ : TSt} {cur : Bytes},
    TextMode σ cur → .lit DOT ∉ l → .lit SLASH ∉ l → σ.paramCnt + wilds l ≤ lim.maxParams →
    match tokLoop lim σ l (some nx) with
    | none => labelOk lim (cur.map .lit ++ l) = false
    | some σ' => LabelEnd lim σ cur l σ' := by
  induction l with
  | nil =>
    intro σ cur R _ _ _
    have hd : decide (σ.last = DOT ∧ σ.prev ≠ some RBR) = cur.isEmpty := by
      rw [Bool.eq_iff_iff, decide_eq_true_iff, List.isEmpty_iff]; exact R.dot_iff
    exact ⟨by rw [List.append_nil, labelOk_text, R.text_ok, closeOK, hd], fun hp => by rw [hd, R.prev_dot hp],
      R.partlen, rfl, (Bool.or_false _).symm⟩
  | cons t ts ih =>
    intro σ cur R hd hs hcnt
    have hd' : .lit DOT ∉ ts := fun e => hd (List.mem_cons_of_mem _ e)
    have hs' : .lit SLASH ∉ ts := fun e => hs (List.mem_cons_of_mem _ e)
    rw [tokLoop]
    cases t with
    | lit b =>
      have hb1 : b ≠ SLASH := fun e => hs (e ▸ List.mem_cons_self ..)
      have hb2 : b ≠ DOT := fun e => hd (e ▸ List.mem_cons_self ..)
      rw [wilds_lit] at hcnt
      rw [tokStep_host_lit R.inHost hb1, hostLitT, if_neg hb2]
      by_cases hok : isLDH b = true ∧ (σ.last = DOT → b ≠ DASH)
      · rw [if_pos hok]
        dsimp only
        have e : (cur ++ [b]).map Tok.lit ++ ts = cur.map .lit ++ .lit b :: ts := by simp
        have := ih (TextMode.snoc R hok.1 (hok.2 ∘ R.last_dot.mpr) R.inHost rfl rfl rfl :
          TextMode (afterLit σ b) (cur ++ [b])) hd' hs' hcnt
        generalize tokLoop lim (afterLit σ b) ts (some nx) = o at this
        match o, this with
        | none, h => exact e ▸ h
        | some σ', h =>
          refine ⟨e ▸ h.close, h.prevDot, ?_, h.totallen, ?_⟩
          · rw [h.partlen, litBytes_lit]; simp only [List.length_append, List.length_cons, List.length_nil]; omega
          · rw [h.nonNum]; simp [afterLit, nonNumTok, beq_eq_false_iff_ne.mpr hb2, Bool.or_assoc]
      · rw [if_neg hok]; exact labelOk_bad_lit cur b ts fun h => hok ⟨h.1, h.2 ∘ R.last_dot.mp⟩
    | param n =>
      rw [wilds_param] at hcnt
      rw [tokStep_host_param R.inHost (by omega)]
      by_cases hn : nameOk lim true n = false
      · rw [if_pos hn]; show labelOk _ _ = false
        rw [labelOk_param, hn, Bool.and_false, Bool.and_false]
      rw [if_neg hn]
      -- the look-ahead passes iff nothing stands between the parameter and the next '.' or '/'
      rw [nxBad_piece (.inl rfl) hd' hs' (k := some nx) (by rcases hnx with rfl | rfl <;> rfl)]
      cases ts with
      | cons t r =>
        rw [if_pos (show (!(t :: r).isEmpty) = true from rfl)]; show labelOk _ _ = false
        rw [labelOk_param]; rfl
      | nil =>
        rw [if_neg (show ¬ (!([] : List Tok).isEmpty) = true from Bool.false_ne_true)]
        have hp : decide ((afterParam σ).last = DOT ∧ (afterParam σ).prev ≠ some RBR) = false :=
          decide_eq_false fun h => h.2 rfl
        refine ⟨?_, fun _ => by rw [hp]; rfl, R.partlen, rfl, by simp [afterParam, nonNumTok]⟩
        rw [labelOk_param, R.text_ok, Bool.of_not_eq_false hn, closeOK, hp]
        rfl
    | catchAll n =>
      rw [show tokStep lim σ (.catchAll n) _ = none from if_pos ⟨rfl, R.inHost⟩]
      exact labelOk_catchAll cur n ts

/-- the checks made at the end of the hostname part (`tfinish` with `hostEnd = prev`): none when nothing stands in
    front of the first '/' -/
def hostFinalOK (σ : TSt) : Bool := σ.prev.all (hostEndOK σ)

/-- the verdict on a hostname `h` read from `σ`: the run, then the checks at the end -/
def hostAccept (lim : Limits) (σ : TSt) (h : List Tok) : Bool :=
  match tokLoop lim σ h (some SLASH) with
  | none => false
  | some σ1 => hostFinalOK σ1

/-- the hostname part, label by label: a '.' tests (`closeOK`) and counts the label before it, `hostFinalOK` the last -/
theorem host_phase {h : List Tok} {ls : List (List Tok)} (hp : Pieces DOT h ls) : ∀ {σ : TSt}, TextMode σ [] →
    .lit SLASH ∉ h → (h ≠ [] ∨ σ.prev ≠ none) → σ.paramCnt + wilds h ≤ lim.maxParams →
    hostAccept lim σ h = (ls.all (labelOk lim) && decide (σ.totallen + (litBytes h).length ≤ 255) &&
      (σ.nonNumeric || h.any nonNumTok)) := by
  induction hp with
  | @last l hd =>
    intro σ R hs hne hcnt
    have L := label_phase (.inr rfl) l R hd hs hcnt
    unfold hostAccept
    generalize ho : tokLoop lim σ l (some SLASH) = o at L
    match o, L with
    | none, L => simp only [List.all_cons, show labelOk lim l = false from L, Bool.false_and]
    | some σ', L =>
      have hpv := (tokLoop_effect ho).prev hne
      obtain ⟨c, hc⟩ := Option.ne_none_iff_exists'.mp hpv
      simp only [hostFinalOK, hostEndOK, hc, Option.all_some, List.all_cons, List.all_nil, Bool.and_true]
      rw [← show closeOK σ' = labelOk lim l from L.close, closeOK, L.prevDot hpv, hc, L.totallen,
        L.nonNum, L.partlen, List.length_nil, Nat.zero_add]
      rw [show (some c != some DOT) = (c != DOT) from rfl]
      ac_rfl
  | @sep l ts ls hd hp ih =>
    intro σ R hs hne hcnt
    have hs1 : .lit SLASH ∉ l := fun e => hs (List.mem_append_left _ e)
    have hs2 : .lit SLASH ∉ ts := fun e => hs (List.mem_append_right _ (List.mem_cons_of_mem _ e))
    rw [wilds_append, wilds_lit] at hcnt
    have L := label_phase (.inl rfl) l R hd hs1 (Nat.le_trans (by omega) hcnt)
    unfold hostAccept
    rw [tokLoop_append, show nextByte (.lit DOT :: ts) (some SLASH) = some DOT from rfl]
    generalize ho : tokLoop lim σ l (some DOT) = o at L
    match o, L with
    | none, L => simp only [Option.bind_none, List.all_cons, show labelOk lim l = false from L, Bool.false_and]
    | some σ', L =>
      have T := tokLoop_effect ho
      have hin := (T.host R.inHost hs1).1
      rw [Option.bind_some, tokLoop, tokStep_host_dot hin,
        show closeOK σ' = labelOk lim l from L.close, List.all_cons]
      by_cases hl : labelOk lim l = true
      · have := ih (TextMode.dot hin) hs2 (.inr (by simp [afterDot]))
          (by show σ'.paramCnt + wilds ts ≤ _; rw [T.count]; omega)
        unfold hostAccept at this
        rw [hl, if_pos rfl, Bool.true_and]
        dsimp only
        rw [this]
        simp only [afterDot, L.totallen, L.partlen, L.nonNum, litBytes_append, litBytes_lit, List.length_append,
          List.length_cons, List.length_nil, List.any_append, List.any_cons, Nat.zero_add,
          show nonNumTok (.lit DOT) = false from rfl, Bool.false_or, Bool.or_assoc]
        rw [show σ.totallen + ((litBytes l).length + 1) + (litBytes ts).length =
          σ.totallen + ((litBytes l).length + ((litBytes ts).length + 1)) by omega]
      · rw [Bool.eq_false_iff.mpr hl, if_neg Bool.false_ne_true, Bool.false_and, Bool.false_and]
        rfl

/-! ### putting the two parts together -/

theorem tokAccept_split (host path' : List Tok) (hns : .lit SLASH ∉ host) :
    tokAccept lim (host ++ .lit SLASH :: path') =
      (tokLoop lim {} host (some SLASH)).bind fun σ1 => (tokLoop lim (flipSt σ1) path' none).bind tfinish := by
  simp only [tokAccept, tokLoop_append, nextByte]
  cases h1 : tokLoop lim {} host (some SLASH) with
  | none => rfl
  | some σ1 =>
    have hin := ((tokLoop_effect h1).host rfl hns).1
    simp only [Option.bind_some, tokLoop, tokStep, hin, if_true, Bool.true_eq_false, if_false]

theorem TextMode.start : TextMode ({} : TSt) [] :=
  ⟨rfl, rfl, rfl, fun _ => Or.inl rfl, fun h => absurd rfl h, rfl, by simp⟩

theorem tokAccept_count {toks : List Tok} {n : Nat} (h : tokAccept lim toks = some n) :
    n = wilds toks ∧ wilds toks ≤ lim.maxParams := by
  obtain ⟨σ, hl, h⟩ := Option.bind_eq_some_iff.mp h
  have T := tokLoop_effect hl
  have hc : σ.paramCnt = wilds toks := T.count.trans (Nat.zero_add _)
  have hn : σ.paramCnt = n := Option.some.inj (Option.ite_none_right_eq_some.mp (some_of_guard h).2).2
  exact ⟨hn.symm.trans hc, hc ▸ T.bound (Nat.zero_le _)⟩

/-- the run over the path part leaves the hostname fields alone: the checks after it are those at the first '/' -/
theorem tfinish_path {σ1 σ3 : TSt} {p : List Tok} (h : tokLoop lim (flipSt σ1) p none = some σ3) :
    (tfinish σ3).isSome = hostFinalOK σ1 := by
  obtain ⟨a, b, c, d, e, f⟩ := (tokLoop_effect h).path rfl
  have : hostEndOK σ3 = hostEndOK σ1 := funext fun x => by simp only [hostEndOK, c, d, e, f, flipSt]
  unfold tfinish
  rw [if_neg (by rw [a]; nofun), b, this]
  exact (Bool.eq_iff_iff.mpr Option.isSome_ite).trans rfl

theorem host_verdict {host : List Tok} (hns : .lit SLASH ∉ host) (hcnt : wilds host ≤ lim.maxParams) :
    hostAccept lim {} host = (host.isEmpty || hostOk lim host) := by
  cases host with
  | nil => rfl
  | cons t ts =>
    rw [host_phase (pieces_splitAtLit DOT _) TextMode.start hns (.inl (List.cons_ne_nil _ _))
      (Nat.le_trans (Nat.le_of_eq (Nat.zero_add _)) hcnt)]
    simp only [hostOk, Nat.zero_add, Bool.false_or]
    rfl

theorem tokAccept_eq (toks : List Tok) :
    tokAccept lim toks = if validToks lim toks then some (wilds toks) else none := by
  -- an accepting run returns `wilds toks` (`tokAccept_count`): it is enough to compare the verdicts
  suffices key : (tokAccept lim toks).isSome = validToks lim toks by
    cases h : tokAccept lim toks with
    | none => rw [h] at key; rw [← key]; rfl
    | some n => rw [h] at key; rw [← key, (tokAccept_count h).1]; rfl
  by_cases hcount : wilds toks ≤ lim.maxParams
  case neg =>
    have : decide ((toks.filter isWild).length ≤ lim.maxParams) = false := decide_eq_false hcount
    simp only [validToks, this, Bool.and_false]
    cases h : tokAccept lim toks with
    | none => rfl
    | some n => exact absurd (tokAccept_count h).2 hcount
  have hsplit : toks = toks.takeWhile (!isSlash ·) ++ toks.dropWhile (!isSlash ·) :=
    (List.takeWhile_append_dropWhile).symm
  have hns := takeWhile_no_slash toks
  generalize hh : toks.takeWhile (!isSlash ·) = host at hsplit hns
  rcases dropWhile_head toks with hp | ⟨path', hp⟩
  · -- no '/' at all: the run ends in the hostname
    have hv : validToks lim toks = false := by simp [validToks, hp]
    rw [hv]
    rw [hp, List.append_nil] at hsplit
    subst hsplit
    unfold tokAccept
    cases h : tokLoop lim {} toks none with
    | none => rfl
    | some σ' => simp only [Option.bind_some, tfinish, ((tokLoop_effect h).host rfl hns).1, if_true]; rfl
  · have hv : validToks lim toks = ((host.isEmpty || hostOk lim host) &&
        ((splitAtLit SLASH path').all (segOk lim) && !consecCatchAll path')) := by
      have hcc : consecCatchAll (.lit SLASH :: path') = consecCatchAll path' := rfl
      have : decide ((toks.filter isWild).length ≤ lim.maxParams) = true := decide_eq_true hcount
      simp only [validToks, hp, hh, this, splitAtLit_sep, List.all_cons, segOk_nil, hcc, List.isEmpty_cons,
        Bool.not_false, Bool.true_and, Bool.and_true, Bool.and_assoc]
    have hw : wilds toks = wilds host + wilds path' := by
      rw [hsplit, hp, wilds_append, wilds_lit]
    rw [hv, hsplit, hp, tokAccept_split host path' hns, ← host_verdict hns (by omega), hostAccept]
    cases h1 : tokLoop lim {} host (some SLASH) with
    | none => rfl
    | some σ1 =>
      have T1 := tokLoop_effect h1
      have c1 : σ1.paramCnt = wilds host := T1.count.trans (Nat.zero_add _)
      have hpp : (tokLoop lim (flipSt σ1) path' none).isSome =
          ((splitAtLit SLASH path').all (segOk lim) && !consecCatchAll path') := by
        rw [path_phase path' (flipSt σ1) rfl (by show σ1.paramCnt + wilds path' ≤ _; omega), consecT_eq,
          show decide ((flipSt σ1).previous = .catchAll) = false from decide_eq_false ((T1.host rfl hns).2 nofun),
          Bool.false_and, Bool.false_or]
      rw [Option.bind_some, ← hpp]
      cases h3 : tokLoop lim (flipSt σ1) path' none with
      | none => exact (Bool.and_false _).symm
      | some σ3 => exact (tfinish_path h3).trans (Bool.and_true _).symm

end Tok

end Fox.Model
