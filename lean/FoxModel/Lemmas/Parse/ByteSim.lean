import FoxModel.Lemmas.Parse.ByteStep
/-
  FoxModel.Lemmas.Parse.ByteSim — byte machine = token machine ∘ `tokenize` (`outcome_eq_tok`): from a token boundary the byte
  machine accepts exactly when the rest of the string tokenizes and the token machine accepts the tokens, and otherwise
  rejects for a reason. By induction along `tokenize`: a token is one step of `Lemmas/Parse/ByteStep`; where `tokenize` fails
  the byte machine fails too (`fail_unclosed`, `fail_star`); at the end of the string the checks after the loop are
  `tfinish` (`outcome_nil`). `runFrom_agree` is the statement from the initial state.
-/

namespace Fox.Model
open Fox

/-- the loop from `st`, then the checks after it -/
def outcome (mp mk eh : Nat) (s : Bytes) (st : PSt) : Except Fail (Nat × Nat) :=
  match loop mp mk eh s st with
  | .error e => .error e
  | .ok st' => finish eh s st'

/-- the outcome `r` of the byte machine agrees with a verdict of the token machine: a rejection for a reason
    (hence not a panic), or the same count -/
def Agree (eh : Nat) (r : Except Fail (Nat × Nat)) : Option Nat → Prop
  | none => ∃ e, r = .error (.invalid e)
  | some n => r = .ok (n, eh)

section Sim
variable {mp mk eh : Nat} {s : Bytes}

theorem outcome_err {st : PSt} {e} (h : loop mp mk eh s st = .error e) : outcome mp mk eh s st = .error e := by
  unfold outcome; rw [h]

theorem outcome_congr {st st' : PSt} (h : loop mp mk eh s st = loop mp mk eh s st') :
    outcome mp mk eh s st = outcome mp mk eh s st' := by
  unfold outcome; rw [h]

theorem outcome_done {st : PSt} (h : ¬ st.i < s.length) : outcome mp mk eh s st = finish eh s st := by
  unfold outcome; rw [loop_done h]

/-- the hostname checks after the loop, as the token machine makes them; `url[endHost-1]` is in range -/
theorem hostFinish_eq (he : eh < s.length) (st : PSt) (ih : Bool) (pv hE : Option UInt8) :
    ∃ e, hostFinish eh s st =
      if (if eh = 0 then none else s[eh - 1]?).all (hostEndOK (absT st ih pv hE)) = true then .ok ()
      else .error (.invalid e) := by
  unfold hostFinish
  by_cases h0 : eh = 0
  · -- the checks pass: no reason is returned, any `e` does
    rw [if_neg (by omega), if_pos h0]; exact ⟨default, rfl⟩
  rw [if_pos (Nat.pos_of_ne_zero h0), if_neg h0, List.getElem?_eq_getElem (show eh - 1 < s.length by omega)]
  generalize s[eh - 1] = c
  show ∃ e, (if st.last = DASH then _ else if c = DOT then _ else _) =
    if (st.last != DASH && c != DOT && st.nonNumeric && decide (st.partlen ≤ 63) &&
      decide (st.totallen + st.partlen ≤ 255)) = true then _ else _
  by_cases h1 : st.last = DASH
  · rw [if_pos h1, h1]; exact ⟨_, rfl⟩
  rw [if_neg h1, bne_iff_ne.mpr h1]
  by_cases h2 : c = DOT
  · rw [if_pos h2, h2]; exact ⟨_, rfl⟩
  rw [if_neg h2, bne_iff_ne.mpr h2]
  by_cases h3 : st.nonNumeric = true
  case neg => rw [Bool.eq_false_iff.mpr h3]; exact ⟨_, rfl⟩
  rw [h3, Bool.not_true]
  by_cases h4 : st.partlen > 63
  · rw [if_neg Bool.false_ne_true, if_pos h4, decide_eq_false (Nat.not_le_of_gt h4)]; exact ⟨_, rfl⟩
  rw [if_neg Bool.false_ne_true, if_neg h4, decide_eq_true (Nat.le_of_not_gt h4)]
  by_cases h5 : st.totallen + st.partlen > 255
  · rw [if_pos h5, decide_eq_false (Nat.not_le_of_gt h5)]; exact ⟨_, rfl⟩
  · rw [if_neg h5, decide_eq_true (Nat.le_of_not_gt h5)]; exact ⟨default, rfl⟩

/-- the string ends inside a wildcard -/
theorem outcome_unclosed {st : PSt} (hf : indexByte SLASH s = some eh) (h : ¬ st.i < s.length)
    (hst : st.state ≠ .default) : ∃ e, outcome mp mk eh s st = .error (.invalid e) := by
  have he := indexByte_lt hf
  obtain ⟨e, hfin⟩ := hostFinish_eq he st true none none
  rw [outcome_done h]
  unfold finish; rw [hfin]
  by_cases hok : (if eh = 0 then none else s[eh - 1]?).all (hostEndOK (absT st true none none)) = true
  · rw [if_pos hok]
    generalize st.state = q at hst
    match q with
    | .default => exact absurd rfl hst
    | .param => exact ⟨_, rfl⟩
    | .catchAll =>
      dsimp only
      rw [if_neg (by omega), List.getElem?_eq_getElem (show s.length - 1 < s.length by omega)]
      exact ite_prop (Q := fun r => ∃ e, r = Except.error (Fail.invalid e)) ⟨_, rfl⟩ ⟨_, rfl⟩
  · rw [if_neg hok]; exact ⟨e, rfl⟩

theorem fail_unclosed (ca : Bool) {st : PSt} {pre rest : Bytes} (hb : Bd mp eh s st pre (wopen ca ++ rest))
    (hr : RBR ∉ rest) : ∃ e, outcome mp mk eh s st = .error (.invalid e) := by
  have hopen := open_wild (mp := mp) (mk := mk) ca hb
  by_cases g : (ca = true ∧ st.i < eh) ∨ st.paramCnt + 1 > mp
  · rw [if_pos g] at hopen; obtain ⟨e, he⟩ := hopen; exact ⟨e, outcome_err he⟩
  rw [if_neg g] at hopen
  rw [outcome_congr hopen]
  have hscan := @scan_name mp mk eh s (opened ca st) (pre ++ wopen ca) rest [] (if ca then SLASH else st.delim)
    (by cases ca
        · exact .inl ⟨rfl, rfl⟩
        · exact .inr ⟨rfl, rfl⟩)
    (by rw [hb.split]; simp) (by simp [opened, hb.hi]) hr (Nat.add_le_add_left (Nat.sub_le ..) _)
  by_cases hsc : scanOk (legalP (if ca then SLASH else st.delim)) mk ((opened ca st).i - (opened ca st).startParam) rest = true
  · rw [if_pos hsc] at hscan
    rw [outcome_congr hscan]
    exact outcome_unclosed hb.first (by rw [hb.split]; simp [scanned, opened, hb.hi]; omega) (by cases ca <;> nofun)
  · rw [if_neg hsc] at hscan
    obtain ⟨e, he⟩ := hscan; exact ⟨e, outcome_err he⟩

theorem fail_star {st : PSt} {pre rest : Bytes} (hb : Bd mp eh s st pre (STAR :: rest)) (hrest : rest.head? ≠ some LBR) :
    ∃ e, outcome mp mk eh s st = .error (.invalid e) := by
  have hstep := step_default (mp := mp) (mk := mk) (eh := eh) hb.get hb.hstate
  rw [setDelim_ne (hb.ne (by decide))] at hstep
  by_cases hlt : st.i < eh
  · exact ⟨_, outcome_err (loop_err hb.lt (hstep.trans (defaultStep_star_host hlt)))⟩
  have hnx : nextIs s st.i (fun d => d != LBR) = .ok (match rest.head? with | some d => d != LBR | none => false) := by
    rw [hb.split, hb.hi]; exact nextIs_split ..
  rw [defaultStep_star hlt, hnx] at hstep
  cases rest with
  | cons c cs =>
    have : (c != LBR) = true := bne_iff_ne.mpr fun e => hrest (e ▸ rfl)
    simp only [List.head?_cons, this] at hstep
    exact ⟨_, outcome_err (loop_err hb.lt hstep)⟩
  | nil =>
    simp only [List.head?_nil] at hstep
    by_cases hcnt : st.paramCnt + 1 > mp
    · exact ⟨_, outcome_err (loop_err hb.lt (hstep.trans (if_pos hcnt)))⟩
    · rw [outcome_congr (loop_step hb.lt (hstep.trans (if_neg hcnt)))]
      exact outcome_unclosed hb.first (by rw [hb.split]; simp [hb.hi]) (by simp)

theorem outcome_nil {st : PSt} {pre : Bytes} (hb : Bd mp eh s st pre []) :
    Agree eh (outcome mp mk eh s st) (tfinish (σof eh s st pre)) := by
  have hpre : pre = s := by rw [hb.split, List.append_nil]
  have hin : SLASH ∈ pre := by
    obtain ⟨p0, q0, hs0, _, _⟩ := indexByte_spec hb.first
    rw [hpre, hs0]; simp
  obtain ⟨e, hfin⟩ := hostFinish_eq (indexByte_lt hb.first) st false pre.getLast?
    (if eh = 0 then none else s[eh - 1]?)
  rw [outcome_done (by rw [hb.hi, hpre]; exact Nat.lt_irrefl _)]
  unfold finish tfinish; rw [hfin, hb.hstate]
  simp only [σof, hin, not_true_eq_false, decide_false, if_true]
  generalize (if eh = 0 then none else s[eh - 1]?) = oe
  show Agree eh _ (if false = true then none
    else if oe.all (hostEndOK (absT st false pre.getLast? oe)) = true then some st.paramCnt else none)
  rw [if_neg Bool.false_ne_true]
  by_cases hok : oe.all (hostEndOK (absT st false pre.getLast? oe)) = true
  · rw [if_pos hok, if_pos hok]; rfl
  · rw [if_neg hok, if_neg hok]; exact ⟨e, rfl⟩

/-- the verdict of the token machine on the reading of `r`, from state `σ` -/
def accT (lim : Spec.Limits) (σ : TSt) (r : Bytes) : Option Nat :=
  (tokenize r).bind fun toks => (tokLoop lim σ toks none).bind tfinish

theorem accT_cons (lim : Spec.Limits) (σ : TSt) (t : Tok) (r : Bytes) :
    (((tokenize r).map (t :: ·)).bind fun toks => (tokLoop lim σ toks none).bind tfinish) =
      (tokStep lim σ t r.head?).bind fun σ' => accT lim σ' r := by
  unfold accT
  cases htr : tokenize r with
  | none => cases tokStep lim σ t r.head? <;> rfl
  | some ts =>
    simp only [Option.map_some, Option.bind_some, tokLoop, nextByte_tokenize htr]
    cases tokStep lim σ t r.head? <;> rfl

theorem TokSim.outcome {st : PSt} {pre' r : Bytes} {o : Option TSt} (h : TokSim mp mk eh s st pre' r o)
    (ih : ∀ st', Bd mp eh s st' pre' r → Agree eh (outcome mp mk eh s st') (accT ⟨mp, mk⟩ (σof eh s st' pre') r)) :
    Agree eh (outcome mp mk eh s st) (o.bind fun σ' => accT ⟨mp, mk⟩ σ' r) := by
  match o, h with
  | none, ⟨e, he⟩ => exact ⟨e, outcome_err he⟩
  | some σ', ⟨st', hl, hb', hσ⟩ => rw [outcome_congr hl, ← hσ]; exact ih st' hb'

/-- **simulation**: from a token boundary, the byte machine accepts exactly when the rest tokenizes and the token
    machine accepts the tokens, with the same count; and when it rejects it does so for a reason: no index
    expression is out of range -/
theorem outcome_eq_tok (suf : Bytes) : ∀ (pre : Bytes) (st : PSt), Bd mp eh s st pre suf →
    Agree eh (outcome mp mk eh s st) (accT ⟨mp, mk⟩ (σof eh s st pre) suf) := by
  unfold accT
  fun_induction tokenize suf with
  | case1 => intro pre st hb; exact outcome_nil hb
  | case2 bs n r htn ih =>
    intro pre st hb
    obtain ⟨rfl, hrn⟩ := takeName_spec htn
    rw [accT_cons]
    exact (run_wild false hb hrn).outcome fun st' hb' => ih _ st' hb'
  | case3 bs htn => intro pre st hb; exact fail_unclosed false hb (takeName_none htn)
  | case4 cs n r htn _ ih =>
    intro pre st hb
    obtain ⟨rfl, hrn⟩ := takeName_spec htn
    rw [accT_cons]
    exact (run_wild true hb hrn).outcome fun st' hb' => ih _ st' hb'
  | case5 cs htn => intro pre st hb; exact fail_unclosed true hb (takeName_none htn)
  | case6 c cs hc => intro pre st hb; exact fail_star hb (fun h => hc (Option.some.inj h))
  | case7 => intro pre st hb; exact fail_star hb nofun
  | case8 b bs h1 h2 ih =>
    intro pre st hb
    rw [accT_cons]
    exact (run_lit hb h1 h2).outcome fun st' hb' => ih _ st' hb'

end Sim

theorem bd_init {mp eh : Nat} {s : Bytes} (h : indexByte SLASH s = some eh) (hdot : s.head? ≠ some DOT) :
    Bd mp eh s (init eh) [] s := by
  refine ⟨h, hdot, Nat.zero_le _, rfl, rfl, rfl, rfl, ?_, ?_⟩
  · intro h; simp [init] at h ⊢; omega
  · intro h; simp [init] at h

theorem σof_init (eh : Nat) (s : Bytes) : σof eh s (init eh) [] = {} := by
  simp [σof, absT, init]

/-- the validator after its tests on the first byte, against the token machine on the reading of `s` -/
theorem runFrom_agree {mp mk eh : Nat} {s : Bytes} (h : indexByte SLASH s = some eh) (hdot : s.head? ≠ some DOT) :
    match accT ⟨mp, mk⟩ {} s with
    | none => ∃ e, runFrom mp mk eh s = .invalid e
    | some n => runFrom mp mk eh s = .ok n eh := by
  have A := outcome_eq_tok (mp := mp) (mk := mk) s [] (init eh) (bd_init h hdot)
  rw [σof_init] at A
  have hr : runFrom mp mk eh s = match outcome mp mk eh s (init eh) with
      | .error (.invalid e) => .invalid e
      | .error .panic => .panic
      | .ok (n, e) => .ok n e := by
    unfold runFrom outcome
    cases loop mp mk eh s (init eh) with
    | error f => cases f <;> rfl
    | ok st => rfl
  rw [hr]
  generalize accT ⟨mp, mk⟩ {} s = o at A
  match o, A with
  | none, ⟨e, he⟩ => exact ⟨e, by rw [he]⟩
  | some n, he => rw [show outcome mp mk eh s (init eh) = .ok (n, eh) from he]

end Fox.Model
