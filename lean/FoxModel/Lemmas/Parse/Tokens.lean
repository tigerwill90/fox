import FoxModel.Lemmas.Instances
import FoxModel.Model.Parse
import FoxModel.Spec.Grammar
/-
  FoxModel.Lemmas.Parse.Tokens — token lists, the common ground of the parser proofs and of the byte-offset proofs. A string is
  read as tokens by `tokenize`: its equations, the induction principle `tokenize_ind` (one case per kind of token, the two
  kinds of wildcard as one: `wopen`, `wtok`), and what the tokens say of the string (`render_tokenize`: nothing is lost;
  `nextByte`; `wildPositions`: what `parseWildcard` reports, proved in `Lemmas/Parse/Wildcard`). A token list is cut at a
  literal by `splitAtLit` (`Pieces`), and at its first '/' by `takeWhile` / `dropWhile`.
-/

namespace Fox.Model
open Fox

/-- how the scanners (`loop`, `wLoop`) read `s[i]` where `s = pre ++ b :: r` and `i = pre.length` -/
theorem getElem?_at (pre : Bytes) (b : UInt8) (r : Bytes) : (pre ++ b :: r)[pre.length]? = some b := by
  simp

/-! ## Strings read as tokens

  The two kinds of wildcard (`ca`: catch-all): the bytes that open one, the scanning state, the token. -/

def wopen : Bool → Bytes
  | true => [STAR, LBR]
  | false => [LBR]

def wstate : Bool → PState
  | true => .catchAll
  | false => .param

def wtok : Bool → Bytes → Tok
  | true, n => .catchAll n
  | false, n => .param n

/-! ### `tokenize`: its equations, and induction over the strings it reads -/

theorem tokenize_nil : tokenize [] = some [] := by rw [tokenize]
theorem tokenize_lbr (bs : Bytes) : tokenize (LBR :: bs) =
    match takeName bs with | some (n, r) => (tokenize r).map (Tok.param n :: ·) | none => none := by
  rw [tokenize.eq_def]; simp only [if_true]
  split <;> rename_i h <;> simp [h]
theorem tokenize_star_nil : tokenize [STAR] = none := by
  rw [tokenize]; simp [show STAR ≠ LBR by decide]
theorem tokenize_star_other (c : UInt8) (cs : Bytes) (h : c ≠ LBR) : tokenize (STAR :: c :: cs) = none := by
  rw [tokenize]; simp [show STAR ≠ LBR by decide, h]
theorem tokenize_star_lbr (cs : Bytes) : tokenize (STAR :: LBR :: cs) =
    match takeName cs with | some (n, r) => (tokenize r).map (Tok.catchAll n :: ·) | none => none := by
  rw [tokenize.eq_def]; simp only [show STAR ≠ LBR by decide, if_false, if_true]
  split <;> rename_i h <;> simp [h]
theorem tokenize_lit (b : UInt8) (bs : Bytes) (h1 : b ≠ LBR) (h2 : b ≠ STAR) :
    tokenize (b :: bs) = (tokenize bs).map (Tok.lit b :: ·) := by
  rw [tokenize.eq_def]; simp [h1, h2]

theorem takeName_spec {s n r : Bytes} (h : takeName s = some (n, r)) : s = n ++ RBR :: r ∧ RBR ∉ n := by
  induction s generalizing n r with
  | nil => simp [takeName] at h
  | cons b bs ih =>
    simp only [takeName] at h
    split at h
    · rename_i hb; simp at h; obtain ⟨rfl, rfl⟩ := h; simp [hb]
    · rename_i hb
      split at h
      · rename_i n' r' heq
        simp at h; obtain ⟨rfl, rfl⟩ := h
        obtain ⟨h1, h2⟩ := ih heq
        refine ⟨by simp [h1], ?_⟩
        simp only [List.mem_cons, not_or]; exact ⟨fun e => hb e.symm, h2⟩
      · simp at h

theorem takeName_none {s : Bytes} (h : takeName s = none) : RBR ∉ s := by
  induction s with
  | nil => simp
  | cons b bs ih =>
    simp only [takeName] at h
    split at h
    · simp at h
    · rename_i hb
      split at h
      · simp at h
      · rename_i heq
        simp only [List.mem_cons, not_or]; exact ⟨fun e => hb e.symm, ih heq⟩

/-- induction over the strings that read as tokens, one case per kind of token -/
theorem tokenize_ind {P : Bytes → List Tok → Prop} (nil : P [] [])
    (lit : ∀ b bs ts, b ≠ LBR → b ≠ STAR → tokenize bs = some ts → P bs ts → P (b :: bs) (.lit b :: ts))
    (wild : ∀ ca n r ts, RBR ∉ n → tokenize r = some ts → P r ts → P (wopen ca ++ (n ++ RBR :: r)) (wtok ca n :: ts))
    {s : Bytes} {toks : List Tok} (h : tokenize s = some toks) : P s toks := by
  fun_induction tokenize s generalizing toks with
  | case1 => cases h; exact nil
  | case2 bs n r htn ih =>
    obtain ⟨ts, htr, rfl⟩ := Option.map_eq_some_iff.mp h
    obtain ⟨rfl, hrn⟩ := takeName_spec htn
    exact wild false n r ts hrn htr (ih htr)
  | case4 cs n r htn _ ih =>
    obtain ⟨ts, htr, rfl⟩ := Option.map_eq_some_iff.mp h
    obtain ⟨rfl, hrn⟩ := takeName_spec htn
    exact wild true n r ts hrn htr (ih htr)
  | case8 b bs h1 h2 ih =>
    obtain ⟨ts, htr, rfl⟩ := Option.map_eq_some_iff.mp h
    exact lit b bs ts h1 h2 htr (ih htr)
  | case3 | case5 | case6 | case7 => cases h

/-! ### what the tokens say of the string: its bytes, whether it is empty, its first byte, where its wildcards end -/

theorem render_wtok (ca : Bool) (n : Bytes) : Tok.render (wtok ca n) = wopen ca ++ (n ++ [RBR]) := by
  cases ca <;> rfl

/-- `tokenize` loses nothing: rendering the tokens gives the string back (for every string that tokenizes) -/
theorem render_tokenize {s : Bytes} {toks : List Tok} (h : tokenize s = some toks) : render toks = s := by
  refine tokenize_ind (P := fun s toks => render toks = s) rfl (fun b bs ts _ _ _ ih => congrArg (b :: ·) ih) ?_ h
  intro ca n r ts _ _ ih
  show Tok.render (wtok ca n) ++ render ts = _
  rw [render_wtok, ih]; simp

theorem isEmpty_tokenize {r : Bytes} {ts : List Tok} (htr : tokenize r = some ts) : r.isEmpty = ts.isEmpty :=
  tokenize_ind (P := fun r ts => r.isEmpty = ts.isEmpty) rfl (fun _ _ _ _ _ _ _ => rfl)
    (fun ca _ _ _ _ _ _ => by cases ca <;> rfl) htr

/-- first byte of the rendering of `ts` followed by `k` -/
def nextByte (ts : List Tok) (k : Option UInt8) : Option UInt8 :=
  match ts with
  | [] => k
  | .lit b :: _ => some b
  | .param _ :: _ => some LBR
  | .catchAll _ :: _ => some STAR

theorem nextByte_tokenize {r : Bytes} {ts : List Tok} (h : tokenize r = some ts) : nextByte ts none = r.head? := by
  refine tokenize_ind (P := fun r ts => nextByte ts none = r.head?) rfl (fun _ _ _ _ _ _ _ => rfl) ?_ h
  intro ca n r ts _ _ _
  cases ca <;> rfl

theorem nextByte_append (a b : List Tok) (k : Option UInt8) : nextByte (a ++ b) k = nextByte a (nextByte b k) := by
  cases a with
  | nil => rfl
  | cons t ts => cases t <;> rfl

/-- the wildcards of a token list the way `parseWildcard` reports them: name, byte offset just after the closing
    brace (`-1` when the wildcard ends the string), catch-all flag; `off` = offset of the first token -/
def wildPositions (off : Nat) : List Tok → List WParam
  | [] => []
  | .lit _ :: ts => wildPositions (off + 1) ts
  | .param n :: ts =>
    ⟨n, if ts.isEmpty then -1 else ((off + n.length + 2 : Nat) : Int), false⟩ :: wildPositions (off + n.length + 2) ts
  | .catchAll n :: ts =>
    ⟨n, if ts.isEmpty then -1 else ((off + n.length + 3 : Nat) : Int), true⟩ :: wildPositions (off + n.length + 3) ts

theorem wildPositions_wtok (off : Nat) (ca : Bool) (n : Bytes) (ts : List Tok) :
    wildPositions off (wtok ca n :: ts) =
      ⟨n, if ts.isEmpty then -1 else ((off + n.length + ((wopen ca).length + 1) : Nat) : Int), ca⟩ ::
        wildPositions (off + n.length + ((wopen ca).length + 1)) ts := by
  cases ca <;> rfl

/-! ## A token list cut at a literal, and at its first '/' -/

section Tok
open Spec

theorem splitAtLit_ne_nil (d : UInt8) (ts : List Tok) : splitAtLit d ts ≠ [] := by
  cases ts with
  | nil => simp [splitAtLit]
  | cons t ts =>
    simp only [splitAtLit]
    split
    · simp
    · split <;> simp

theorem splitAtLit_sep (d : UInt8) (ts : List Tok) : splitAtLit d (.lit d :: ts) = [] :: splitAtLit d ts := by
  simp [splitAtLit]

theorem splitAtLit_cons {d : UInt8} {t : Tok} (ts : List Tok) (h : t ≠ .lit d) :
    ∃ l ls, splitAtLit d ts = l :: ls ∧ splitAtLit d (t :: ts) = (t :: l) :: ls := by
  cases hs : splitAtLit d ts with
  | nil => exact absurd hs (splitAtLit_ne_nil d ts)
  | cons l ls => exact ⟨l, ls, rfl, by simp [splitAtLit, h, hs]⟩

/-- `ls` are the pieces of `ts` between the literals `d` -/
inductive Pieces (d : UInt8) : List Tok → List (List Tok) → Prop
  | last {l} : .lit d ∉ l → Pieces d l [l]
  | sep {l ts ls} : .lit d ∉ l → Pieces d ts ls → Pieces d (l ++ .lit d :: ts) (l :: ls)

theorem pieces_splitAtLit (d : UInt8) (ts : List Tok) : Pieces d ts (splitAtLit d ts) := by
  induction ts with
  | nil => exact .last nofun
  | cons t ts ih =>
    by_cases h : t = .lit d
    · rw [h, splitAtLit_sep]; exact .sep (l := []) nofun ih
    · obtain ⟨l, ls, h1, h2⟩ := splitAtLit_cons ts h
      have hm : ∀ {l : List Tok}, .lit d ∉ l → .lit d ∉ t :: l := fun hl hm =>
        (List.mem_cons.mp hm).elim (fun e => h e.symm) hl
      rw [h2]; rw [h1] at ih
      cases ih with
      | last hl => exact .last (hm hl)
      | sep hl ht => exact .sep (l := t :: _) (hm hl) ht

theorem isSlash_iff (t : Tok) : isSlash t = true ↔ t = .lit SLASH := by
  cases t <;> simp [isSlash]

theorem takeWhile_no_slash (toks : List Tok) : .lit SLASH ∉ toks.takeWhile (!isSlash ·) := by
  induction toks with
  | nil => simp
  | cons t ts ih =>
    by_cases h : t = .lit SLASH
    · subst h; simp [List.takeWhile, isSlash]
    · simp only [List.takeWhile, Bool.eq_false_iff.mpr (mt (isSlash_iff t).mp h), Bool.not_false, List.mem_cons, not_or]
      exact ⟨fun e => h e.symm, ih⟩

theorem dropWhile_head (toks : List Tok) :
    toks.dropWhile (!isSlash ·) = [] ∨ ∃ p, toks.dropWhile (!isSlash ·) = .lit SLASH :: p := by
  induction toks with
  | nil => simp
  | cons t ts ih =>
    by_cases h : t = .lit SLASH
    · subst h; right; exact ⟨ts, by simp [List.dropWhile, isSlash]⟩
    · simp only [List.dropWhile, Bool.eq_false_iff.mpr (mt (isSlash_iff t).mp h), Bool.not_false]
      exact ih

end Tok

end Fox.Model
