import FoxModel.Lemmas.Parse.TokMachine
/-
  FoxModel.Lemmas.Parse.ByteStep — what one token does to the byte machine `loop`. `Bd` says that the validator stands at
  a token boundary of the string, `σof` is the token state it stands for there. From a boundary, over a literal byte
  (`run_lit`) or a whole wildcard (`run_wild`: opening bytes, name, closing brace), the byte machine either rejects for a
  reason, as the token machine does, or reaches the next boundary in the state `tokStep` gives (`TokSim`). Every index
  expression is computed on the way: nothing is out of range.
-/

namespace Fox.Model
open Fox

/-! ## The loop unfolded -/

section Loop
variable {mp mk eh : Nat} {s : Bytes}

theorem loop_done {st : PSt} (h : ¬ st.i < s.length) : loop mp mk eh s st = .ok st := by
  rw [loop]; simp [h]

theorem loop_step {st st' : PSt} (h : st.i < s.length) (hs : step mp mk eh s st = .ok st') :
    loop mp mk eh s st = loop mp mk eh s st' := by
  rw [loop]; simp only [h, if_true]
  split
  · rename_i e he; rw [hs] at he; cases he
  · rename_i st'' he; rw [hs] at he; cases he; rfl

theorem loop_err {st : PSt} {e} (h : st.i < s.length) (hs : step mp mk eh s st = .error e) :
    loop mp mk eh s st = .error e := by
  rw [loop]; simp only [h, if_true]
  split
  · rename_i e' he; rw [hs] at he; cases he; rfl
  · rename_i st'' he; rw [hs] at he; cases he

end Loop

/-! ## `indexByte`: the first occurrence of a byte -/

theorem indexByte_spec {c : UInt8} {s : Bytes} {i : Nat} (h : indexByte c s = some i) :
    ∃ pre suf, s = pre ++ c :: suf ∧ pre.length = i ∧ c ∉ pre := by
  induction s generalizing i with
  | nil => simp [indexByte] at h
  | cons b bs ih =>
    simp only [indexByte] at h
    split at h
    · rename_i hb; cases h; exact ⟨[], bs, by simp [hb], rfl, by simp⟩
    · rename_i hb
      cases hj : indexByte c bs with
      | none => simp [hj] at h
      | some j =>
        simp [hj] at h
        obtain ⟨pre, suf, h1, h2, h3⟩ := ih hj
        refine ⟨b :: pre, suf, by simp [h1], by simp [h2, h], ?_⟩
        simp only [List.mem_cons, not_or]; exact ⟨fun e => hb e.symm, h3⟩

theorem indexByte_none {c : UInt8} {s : Bytes} (h : indexByte c s = none) : c ∉ s := by
  induction s with
  | nil => simp
  | cons b bs ih =>
    simp only [indexByte] at h
    split at h
    · cases h
    · rename_i hb
      cases hj : indexByte c bs with
      | none => simp only [List.mem_cons, not_or]; exact ⟨fun e => hb e.symm, ih hj⟩
      | some j => simp [hj] at h

theorem indexByte_lt {c : UInt8} {s : Bytes} {i : Nat} (h : indexByte c s = some i) : i < s.length := by
  obtain ⟨pre, suf, rfl, rfl, _⟩ := indexByte_spec h
  rw [List.length_append]; exact Nat.lt_add_of_pos_right (Nat.succ_pos _)

/-! ## The byte machine at a token boundary -/

theorem getElem?_pred (pre suf : Bytes) (h : pre ≠ []) : (pre ++ suf)[pre.length - 1]? = pre.getLast? := by
  have hl : pre.length - 1 < pre.length := Nat.sub_lt (List.length_pos_iff.mpr h) (by omega)
  rw [List.getElem?_append_left hl, List.getLast?_eq_getElem?]

theorem nextIs_split (pre : Bytes) (b : UInt8) (r : Bytes) (P : UInt8 → Bool) :
    nextIs (pre ++ b :: r) pre.length P = .ok (match r.head? with | some d => P d | none => false) := by
  unfold nextIs
  rw [List.getElem?_append_right (by omega)]
  cases r <;> simp

/-- the look-behind `url[i-1] != '}'` made at a '.', at a split point other than the start of the string -/
theorem dotAfterDot_split (pre suf : Bytes) (last : UInt8) (hp : pre ≠ []) :
    dotAfterDot (pre ++ suf) last pre.length = .ok (decide (last = DOT ∧ pre.getLast? ≠ some RBR)) := by
  unfold dotAfterDot
  by_cases h1 : last = DOT
  · rw [if_pos h1, if_neg (fun e => hp (List.length_eq_zero_iff.mp e)), getElem?_pred pre suf hp]
    cases hg : pre.getLast? with
    | none => exact absurd (List.getLast?_eq_none_iff.mp hg) hp
    | some p =>
      show Except.ok (p != RBR) = _
      rw [show (p != RBR) = decide (last = DOT ∧ some p ≠ some RBR) by rw [Bool.eq_iff_iff]; simp [h1]]
  · rw [if_neg h1, decide_eq_false (fun h => h1 h.1)]

theorem first_occ {c : UInt8} {p0 q0 pre suf : Bytes} (hc : c ∉ p0) (h : p0 ++ c :: q0 = pre ++ suf) :
    (c ∉ pre ∧ ∃ m, p0 = pre ++ m ∧ suf = m ++ c :: q0) ∨ (c ∈ pre ∧ p0.length < pre.length) := by
  rcases List.append_eq_append_iff.mp h with ⟨a, h1, h2⟩ | ⟨a, h1, h2⟩
  · -- pre = p0 ++ a, c :: q0 = a ++ suf
    cases a with
    | nil =>
      left; simp at h1 h2; subst h1
      exact ⟨hc, [], by simp, h2.symm⟩
    | cons x a' =>
      right
      simp at h2; obtain ⟨hx, _⟩ := h2; subst hx
      subst h1; simp
  · -- p0 = pre ++ a, suf = a ++ c :: q0
    left
    subst h1
    exact ⟨fun hm => hc (by simp [hm]), a, rfl, h2⟩

/-- the token state that a byte state stands for; the three fields a `PSt` does not have are given -/
def absT (st : PSt) (inHost : Bool) (prev hostEnd : Option UInt8) : TSt :=
  { inHost := inHost, prev := prev, hostEnd := hostEnd, previous := st.previous, paramCnt := st.paramCnt,
    countStatic := st.countStatic, nonNumeric := st.nonNumeric, partlen := st.partlen, totallen := st.totallen,
    last := st.last }

/-- the token state at the boundary after the consumed prefix `pre`. `hostEnd` is what the Go code reads as
    `url[endHost-1]` after the loop: it is taken from the string once the first '/' lies in `pre`. -/
def σof (eh : Nat) (s : Bytes) (st : PSt) (pre : Bytes) : TSt :=
  absT st (decide (SLASH ∉ pre)) pre.getLast?
    (if SLASH ∈ pre then (if eh = 0 then none else s[eh - 1]?) else none)

/-- `st` is the validator state at a token boundary of `s`, whose first '/' is at `eh`: `pre` consumed, `suf` to
    come. Nothing is said of `delim` at `st.i = eh`: the step taken there sets it first (`setDelim`).
    `hdot` is the test made before the loop (it keeps the look-behind at a '.' in range), `cnt` the test made at
    every wildcard. -/
structure Bd (mp eh : Nat) (s : Bytes) (st : PSt) (pre suf : Bytes) : Prop where
  first : indexByte SLASH s = some eh
  hdot : s.head? ≠ some DOT
  cnt : st.paramCnt ≤ mp
  split : s = pre ++ suf
  hi : st.i = pre.length
  hstate : st.state = .default
  hinp : st.inParam = false
  hdelH : st.i < eh → st.delim = DOT
  hdelP : eh < st.i → st.delim = SLASH

section Sim
variable {mp mk eh : Nat} {s : Bytes}

theorem Bd.get {st : PSt} {pre r : Bytes} {b : UInt8} (hb : Bd mp eh s st pre (b :: r)) : s[st.i]? = some b := by
  rw [hb.split, hb.hi]; exact getElem?_at pre b r

theorem Bd.lt {st : PSt} {pre r : Bytes} {b : UInt8} (hb : Bd mp eh s st pre (b :: r)) : st.i < s.length := by
  rw [hb.split, hb.hi, List.length_append]; exact Nat.lt_add_of_pos_right (Nat.succ_pos _)

theorem slash_pos {pre r : Bytes} {b : UInt8} (hf : indexByte SLASH s = some eh) (hs : s = pre ++ b :: r) :
    (SLASH ∈ pre ∧ eh < pre.length) ∨ (SLASH ∉ pre ∧ b = SLASH ∧ pre.length = eh) ∨
      (SLASH ∉ pre ∧ b ≠ SLASH ∧ pre.length < eh) := by
  obtain ⟨p0, q0, hs0, hp0, hn0⟩ := indexByte_spec hf
  rw [← hp0]
  rcases first_occ hn0 (hs0.symm.trans hs) with ⟨hni, m, h1, h2⟩ | ⟨hin, hlt⟩
  · right
    cases m with
    | nil => left; exact ⟨hni, (List.cons.inj h2).1, by rw [h1, List.append_nil]⟩
    | cons x m' =>
      right
      obtain ⟨rfl, _⟩ := List.cons.inj h2
      exact ⟨hni, fun e => hn0 (by rw [h1, ← e]; simp), by rw [h1]; simp⟩
  · exact .inl ⟨hin, hlt⟩

theorem Bd.pos {st : PSt} {pre r : Bytes} {b : UInt8} (hb : Bd mp eh s st pre (b :: r)) :
    (SLASH ∈ pre ∧ eh < st.i) ∨ (SLASH ∉ pre ∧ b = SLASH ∧ st.i = eh) ∨ (SLASH ∉ pre ∧ b ≠ SLASH ∧ st.i < eh) :=
  hb.hi ▸ slash_pos hb.first hb.split

theorem Bd.ne {st : PSt} {pre r : Bytes} {b : UInt8} (hb : Bd mp eh s st pre (b :: r)) (h : b ≠ SLASH) : st.i ≠ eh := by
  rcases hb.pos with ⟨_, h'⟩ | ⟨_, h', _⟩ | ⟨_, _, h'⟩
  · exact Nat.ne_of_gt h'
  · exact absurd h' h
  · exact Nat.ne_of_lt h'

theorem Bd.after {st st' : PSt} {pre w r : Bytes} (hb : Bd mp eh s st pre (w ++ r)) (hi : st'.i = st.i + w.length)
    (hstate : st'.state = .default) (hinp : st'.inParam = false) (hH : st'.i < eh → st'.delim = DOT)
    (hP : eh < st'.i → st'.delim = SLASH) (hcnt : st'.paramCnt ≤ mp) : Bd mp eh s st' (pre ++ w) r :=
  ⟨hb.first, hb.hdot, hcnt, by rw [hb.split, List.append_assoc], by rw [hi, hb.hi, List.length_append], hstate, hinp,
    hH, hP⟩

theorem σof_append (st : PSt) {pre w : Bytes} {c : UInt8} (hw : SLASH ∈ pre ∨ SLASH ∉ w) (hc : w.getLast? = some c) :
    σof eh s st (pre ++ w) = { σof eh s st pre with prev := some c } := by
  have hm : SLASH ∈ pre ++ w ↔ SLASH ∈ pre := by
    rw [List.mem_append]; exact ⟨fun h => h.elim id fun h' => hw.elim id (absurd h'), .inl⟩
  simp only [σof, absT, hm, List.getLast?_append, hc, Option.some_or]

/-- in front of a byte other than '/', the abstraction's `inHost` says on which side of the first '/' the
    validator is, and the delimiter in force is that side's -/
theorem Bd.side {st : PSt} {pre r : Bytes} {b : UInt8} (hb : Bd mp eh s st pre (b :: r)) (h : b ≠ SLASH) :
    ((σof eh s st pre).inHost = true ↔ st.i < eh) ∧
      st.delim = if (σof eh s st pre).inHost = true then DOT else SLASH := by
  rcases hb.pos with ⟨h1, h2⟩ | ⟨_, h', _⟩ | ⟨h1, _, h2⟩
  · have hf : (σof eh s st pre).inHost = false := decide_eq_false (not_not_intro h1)
    rw [hf]
    exact ⟨⟨fun h => absurd h Bool.false_ne_true, fun h => absurd h (Nat.lt_asymm h2)⟩, hb.hdelP h2⟩
  · exact absurd h' h
  · have ht : (σof eh s st pre).inHost = true := decide_eq_true h1
    rw [ht]
    exact ⟨⟨fun _ => h2, fun _ => rfl⟩, hb.hdelH h2⟩

/-! equations of `step` in the default state -/

theorem step_default {st : PSt} {c : UInt8} (hc : s[st.i]? = some c) (hst : st.state = .default) :
    step mp mk eh s st = defaultStep mp eh s (setDelim eh st) c := by
  unfold step; rw [hc]; simp only [hst]

theorem setDelim_ne {st : PSt} (h : st.i ≠ eh) : setDelim eh st = st := if_neg h

theorem defaultStep_lbr (st : PSt) : defaultStep mp eh s st LBR =
    checkCnt mp { st with state := .param, startParam := st.i, paramCnt := st.paramCnt + 1 } := if_pos rfl

theorem defaultStep_star {st : PSt} (h : ¬ st.i < eh) : defaultStep mp eh s st STAR =
    match nextIs s st.i (fun d => d != LBR) with
    | .error e => .error e
    | .ok true => .error (.invalid .starNoBrace)
    | .ok false => checkCnt mp { st with state := .catchAll, i := st.i + 1, startParam := st.i + 1,
                                         paramCnt := st.paramCnt + 1 } := by
  unfold defaultStep; rw [if_neg (by decide), if_pos rfl, if_neg h]; rfl

theorem defaultStep_star_host {st : PSt} (h : st.i < eh) :
    defaultStep mp eh s st STAR = .error (.invalid .catchAllInHost) := by
  unfold defaultStep; rw [if_neg (by decide), if_pos rfl, if_pos h]

theorem defaultStep_host {st : PSt} {c : UInt8} (h1 : c ≠ LBR) (h2 : c ≠ STAR) (h : st.i < eh) :
    defaultStep mp eh s st c =
      match hostByte s { st with countStatic := st.countStatic + 1 } c with
      | .error e => .error e
      | .ok st' => checkCnt mp st' := by
  unfold defaultStep; rw [if_neg h1, if_neg h2, if_pos h]; rfl

theorem defaultStep_path {st : PSt} {c : UInt8} (h1 : c ≠ LBR) (h2 : c ≠ STAR) (h : ¬ st.i < eh) :
    defaultStep mp eh s st c = checkCnt mp { st with countStatic := st.countStatic + 1 } := by
  unfold defaultStep; rw [if_neg h1, if_neg h2, if_neg h]

/-- what one token does to the byte machine started at a boundary, set against the token machine's verdict `o`:
    both reject (the byte machine for a reason: it does not panic), or the byte machine reaches the next boundary in
    the state that abstracts to `o` -/
def TokSim (mp mk eh : Nat) (s : Bytes) (st : PSt) (pre' r : Bytes) : Option TSt → Prop
  | none => ∃ e, loop mp mk eh s st = .error (.invalid e)
  | some σ' => ∃ st', loop mp mk eh s st = loop mp mk eh s st' ∧ Bd mp eh s st' pre' r ∧ σof eh s st' pre' = σ'

theorem checkCnt_ok {st : PSt} (h : st.paramCnt ≤ mp) : checkCnt mp st = .ok { st with i := st.i + 1 } :=
  if_neg (Nat.not_lt_of_le h)

theorem alpha_not_num (b : UInt8) (h : Spec.isAlpha b = true) : Spec.isNum b = false := by
  -- the ranges a-z, A-Z, '_' and 0-9, as numbers
  simp only [Spec.isAlpha, Spec.isNum, Bool.or_eq_true, Bool.and_eq_true, decide_eq_true_eq, beq_iff_eq,
    Bool.and_eq_false_iff, decide_eq_false_iff_not, UInt8.le_iff_toNat_le, ← UInt8.toNat_inj, UInt8.toNat_ofNat] at h ⊢
  omega

theorem isLDH_dash : Spec.isLDH DASH = true := by decide

/-- `hostByte` reads a byte the way `hostLitT` does, given what the look-behind `url[i-1]` yields at a '.' when
    the byte before is `pv` -/
theorem hostByte_sim (st : PSt) {pv he : Option UInt8} (c : UInt8)
    (hd : c = DOT → dotAfterDot s st.last st.i = .ok (decide (st.last = DOT ∧ pv ≠ some RBR))) :
    match hostLitT (absT st true pv he) c with
    | none => ∃ e, hostByte s { st with countStatic := st.countStatic + 1 } c = .error (.invalid e)
    | some σ' => ∃ st', hostByte s { st with countStatic := st.countStatic + 1 } c = .ok st' ∧
        absT st' true (some c) he = σ' ∧ st'.i = st.i ∧ st'.state = st.state ∧ st'.inParam = st.inParam ∧
        st'.delim = st.delim ∧ st'.paramCnt = st.paramCnt := by
  unfold hostByte hostLitT
  dsimp only [absT]
  by_cases c4 : c = DOT
  · subst c4
    rw [if_neg (show ¬ isLetter DOT = true by decide), if_neg (show ¬ isDigit DOT = true by decide),
      if_neg (show ¬ DOT = DASH by decide), if_pos (rfl : DOT = DOT), if_pos (rfl : DOT = DOT), hd rfl]
    show match (if (st.last != DASH && decide (st.partlen ≤ 63) && !decide (st.last = DOT ∧ pv ≠ some RBR)) = true
      then _ else _ : Option TSt) with | none => _ | some σ' => _
    by_cases h0 : st.last = DOT ∧ pv ≠ some RBR
    · rw [decide_eq_true h0, Bool.not_true, Bool.and_false, if_neg Bool.false_ne_true]; exact ⟨_, rfl⟩
    rw [decide_eq_false h0, Bool.not_false, Bool.and_true]
    by_cases hl : st.last = DASH
    · rw [if_pos hl, hl, show (DASH != DASH) = false from rfl, Bool.false_and, if_neg Bool.false_ne_true]
      exact ⟨_, rfl⟩
    rw [if_neg hl, bne_iff_ne.mpr hl, Bool.true_and]
    by_cases h63 : st.partlen > 63
    · rw [if_pos h63, decide_eq_false (Nat.not_le_of_gt h63), if_neg Bool.false_ne_true]; exact ⟨_, rfl⟩
    · rw [if_neg h63, decide_eq_true (Nat.le_of_not_gt h63), if_pos rfl]; exact ⟨_, rfl, rfl, rfl, rfl, rfl, rfl, rfl⟩
  rw [if_neg c4]
  show match (if Spec.isLDH c = true ∧ (st.last = DOT → c ≠ DASH) then some (afterLit _ c) else none : Option TSt) with
    | none => _ | some σ' => _
  by_cases c1 : isLetter c = true
  · -- a letter is no digit and no '-'
    have hnd : c ≠ DASH := fun e => by rw [e] at c1; exact absurd c1 (by decide)
    have hl : Spec.isLDH c = true := by rw [Spec.isLDH, show Spec.isAlpha c = true from c1]; rfl
    rw [if_pos c1, if_pos ⟨hl, fun _ => hnd⟩]
    refine ⟨_, rfl, ?_, rfl, rfl, rfl, rfl, rfl⟩
    simp only [afterLit, alpha_not_num c c1, Bool.not_false, Bool.or_true]
  rw [if_neg c1]
  by_cases c2 : isDigit c = true
  · have hnd : c ≠ DASH := fun e => by rw [e] at c2; exact absurd c2 (by decide)
    have hl : Spec.isLDH c = true := by
      rw [Spec.isLDH, show Spec.isNum c = true from c2, Bool.or_true]; rfl
    rw [if_pos c2, if_pos ⟨hl, fun _ => hnd⟩]
    refine ⟨_, rfl, ?_, rfl, rfl, rfl, rfl, rfl⟩
    simp only [afterLit, show Spec.isNum c = true from c2, Bool.not_true, Bool.or_false]
  rw [if_neg c2]
  by_cases c3 : c = DASH
  · subst c3
    rw [if_pos rfl]
    by_cases hl : st.last = DOT
    · rw [if_pos hl, if_neg (fun h => h.2 hl rfl)]; exact ⟨_, rfl⟩
    · rw [if_neg hl, if_pos ⟨isLDH_dash, fun h => absurd h hl⟩]
      refine ⟨_, rfl, ?_, rfl, rfl, rfl, rfl, rfl⟩
      simp only [afterLit, show Spec.isNum DASH = false by decide, Bool.not_false, Bool.or_true]
  · have hl : ¬ Spec.isLDH c = true := by
      rw [Spec.isLDH, show Spec.isAlpha c = false from Bool.eq_false_iff.mpr c1,
        show Spec.isNum c = false from Bool.eq_false_iff.mpr c2, beq_eq_false_iff_ne.mpr c3]
      exact Bool.false_ne_true
    rw [if_neg c3, if_neg c4, if_neg (fun h => hl h.1)]; exact ⟨_, rfl⟩

theorem run_lit {st : PSt} {pre r : Bytes} {b : UInt8} {nx : Option UInt8}
    (hb : Bd mp eh s st pre (b :: r)) (h1 : b ≠ LBR) (h2 : b ≠ STAR) :
    TokSim mp mk eh s st (pre ++ [b]) r (tokStep ⟨mp, mk⟩ (σof eh s st pre) (.lit b) nx) := by
  have hstep := step_default (mp := mp) (mk := mk) (eh := eh) hb.get hb.hstate
  have hlast : [b].getLast? = some b := rfl
  show TokSim mp mk eh s st _ r (if (σof eh s st pre).inHost = false then _ else if b = SLASH then _ else _)
  have hih : SLASH ∉ pre → ¬ (σof eh s st pre).inHost = false := fun hin h =>
    Bool.noConfusion ((decide_eq_true hin).symm.trans h)
  rcases hb.pos with ⟨hin, hgt⟩ | ⟨hin, rfl, hie⟩ | ⟨hin, hsl, hlt⟩
  · -- behind the first '/'
    rw [setDelim_ne (Nat.ne_of_gt hgt), defaultStep_path h1 h2 (Nat.not_lt_of_gt hgt)] at hstep
    rw [if_pos (show (σof eh s st pre).inHost = false from decide_eq_false (not_not_intro hin))]
    refine ⟨_, loop_step hb.lt (hstep.trans (checkCnt_ok hb.cnt)), hb.after (w := [b]) rfl hb.hstate hb.hinp
      (fun h => absurd h (Nat.not_lt_of_gt (Nat.lt_succ_of_lt hgt))) (fun _ => hb.hdelP hgt) hb.cnt, ?_⟩
    rw [σof_append _ (.inl hin) hlast]; rfl
  · -- the first '/': the delimiter becomes '/', the byte before it is recorded
    have hsd : setDelim eh st = { st with delim := SLASH } := if_pos hie
    rw [hsd, defaultStep_path h1 h2 (fun h => Nat.lt_irrefl _ (hie ▸ h))] at hstep
    rw [if_neg (hih hin), if_pos rfl]
    refine ⟨_, loop_step hb.lt (hstep.trans (checkCnt_ok hb.cnt)), hb.after (w := [SLASH]) rfl hb.hstate hb.hinp
      (fun h => absurd h (hie ▸ Nat.not_lt_of_gt (Nat.lt_succ_self _))) (fun _ => rfl) hb.cnt, ?_⟩
    have hend : (if eh = 0 then none else s[eh - 1]?) = pre.getLast? := by
      rw [← hie, hb.hi]
      by_cases hp : pre = []
      · rw [hp]; rfl
      · rw [if_neg (fun e => hp (List.length_eq_zero_iff.mp e)), hb.split, getElem?_pred pre _ hp]
    simp only [σof, absT, flipSt, List.mem_append, List.mem_singleton, or_true, not_true_eq_false, decide_false, if_true,
      List.getLast?_append, hlast, Option.some_or, hend, hin, not_false_eq_true, decide_true, if_false]
  · -- in the hostname
    rw [setDelim_ne (Nat.ne_of_lt hlt), defaultStep_host h1 h2 hlt] at hstep
    rw [if_neg (hih hin), if_neg hsl]
    -- a '.' is not the first byte of the string: its look-behind is in range
    have hdd : b = DOT → dotAfterDot s st.last st.i = .ok (decide (st.last = DOT ∧ pre.getLast? ≠ some RBR)) := by
      rintro rfl
      have hp : pre ≠ [] := fun e => hb.hdot (by rw [hb.split, e]; rfl)
      rw [hb.split, hb.hi]; exact dotAfterDot_split pre _ st.last hp
    have hsim := hostByte_sim (s := s) st (he := none) b hdd
    rw [show σof eh s st pre = absT st true pre.getLast? none by
      simp only [σof, hin, not_false_eq_true, decide_true, if_false]]
    generalize hostLitT _ b = o at hsim ⊢
    match o, hsim with
    | none, ⟨e, he⟩ => exact ⟨e, loop_err hb.lt (by rw [hstep, he])⟩
    | some σ', ⟨st', he, hσ', h_i, h_st, h_inp, h_del, h_cnt⟩ =>
      rw [he] at hstep
      have hcnt : st'.paramCnt ≤ mp := h_cnt ▸ hb.cnt
      refine ⟨_, loop_step hb.lt (hstep.trans (checkCnt_ok hcnt)),
        hb.after (w := [b]) (by rw [← h_i]; rfl) (h_st.trans hb.hstate) (h_inp.trans hb.hinp)
          (fun _ => h_del.trans (hb.hdelH hlt)) (fun h => absurd h (Nat.not_lt_of_ge (Nat.succ_le_of_lt (h_i ▸ hlt))))
          hcnt, ?_⟩
      rw [σof_append _ (.inr fun h => hsl (List.mem_singleton.mp h).symm) hlast, ← hσ']
      simp only [σof, absT, hin, not_false_eq_true, decide_true, if_false]

/-! ### wildcards: opening bytes, name, closing brace -/

/-- scanning a wildcard name: byte number `k` (counted from the opening brace) must satisfy `k ≤ maxKeyBytes` and be legal -/
def scanOk (legal : UInt8 → Bool) (mk : Nat) : Nat → Bytes → Bool
  | _, [] => true
  | k, b :: n => decide (k ≤ mk) && legal b && scanOk legal mk (k + 1) n

/-- the bytes allowed in a name when the delimiter is `d` (in a catch-all, and in the path, `d` is '/') -/
def legalP (d : UInt8) (c : UInt8) : Bool := !(c = d || c = SLASH || c = STAR || c = LBR)

theorem pst_eta (st : PSt) : { st with i := st.i + 0, inParam := (st.inParam || false) } = st := by
  cases st; simp

/-- the state after the opening bytes of a wildcard -/
def opened (ca : Bool) (st : PSt) : PSt :=
  { st with state := wstate ca, startParam := st.i + ((wopen ca).length - 1), paramCnt := st.paramCnt + 1,
            i := st.i + (wopen ca).length }

theorem opened_offset (ca : Bool) (st : PSt) : (opened ca st).i - (opened ca st).startParam = 1 := by
  show st.i + (wopen ca).length - (st.i + ((wopen ca).length - 1)) = 1
  cases ca <;> simp only [wopen, List.length_cons, List.length_nil] <;> omega

theorem wopen_head (ca : Bool) (rest : Bytes) : ∃ c w, wopen ca ++ rest = c :: w ∧ c ≠ SLASH := by
  cases ca
  · exact ⟨LBR, rest, rfl, by decide⟩
  · exact ⟨STAR, LBR :: rest, rfl, by decide⟩

theorem open_wild (ca : Bool) {st : PSt} {pre rest : Bytes} (hb : Bd mp eh s st pre (wopen ca ++ rest)) :
    if (ca = true ∧ st.i < eh) ∨ st.paramCnt + 1 > mp then ∃ e, loop mp mk eh s st = .error (.invalid e)
    else loop mp mk eh s st = loop mp mk eh s (opened ca st) := by
  obtain ⟨c, w, hcw, hc⟩ := wopen_head ca rest
  rw [hcw] at hb
  have hstep := step_default (mp := mp) (mk := mk) (eh := eh) hb.get hb.hstate
  rw [setDelim_ne (hb.ne hc)] at hstep
  cases ca
  · obtain ⟨rfl, _⟩ := List.cons.inj hcw
    rw [defaultStep_lbr] at hstep
    simp only [Bool.false_eq_true, false_and, false_or]
    by_cases hcnt : st.paramCnt + 1 > mp
    · rw [if_pos hcnt]; exact ⟨_, loop_err hb.lt (hstep.trans (if_pos hcnt))⟩
    · rw [if_neg hcnt]; exact loop_step hb.lt (hstep.trans (if_neg hcnt))
  · obtain ⟨rfl, rfl⟩ := List.cons.inj hcw
    simp only [true_and]
    by_cases hlt : st.i < eh
    · rw [if_pos (.inl hlt)]; exact ⟨_, loop_err hb.lt (hstep.trans (defaultStep_star_host hlt))⟩
    · have hnx : nextIs s st.i (fun d => d != LBR) = .ok false := by
        rw [hb.split, hb.hi, nextIs_split]; rfl
      rw [defaultStep_star hlt, hnx] at hstep
      by_cases hcnt : st.paramCnt + 1 > mp
      · rw [if_pos (.inr hcnt)]; exact ⟨_, loop_err hb.lt (hstep.trans (if_pos hcnt))⟩
      · rw [if_neg (not_or.mpr ⟨hlt, hcnt⟩)]; exact loop_step hb.lt (hstep.trans (if_neg hcnt))

/-- the state after the bytes `n` of a name -/
def scanned (st : PSt) (n : Bytes) : PSt := { st with i := st.i + n.length, inParam := (st.inParam || !n.isEmpty) }

theorem scan_name {st : PSt} {pre n rest : Bytes} {d : UInt8}
    (hq : st.state = .param ∧ st.delim = d ∨ st.state = .catchAll ∧ d = SLASH) (hs : s = pre ++ n ++ rest)
    (hi : st.i = pre.length) (hr : RBR ∉ n) (hsp : st.startParam ≤ st.i) :
    if scanOk (legalP d) mk (st.i - st.startParam) n then loop mp mk eh s st = loop mp mk eh s (scanned st n)
    else ∃ e, loop mp mk eh s st = .error (.invalid e) := by
  induction n generalizing st pre with
  | nil => simp [scanOk, scanned]
  | cons b n ih =>
    have hc : s[st.i]? = some b := by rw [hs, hi]; simp
    have hlt : st.i < s.length := by rw [hs, hi]; simp
    have hb : b ≠ RBR := fun h => hr (by simp [h])
    have hstep : ∃ e1 e2, step mp mk eh s st =
        if st.i - st.startParam > mk then .error (.invalid e1)
        else if legalP d b = false then .error (.invalid e2)
        else .ok { st with inParam := true, i := st.i + 1 } := by
      unfold step; rw [hc]
      rcases hq with ⟨hq, rfl⟩ | ⟨hq, rfl⟩
      · refine ⟨.keyTooLargeParam, .inParam, ?_⟩
        simp only [hq, hb, if_false, legalP, Bool.not_eq_false']
      · refine ⟨.keyTooLargeCatchAll, .inCatchAll, ?_⟩
        simp only [hq, hb, if_false, legalP, Bool.not_eq_false', Bool.or_self]
    obtain ⟨e1, e2, hstep⟩ := hstep
    rw [show scanOk (legalP d) mk (st.i - st.startParam) (b :: n) = (decide (st.i - st.startParam ≤ mk) &&
      legalP d b && scanOk (legalP d) mk (st.i - st.startParam + 1) n) from rfl]
    by_cases h1 : st.i - st.startParam > mk
    · rw [if_neg (by rw [decide_eq_false (Nat.not_le_of_gt h1)]; nofun)]
      exact ⟨_, loop_err hlt (hstep.trans (if_pos h1))⟩
    rw [if_neg h1] at hstep
    by_cases h2 : legalP d b = false
    · rw [if_neg (by rw [h2, Bool.and_false]; nofun)]
      exact ⟨_, loop_err hlt (hstep.trans (if_pos h2))⟩
    rw [if_neg h2] at hstep
    rw [loop_step hlt hstep, decide_eq_true (Nat.le_of_not_gt h1), Bool.of_not_eq_false h2]
    have := @ih { st with inParam := true, i := st.i + 1 } (pre ++ [b]) hq (by rw [hs]; simp) (by simp [hi])
      (fun h => hr (by simp [h])) (Nat.le_succ_of_le hsp)
    rw [show st.i + 1 - st.startParam = st.i - st.startParam + 1 from Nat.sub_add_comm hsp] at this
    by_cases hok : scanOk (legalP d) mk (st.i - st.startParam + 1) n = true
    · rw [if_pos hok] at this
      rw [if_pos (by rw [hok]; rfl), this]
      show loop mp mk eh s { st with inParam := true, i := st.i + 1 + n.length } =
        loop mp mk eh s { st with i := st.i + (n.length + 1), inParam := st.inParam || true }
      rw [Nat.add_assoc, Nat.add_comm 1, Bool.or_true]
    · rw [if_neg hok] at this
      rw [if_neg (by rw [Bool.eq_false_iff.mpr hok]; nofun)]
      exact this

theorem scanOk_eq (legal : UInt8 → Bool) (mk k : Nat) (n : Bytes) :
    scanOk legal mk k n = (n.all legal && (n.isEmpty || decide (k + n.length ≤ mk + 1))) := by
  induction n generalizing k with
  | nil => rfl
  | cons b n ih =>
    -- the bound on byte `k` follows from the bound on the last byte, unless `b` is the last
    have : (decide (k ≤ mk) && (n.isEmpty || decide (k + 1 + n.length ≤ mk + 1))) =
        decide (k + (n.length + 1) ≤ mk + 1) := by
      cases n with
      | nil => exact (Bool.and_true _).trans (decide_eq_decide.mpr Nat.add_le_add_iff_right.symm)
      | cons x xs =>
        show (decide (k ≤ mk) && decide (k + 1 + (xs.length + 1) ≤ mk + 1)) = _
        rw [← Bool.decide_and]; exact decide_eq_decide.mpr (by simp only [List.length_cons]; omega)
    show (decide (k ≤ mk) && legal b && scanOk legal mk (k + 1) n) =
      ((legal b && n.all legal) && (false || decide (k + (n.length + 1) ≤ mk + 1)))
    rw [ih, Bool.false_or, ← this]
    ac_rfl

theorem nameOk_iff {lim : Spec.Limits} {inHost : Bool} {n : Bytes} (hr : RBR ∉ n) :
    Spec.nameOk lim inHost n = true ↔
      n ≠ [] ∧ scanOk (legalP (if inHost then DOT else SLASH)) lim.maxKeyBytes 1 n = true := by
  have hall : (n.all fun b => b != SLASH && b != STAR && b != LBR && b != RBR && (!inHost || b != DOT)) =
      n.all (legalP (if inHost then DOT else SLASH)) := by
    rw [Bool.eq_iff_iff, List.all_eq_true, List.all_eq_true]
    refine forall₂_congr fun b hb => ?_
    have : b ≠ RBR := fun e => hr (e ▸ hb)
    cases inHost <;> simp [legalP, this, and_assoc, and_left_comm, and_comm]
  rw [scanOk_eq, Spec.nameOk, hall]
  cases n with
  | nil => simp
  | cons b n => simp; exact ⟨fun ⟨h, g⟩ => ⟨g, by omega⟩, fun ⟨g, h⟩ => ⟨by omega, g⟩⟩

theorem step_empty {st : PSt} (hc : s[st.i]? = some RBR) (hq : st.state ≠ .default) (hinp : st.inParam = false) :
    ∃ e, step mp mk eh s st = .error (.invalid e) := by
  unfold step; rw [hc]
  generalize st.state = q at hq
  match q with
  | .default => exact absurd rfl hq
  | .param => exact ⟨.emptyParam, by simp only [hinp, if_true, Bool.not_false]⟩
  | .catchAll => exact ⟨.emptyCatchAll, by simp only [hinp, if_true, Bool.not_false]⟩

/-- the closing brace after a non-empty name; `r` is what follows it, `d` the delimiter in force, `nn` the new
    value of `nonNumeric`. A catch-all is closed in the path only. -/
theorem step_close (ca : Bool) {st : PSt} {pre r : Bytes} {d : UInt8} {nn : Bool} (hs : s = pre ++ RBR :: r)
    (hi : st.i = pre.length) (hq : st.state = wstate ca) (hinp : st.inParam = true) (hd : st.delim = d)
    (hnn : (if st.i < eh then true else st.nonNumeric) = nn) (hca : ca = true → d = SLASH ∧ ¬ st.i < eh) :
    ∃ e1 e2, step mp mk eh s st =
      if nxBad d r.head? = true then .error (.invalid e1)
      else if ca = true ∧ st.previous = .catchAll ∧ st.countStatic ≤ 1 then .error (.invalid e2)
      else .ok { st with inParam := false, nonNumeric := nn, countStatic := 0, previous := wstate ca,
                         state := .default, i := st.i + 1 } := by
  have hc : s[st.i]? = some RBR := by rw [hs, hi]; exact getElem?_at ..
  subst hd hnn
  unfold step; rw [hc]
  cases ca
  · -- a `{param}` has no second test: `e2` is not returned, any value does
    refine ⟨.afterParam, .consecutive, ?_⟩
    simp only [hq, wstate, if_true, hinp, Bool.not_true, Bool.false_eq_true, if_false, false_and]
    rw [hs, hi, nextIs_split, show (match r.head? with | some c => c != st.delim && c != SLASH | none => false) =
      nxBad st.delim r.head? from rfl]
    cases nxBad st.delim r.head? <;> rfl
  · obtain ⟨hd, hlt⟩ := hca rfl
    refine ⟨.afterCatchAll, .consecutive, ?_⟩
    simp only [hq, wstate, if_true, hinp, Bool.not_true, Bool.false_eq_true, if_false, true_and, hlt]
    rw [hs, hi, nextIs_split, hd, show (match r.head? with | some c => c != SLASH | none => false) =
      nxBad SLASH r.head? by cases r.head? <;> simp only [nxBad, Bool.and_self]]
    cases nxBad SLASH r.head? <;> rfl

theorem slash_not_mem_wopen (ca : Bool) : SLASH ∉ wopen ca := by cases ca <;> decide

theorem run_wild (ca : Bool) {st : PSt} {pre n r : Bytes} (hb : Bd mp eh s st pre (wopen ca ++ (n ++ RBR :: r)))
    (hr : RBR ∉ n) :
    TokSim mp mk eh s st (pre ++ (wopen ca ++ (n ++ [RBR]))) r (wildT ⟨mp, mk⟩ (σof eh s st pre) ca n r.head?) := by
  have hopen := open_wild (mp := mp) (mk := mk) ca hb
  obtain ⟨c, w, hcw, hc⟩ := wopen_head ca (n ++ RBR :: r)
  obtain ⟨hih, hdel⟩ := (hcw ▸ hb : Bd mp eh s st pre (c :: w)).side hc
  show TokSim mp mk eh s st _ r (if _ then none else if st.paramCnt + 1 > mp then none else if _ then none
    else if _ then none else if ca = true ∧ st.previous = PState.catchAll ∧ st.countStatic ≤ 1 then none else _)
  by_cases g1 : ca = true ∧ (σof eh s st pre).inHost = true
  · rw [if_pos g1]; rw [if_pos (.inl ⟨g1.1, hih.mp g1.2⟩)] at hopen; exact hopen
  by_cases g2 : st.paramCnt + 1 > mp
  · rw [if_neg g1, if_pos g2]; rw [if_pos (.inr g2)] at hopen; exact hopen
  rw [if_neg g1, if_neg g2]
  rw [if_neg (not_or.mpr ⟨fun h => g1 ⟨h.1, hih.mpr h.2⟩, g2⟩)] at hopen
  -- the name
  have hscan := @scan_name mp mk eh s (opened ca st) (pre ++ wopen ca) n (RBR :: r) st.delim
    (by cases ca
        · exact .inl ⟨rfl, rfl⟩
        · exact .inr ⟨rfl, by rw [hdel, if_neg (fun h => g1 ⟨rfl, h⟩)]⟩)
    (by rw [hb.split]; simp) (by simp [opened, hb.hi]) hr (Nat.add_le_add_left (Nat.sub_le ..) _)
  rw [opened_offset] at hscan
  have hname := @nameOk_iff ⟨mp, mk⟩ (σof eh s st pre).inHost n hr
  rw [← hdel] at hname
  have hs2 : s = (pre ++ (wopen ca ++ n)) ++ RBR :: r := by rw [hb.split]; simp
  have hi2 : (scanned (opened ca st) n).i = (pre ++ (wopen ca ++ n)).length := by
    rw [List.length_append, List.length_append, ← hb.hi, ← Nat.add_assoc]; rfl
  have hlt2 : (scanned (opened ca st) n).i < s.length := by rw [hi2, hs2]; simp
  by_cases g3 : Spec.nameOk ⟨mp, mk⟩ (σof eh s st pre).inHost n = false
  · rw [if_pos g3]
    by_cases hsc : scanOk (legalP st.delim) mk 1 n = true
    · -- the name scans but is empty
      have hne : n = [] := Classical.not_not.mp fun hne => by rw [hname.mpr ⟨hne, hsc⟩] at g3; cases g3
      rw [if_pos hsc] at hscan
      obtain ⟨e, he⟩ := @step_empty mp mk eh s (scanned (opened ca st) n) (by rw [hi2, hs2]; exact getElem?_at ..)
        (by cases ca <;> nofun)
        (by show (st.inParam || !n.isEmpty) = false; rw [hb.hinp, hne]; rfl)
      exact ⟨e, hopen.trans (hscan.trans (loop_err hlt2 he))⟩
    · rw [if_neg hsc] at hscan
      obtain ⟨e, he⟩ := hscan
      exact ⟨e, hopen.trans he⟩
  rw [if_neg g3]
  obtain ⟨hne, hsc⟩ := hname.mp (Bool.of_not_eq_false g3)
  rw [if_pos hsc] at hscan
  have hloop := hopen.trans hscan
  -- no '/' in the wildcard: the closing brace is on the same side of the first '/'
  have hsn : SLASH ∉ n := fun hm => by
    rw [scanOk_eq] at hsc
    have := List.all_eq_true.mp (Bool.and_eq_true_iff.mp hsc).1 _ hm
    simp [legalP] at this
  have hside : st.i < eh → (pre ++ (wopen ca ++ n)).length < eh := fun h => by
    have hnp : SLASH ∉ pre := of_decide_eq_true (hih.mpr h)
    rcases slash_pos hb.first hs2 with ⟨hm, _⟩ | ⟨_, h', _⟩ | ⟨_, _, h'⟩
    · simp only [List.mem_append] at hm
      rcases hm with hm | hm | hm
      · exact absurd hm hnp
      · exact absurd hm (slash_not_mem_wopen ca)
      · exact absurd hm hsn
    · exact absurd h' (by decide)
    · exact h'
  have hle : st.i ≤ (scanned (opened ca st) n).i := Nat.le_trans (Nat.le_add_right ..) (Nat.le_add_right ..)
  -- the closing brace
  have hnn : (if (scanned (opened ca st) n).i < eh then true else st.nonNumeric) =
      ((σof eh s st pre).inHost || st.nonNumeric) := by
    by_cases h : st.i < eh
    · rw [if_pos (hi2 ▸ hside h), hih.mpr h]; rfl
    · rw [if_neg (fun h' => h (Nat.lt_of_le_of_lt hle h')), Bool.eq_false_iff.mpr (mt hih.mp h)]; rfl
  obtain ⟨e1, e2, hclose⟩ := @step_close mp mk eh s ca (scanned (opened ca st) n) _ r _ _ hs2 hi2 rfl
    (by cases n; exact absurd rfl hne; simp [scanned]) hdel hnn
    (fun h => ⟨if_neg (fun h' => g1 ⟨h, h'⟩), fun h' => g1 ⟨h, hih.mpr (Nat.lt_of_le_of_lt hle h')⟩⟩)
  by_cases g4 : nxBad (if (σof eh s st pre).inHost = true then DOT else SLASH) r.head? = true
  · rw [if_pos g4]; exact ⟨_, hloop.trans (loop_err hlt2 (hclose.trans (if_pos g4)))⟩
  by_cases g5 : ca = true ∧ st.previous = .catchAll ∧ st.countStatic ≤ 1
  · rw [if_neg g4, if_pos g5]; exact ⟨_, hloop.trans (loop_err hlt2 ((hclose.trans (if_neg g4)).trans (if_pos g5)))⟩
  rw [if_neg g4, if_neg g5]
  refine ⟨_, hloop.trans (loop_step hlt2 ((hclose.trans (if_neg g4)).trans (if_neg g5))), ?_, ?_⟩
  · have hb' : Bd mp eh s st pre ((wopen ca ++ (n ++ [RBR])) ++ r) := by simpa using hb
    refine hb'.after ?_ rfl rfl (fun h => ?_) (fun h => ?_) (Nat.le_of_not_gt g2)
    · rw [List.length_append, List.length_append, ← Nat.add_assoc, ← Nat.add_assoc]; rfl
    · show st.delim = DOT
      rw [hdel, if_pos (hih.mpr (Nat.lt_of_le_of_lt hle (Nat.lt_of_succ_lt h)))]
    · have : ¬ st.i < eh := fun h' => Nat.lt_irrefl _ (Nat.lt_of_lt_of_le h (hi2 ▸ hside h'))
      show st.delim = SLASH
      rw [hdel, if_neg (mt hih.mp this)]
  · rw [σof_append (c := RBR) _ (.inr (by simp [slash_not_mem_wopen, hsn]; decide)) (by simp)]; rfl

end Sim

end Fox.Model
