import FoxModel.Lemmas.MachineRefine
/-
  lookupByDomain as the Go code runs it (Model/Machine: `hostKeyLoop`, `hostNodeEnd`, `hostAfter`, `hostBacktrack`)
  = `pick` of the enumerating hostname walk `hostWalk`; and `roots.lookup` of the machine = `Model.lookup`.
-/
namespace Fox.Model
open Fox Fox.Model.Machine

/-! ### the children of a kind, with distinct kinds -/

theorem hostKids_none {cs : List Node} {sel : Sel} (h : ∀ x ∈ cs, sel.matches x.key = false) (host path ps) :
    hostKids sel cs host path ps = [] := by
  induction cs with
  | nil => exact hostKids_nil _ _ _ _
  | cons c cs ih =>
    rw [hostKids_cons, h c (by simp), ih (fun x hx => h x (List.mem_cons_of_mem _ hx))]
    rfl

theorem hostKids_find {cs : List Node} (hd : nodupB (kindsOf cs) = true) (sel : Sel) (host path ps) :
    hostKids sel cs host path ps =
      (match cs.find? (fun c => sel.matches c.key) with
       | some c => hostWalk c c.key host path ps
       | none => []) := by
  induction cs with
  | nil => rw [hostKids_nil]; rfl
  | cons c cs ih =>
    rw [hostKids_cons, List.find?_cons]
    cases hm : sel.matches c.key with
    | true =>
      rw [hostKids_none fun x hx => matches_false (nodup_others hd ((sel_matches_iff _ _).mp hm) x hx)]
      exact List.append_nil _
    | false => exact ih (nodup_tail hd)

/-! ### the invariant: as for lookupByPath (MachineRefine), over `hostWalk`; there is no `pre`, no `parent` and no
    trailing-slash site of its own, the only candidates are those of the path lookup handed over to -/

def hframeEvs (host path : Bytes) (params : Binds) (f : Frame) : List Ev :=
  hostWalk f.child f.child.key (host.drop f.pathIndex) path (params.take f.paramCnt)

def hstackEvs (host path : Bytes) : Binds → List Frame → List Ev
  | _, [] => []
  | params, f :: st => hframeEvs host path params f ++ hstackEvs host path (params.take f.paramCnt) st

theorem hstackEvs_append (host path) (params x : Binds) {st : List Frame} (hs : stackOk params.length st) :
    hstackEvs host path (params ++ x) st = hstackEvs host path params st := by
  cases st with
  | nil => rfl
  | cons f st =>
    simp only [hstackEvs, hframeEvs]
    rw [List.take_append_of_le_length hs.1]

/-- events of the analysis after the hostname `Walk` loop: the path lookup below the "/" child, if host and key are used up -/
def hpostEvs (host path : Bytes) (cur : Node) (k : List Tok) (cm : Nat) (ps : Binds) : List Ev :=
  if (host.drop cm).isEmpty && k.isEmpty then
    match cur.children.find? (fun c => startsWithSlash c.key) with
    | some c => pathEvents c path ps
    | none => []
  else []

structure HInv (cur : Node) (k : List Tok) (pc : Nat) (R : Regs) : Prop where
  kids : wfKids cur.children = true
  nodup : nodupB (kindsOf cur.children) = true
  key : keyOk k = true
  cnt : pc = R.params.length
  st : stackOk R.params.length R.skipNds

/- `Q1` hostKeyLoop, `Q2` hostNodeEnd, `Q3` hostAfter, `Q4` hostBacktrack -/
def Q1 (host path : Bytes) (cur : Node) (k : List Tok) (cm pc : Nat) (R : Regs) : Prop :=
  HInv cur k pc R →
  hostKeyLoop false host path cur k cm pc R =
    pickC R.tsr (hostWalk cur k (host.drop cm) path R.params ++ hstackEvs host path R.params R.skipNds)

def Q2 (host path : Bytes) (cur : Node) (cm pc : Nat) (b : UInt8) (R : Regs) : Prop :=
  HInv cur [] pc R → (∃ rest, host.drop cm = b :: rest) →
  hostNodeEnd false host path cur cm pc b R =
    pickC R.tsr (hostWalk cur [] (host.drop cm) path R.params ++ hstackEvs host path R.params R.skipNds)

def Q3 (host path : Bytes) (cur : Node) (k : List Tok) (cm : Nat) (R : Regs) : Prop :=
  wfKids cur.children = true → stackOk R.params.length R.skipNds →
  hostAfter false host path cur k cm R =
    pickC R.tsr (hpostEvs host path cur k cm R.params ++ hstackEvs host path R.params R.skipNds)

def Q4 (host path : Bytes) (R : Regs) : Prop :=
  stackOk R.params.length R.skipNds →
  hostBacktrack false host path R = pickC R.tsr (hstackEvs host path R.params R.skipNds)

theorem HInv.start {c : Node} (h : wfNode c = true) {pc : Nat} {R : Regs} (hc : pc = R.params.length)
    (hs : stackOk R.params.length R.skipNds) : HInv c c.key pc R := by
  have h1 := wfNode_leafcond h
  exact ⟨h1.1, wfNode_nodup h, (wfNode_key h).2, hc, hs⟩

theorem keyOk_tail {t : Tok} {k : List Tok} (h : keyOk (t :: k) = true) : keyOk k = true :=
  keyOk_append_right [t] _ h

theorem hpostEvs_key (host path cur t k cm ps) : hpostEvs host path cur (t :: k) cm ps = [] := by
  unfold hpostEvs
  rw [List.isEmpty_cons, Bool.and_false]
  rfl

theorem hpostEvs_host {host : Bytes} {cm : Nat} {b : UInt8} {rest : Bytes} (hp : host.drop cm = b :: rest) (path cur k ps) :
    hpostEvs host path cur k cm ps = [] := by
  unfold hpostEvs
  rw [hp]
  rfl

/-! ### the end of a node's key, and the hand-over to the path lookup -/

theorem hstackEvs_pushParam (host path) (cur : Node) (cm : Nat) (ps : Binds) (st : List Frame) :
    hstackEvs host path ps (pushParam cur cm ps.length st) =
      (match paramChild cur with | some c => hostWalk c c.key (host.drop cm) path ps | none => []) ++ hstackEvs host path ps st := by
  unfold pushParam
  cases paramChild cur with
  | none => rfl
  | some wc => simp only [hstackEvs, hframeEvs, List.take_length]

theorem hostWalk_nodeEnd {cur : Node} (hnd : nodupB (kindsOf cur.children) = true) (b rest path ps) :
    hostWalk cur [] (b :: rest) path ps =
      hostKids (.static b) cur.children (b :: rest) path ps
      ++ (match paramChild cur with | some c => hostWalk c c.key (b :: rest) path ps | none => []) := by
  rw [hostWalk_nil_cons, hostKids_find hnd .param]; rfl

theorem hostKids_static_special {cs : List Node} (hw : wfKids cs = true) {b : UInt8} (hb : b = LBR ∨ b = STAR) (host path ps) :
    hostKids (.static b) cs host path ps = [] :=
  hostKids_none (fun _ hx => static_special (wfNode_key (wfKids_mem hw hx)).2 hb) ..

theorem hostWalk_catchAll_key {k : List Tok} (hm : Sel.catchAll.matches k = true) (n host path ps) :
    hostWalk n k host path ps = [] := by
  cases k with
  | nil => cases hm
  | cons t k' => cases t <;> first | exact hostWalk_catch .. | cases hm

/-- at the end of a node's key the hostname walk offers what the machine tries, in its order: the child its linear search
    finds, then the param child. For a byte '{' the search lands on the param child, which is then explored twice; for '*'
    on the catch-all child, which matches no hostname. -/
theorem pickC_hostNodeEnd {cur : Node} {pc : Nat} {R : Regs} (hinv : HInv cur [] pc R) (b rest path) (S : List Ev) :
    pickC R.tsr (hostWalk cur [] (b :: rest) path R.params ++ S) =
      pickC R.tsr
        ((match hostStaticChild cur b with | some c => hostWalk c c.key (b :: rest) path R.params | none => [])
        ++ ((match paramChild cur with | some c => hostWalk c c.key (b :: rest) path R.params | none => []) ++ S)) := by
  rw [hostWalk_nodeEnd hinv.nodup, List.append_assoc]
  unfold hostStaticChild
  by_cases hl : b = LBR
  · subst hl
    rw [hostKids_static_special hinv.kids (Or.inl rfl), find_firstByte_lbr hinv.kids, List.nil_append]
    exact (pickC_dup _ _ _).symm
  · by_cases hstar : b = STAR
    · subst hstar
      rw [hostKids_static_special hinv.kids (Or.inr rfl)]
      cases hs : cur.children.find? (fun c => firstByte c.key == STAR) with
      | none => rfl
      | some sc =>
        have hk := wfNode_key (child_wf hinv.kids hs)
        dsimp only
        rw [hostWalk_catchAll_key ((firstByte_star hk.2 hk.1).symm.trans (List.find?_some hs :))]
    · rw [hostKids_find hinv.nodup, ← find_firstByte_static hinv.kids hl hstar]

theorem hostAfter_found {host path : Bytes} {cur : Node} {k : List Tok} {cm : Nat} {R : Regs}
    (hw : wfKids cur.children = true) (hc : ((host.drop cm).isEmpty && k.isEmpty) = true) {c : Node}
    (hf : cur.children.find? (fun c => firstByte c.key == SLASH) = some c) (X : List Ev) :
    pickC R.tsr (hpostEvs host path cur k cm R.params ++ X) =
      (match lookupByPath c path [] with
       | .none => pickC R.tsr X
       | .found r sps true => pickC (orTsr R.tsr (r, R.params ++ sps)) X
       | .found r sps false => .found r (R.params ++ sps) false
       | .bad => .bad) := by
  have hwc := child_wf hw hf
  unfold hpostEvs
  rw [if_pos hc, ← find_slash, hf]
  dsimp only
  have : pathEvents c path R.params = (pathEvents c path []).map (Ev.pre R.params) := by
    unfold pathEvents; exact walk_prefix _ _ _ _ _ _ _
  rw [this, pickC_block, lookupByPath_eq_pick hwc, pickC_none_eq_pick]
  rfl

theorem hostMachine_refines_all (host path : Bytes) :
    (∀ cur k cm pc R, Q1 host path cur k cm pc R) ∧
    (∀ cur cm pc b R, Q2 host path cur cm pc b R) ∧
    (∀ cur k cm R, Q3 host path cur k cm R) ∧
    (∀ R, Q4 host path R) := by
  apply hostKeyLoop.mutual_induct false host path (Q1 host path) (Q2 host path) (Q3 host path) (Q4 host path)
  -- hostKeyLoop: host used up; key used up; literal equal / different; parameter on an empty / non-empty label; catch-all
  · intro cur k cm pc R hp ih hinv
    rw [hostKeyLoop_end hp, ih hinv.kids hinv.st, hp]
    congr 2
    unfold hpostEvs
    rw [hp]
    cases k with
    | nil =>
      cases hf : cur.children.find? (fun c => startsWithSlash c.key) with
      | some c => exact (hostWalk_end_some hf ..).symm
      | none => exact (hostWalk_end_none hf ..).symm
    | cons t k' => exact (hostWalk_tok_nil ..).symm
  · intro cur cm pc R b rest hp ih hinv
    rw [hostKeyLoop_keyEnd hp, ih hinv ⟨rest, hp⟩]
  · intro cur cm pc R b rest hp c k' hc ih hinv
    have hinv' : HInv cur k' pc R := ⟨hinv.kids, hinv.nodup, keyOk_tail hinv.key, hinv.cnt, hinv.st⟩
    rw [hostKeyLoop_lit hp, if_pos hc, ih hinv', hp, drop_add_of_drop hp 1, hostWalk_lit, if_pos hc.1]
    rfl
  · intro cur cm pc R b rest hp c k' hc ih hinv
    have hne := keyOk_lit_ne hinv.key
    have hcb : ¬ c = b := by
      intro h; subst h; exact hc ⟨rfl, hne.2⟩
    rw [hostKeyLoop_lit hp, if_neg hc, ih hinv.kids hinv.st, hp, hostWalk_lit, if_neg hcb,
      hpostEvs_key]
  · intro cur cm pc R b rest hp nm k' h0 ih hinv
    rw [hostKeyLoop_param hp, if_pos h0, ih hinv.kids hinv.st, hp, hostWalk_param, if_pos h0,
      hpostEvs_key]
  · intro cur cm pc R b rest hp nm k' h0 ih hinv
    have hinv' : HInv cur k' (pc + 1)
        { skipNds := R.skipNds, params := R.params ++ [(nm, List.take (segEnd DOT (b :: rest)) (b :: rest))], tsr := R.tsr } :=
      ⟨hinv.kids, hinv.nodup, keyOk_tail hinv.key, by rw [hinv.cnt, List.length_append]; rfl, stackOk_append hinv.st _⟩
    rw [hostKeyLoop_param hp, if_neg h0, ih hinv', rec_false, hp, drop_add_of_drop hp, hostWalk_param, if_neg h0]
    dsimp only
    rw [hstackEvs_append _ _ _ _ hinv.st]
  · intro cur cm pc R b rest hp nm k' ih hinv
    rw [hostKeyLoop_catch hp, ih hinv.kids hinv.st, hostWalk_catch, hpostEvs_key]
  -- hostNodeEnd: no static child: param child / none; static child
  · intro cur cm pc b R hs wc hpc ih hinv ⟨rest, hp⟩
    rw [hostNodeEnd_eq, hs, hpc]
    dsimp only
    rw [ih (HInv.start (child_wf hinv.kids hpc) hinv.cnt hinv.st), hp, pickC_hostNodeEnd hinv, hs, hpc]
    rfl
  · intro cur cm pc b R hs hpc ih hinv ⟨rest, hp⟩
    rw [hostNodeEnd_eq, hs, hpc]
    dsimp only
    rw [ih hinv.kids hinv.st, hp, pickC_hostNodeEnd hinv, hs, hpc, hpostEvs_host hp]
    rfl
  · intro cur cm pc b R sc hs ih hinv ⟨rest, hp⟩
    have hcnt := hinv.cnt
    subst hcnt
    rw [hostNodeEnd_eq, hs]
    dsimp only
    rw [ih (HInv.start (child_wf hinv.kids hs) rfl (stackOk_pushParam hinv.kids cm _ hinv.st)), hp, pickC_hostNodeEnd hinv, hs]
    dsimp only
    rw [hstackEvs_pushParam, hp]
  -- hostAfter: host and key used up: no "/" child; the path lookup finds nothing / a candidate / a direct match / a node
  -- without route; otherwise
  · intro cur k cm R hc hf ih _ hst
    rw [hostAfter_eq, if_pos hc, hf]
    dsimp only
    rw [ih hst]
    unfold hpostEvs
    rw [if_pos hc, ← find_slash, hf]
    rfl
  · intro cur k cm R hc c hf hres ih hw hst
    rw [hostAfter_eq, if_pos hc, hf]
    simp only [hres]
    rw [hostAfter_found hw hc hf, hres, ih hst]
  · intro cur k cm R hc c hf r sps hres ih hw hst
    rw [hostAfter_eq, if_pos hc, hf]
    simp only [hres]
    rw [hostAfter_found hw hc hf, hres, ih (by rw [setTsr_params, setTsr_skipNds]; exact hst), setTsr_tsr]
    simp
  · intro cur k cm R hc c hf r sps hres hw _
    rw [hostAfter_eq, if_pos hc, hf]
    simp only [hres, rec_false]
    rw [hostAfter_found hw hc hf, hres]
  · intro cur k cm R hc c hf hres hw _
    rw [hostAfter_eq, if_pos hc, hf]
    simp only [hres]
    rw [hostAfter_found hw hc hf, hres]
  · intro cur k cm R hc ih _ hst
    rw [hostAfter_eq, if_neg hc, ih hst]
    unfold hpostEvs
    rw [if_neg hc]; rfl
  -- hostBacktrack: empty stack with / without a candidate; pop
  · intro R h _ _ _ _
    rw [hostBacktrack_nil h, h]; rfl
  · intro R h _ _
    rw [hostBacktrack_nil h, h]; rfl
  · intro R f st h ih hst
    rw [h] at hst
    obtain ⟨hlen, hst'⟩ := stackOk_pop hst
    rw [hostBacktrack_cons h, ih (HInv.start hst.2.1 hlen hst'), h]
    rfl

/-- **lookupByDomain as the Go code runs it = `pick` of the enumerating hostname walk**, from any root whose children
    are well-formed with distinct kinds, for every non-empty host and every path -/
theorem lookupByDomain_eq_pick {root : Node} (hw : wfKids root.children = true)
    (hd : nodupB (kindsOf root.children) = true) (host path : Bytes) (hne : host ≠ []) :
    Machine.lookupByDomain root host path = pick (hostWalk root [] host path []) := by
  cases host with
  | nil => exact absurd rfl hne
  | cons b rest =>
    unfold Machine.lookupByDomain
    have hinv : HInv root [] 0 {} := ⟨hw, hd, rfl, rfl, trivial⟩
    dsimp only
    rw [(hostMachine_refines_all (b :: rest) path).2.1 root 0 0 b {} hinv ⟨rest, rfl⟩, ← pickC_none_eq_pick]
    simp [hstackEvs]

theorem pathOnly_iff (c0 : Node) (cs : List Node) :
    (cs.isEmpty && firstByte c0.key == SLASH) =
      ((c0 :: cs).length == 1 && ((c0 :: cs).find? (fun c => startsWithSlash c.key)).isSome) := by
  rw [firstByte_slash, List.find?_cons]
  cases cs with
  | nil => cases startsWithSlash c0.key <;> rfl
  | cons x xs => exact (Bool.false_and _).trans (Bool.false_and _).symm

/-- **`roots.lookup` as the Go code runs it = the model the routing theorems are about**: on every well-formed forest
    (in particular after any history of Handle/Update/Delete/Truncate, `Fox.C02.C02_reachable_wf`), for every method,
    Host header and path, the state machines of lookupByDomain / lookupByPath with the staging of `roots.lookup`
    return exactly `Model.lookup`. -/
theorem machine_lookup_eq {rs : Roots} (hw : wfRoots rs = true) (m hostPort path : Bytes) :
    Machine.lookup rs m hostPort path = Model.lookup rs m hostPort path := by
  unfold Machine.lookup Model.lookup
  cases hr : methodRoot rs m with
  | none => rfl
  | some root =>
    have hroot := wfRoots_root hw hr
    simp only [wfRoot, Bool.and_eq_true] at hroot
    dsimp only
    cases hcs : root.children with
    | nil => rfl
    | cons c0 cs =>
      have hkids : wfKids (c0 :: cs) = true := hcs ▸ hroot.2
      dsimp only
      rw [← pathOnly_iff, ← find_slash]
      by_cases hone : (cs.isEmpty && firstByte c0.key == SLASH) = true
      · -- only paths are registered for this method: the one child is the "/" child
        rw [if_pos hone, if_pos hone, List.find?_cons_of_pos (p := fun c : Node => firstByte c.key == SLASH) ((Bool.and_eq_true _ _).mp hone).2]
        exact lookupByPath_eq_pick (wfKids_cons.mp hkids).1 path []
      · have hbyHost : (if (Spec.stripHostPort hostPort).isEmpty then Result.none
              else Machine.lookupByDomain root (Spec.stripHostPort hostPort) path)
            = (if Spec.stripHostPort hostPort == [] then Result.none
              else pick (hostWalk root [] (Spec.stripHostPort hostPort) path [])) := by
          rw [beq_nil_isEmpty]
          by_cases hne : (Spec.stripHostPort hostPort).isEmpty = true
          · rw [if_pos hne, if_pos hne]
          · rw [if_neg hne, if_neg hne]
            exact lookupByDomain_eq_pick (hcs ▸ hkids) hroot.1.2 _ path (fun h => hne (by rw [h]; rfl))
        rw [if_neg hone, if_neg hone, hbyHost]
        cases (if Spec.stripHostPort hostPort == [] then Result.none
              else pick (hostWalk root [] (Spec.stripHostPort hostPort) path [])) with
        | none =>
          cases hf : (c0 :: cs).find? (fun c => firstByte c.key == SLASH) with
          | none => rfl
          | some c => exact lookupByPath_eq_pick (wfKids_mem hkids (List.mem_of_find?_eq_some hf)) path []
        | found r ps tsr => rfl
        | bad => rfl

end Fox.Model
