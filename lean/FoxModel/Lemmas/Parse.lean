import FoxModel.Lemmas.Parse.ByteSim
import FoxModel.Lemmas.Parse.Grammar
/-
  FoxModel.Lemmas.Parse — the validator `parseRoute` against the grammar `Spec.valid` (the theorems users rely on are in
  Props/C10.lean). The proof goes through a machine that reads a token at a time (`Lemmas/Parse/TokMachine`): the byte
  machine is that machine run on `tokenize` of the string (`Lemmas/Parse/ByteSim`), and that machine accepts exactly the
  token lists of the grammar (`Lemmas/Parse/Grammar`). The simulation computes every index expression on the way, so that
  the validator never panics is a corollary of it alone.
-/

namespace Fox.Model
open Fox

/-- **the validator never panics**: whatever the string, the simulation ends in a rejection for a reason or in
    acceptance -/
theorem parseRoute_ne_panic (mp mk : Nat) (s : Bytes) : parseRoute mp mk s ≠ .panic := by
  unfold parseRoute
  cases heh : indexByte SLASH s with
  | none => nofun
  | some eh =>
    dsimp only
    by_cases h1 : s.head? = some DOT
    · rw [if_pos h1]; nofun
    by_cases h2 : s.head? = some DASH
    · rw [if_neg h1, if_pos h2]; nofun
    rw [if_neg h1, if_neg h2]
    have A := runFrom_agree (mp := mp) (mk := mk) heh h1
    generalize accT ⟨mp, mk⟩ {} s = o at A
    match o, A with
    | none, ⟨e, he⟩ => rw [he]; nofun
    | some n, he => rw [he]; nofun

theorem tokAccept_head_ne {lim : Spec.Limits} {toks : List Tok} {n : Nat} (h : tokAccept lim toks = some n) :
    nextByte toks none ≠ some DOT ∧ nextByte toks none ≠ some DASH := by
  match toks with
  | [] => exact ⟨nofun, nofun⟩
  | .param _ :: _ => exact ⟨show some LBR ≠ some DOT by decide, show some LBR ≠ some DASH by decide⟩
  | .catchAll _ :: _ => exact ⟨show some STAR ≠ some DOT by decide, show some STAR ≠ some DASH by decide⟩
  | .lit b :: ts =>
    -- in the initial state a '.' closes an empty label and a '-' begins one
    refine ⟨fun e => ?_, fun e => ?_⟩
    · obtain rfl : b = DOT := Option.some.inj e
      simp [tokAccept, tokLoop, tokStep_host_dot (σ := {}) rfl, show closeOK {} = false from rfl] at h
    · obtain rfl : b = DASH := Option.some.inj e
      have : hostLitT {} DASH = none := rfl
      simp [tokAccept, tokLoop, tokStep_host_lit (σ := {}) rfl (show DASH ≠ SLASH by decide), this] at h

theorem slash_of_valid {lim : Spec.Limits} {s : Bytes} {toks : List Tok}
    (ht : tokenize s = some toks) (h : Spec.validToks lim toks = true) : ∃ e, indexByte SLASH s = some e := by
  have hr := render_tokenize ht
  have hm : Tok.lit SLASH ∈ toks := by
    rcases dropWhile_head toks with hp | ⟨p, hp⟩
    · simp [Spec.validToks, hp] at h
    · have : toks = toks.takeWhile (!Spec.isSlash ·) ++ toks.dropWhile (!Spec.isSlash ·) :=
        (List.takeWhile_append_dropWhile).symm
      rw [this, hp]; simp
  have hs : SLASH ∈ s := by
    rw [← hr]
    simp only [render, List.mem_flatMap]
    exact ⟨_, hm, by simp [Tok.render]⟩
  cases hi : indexByte SLASH s with
  | none => exact absurd hs (indexByte_none hi)
  | some e => exact ⟨e, rfl⟩

/-- **the validator against the grammar**: `parseRoute` accepts exactly the strings whose reading is a valid token
    list, and returns the number of its wildcards and the place of the first '/' -/
theorem parseRoute_ok_iff_valid (lim : Spec.Limits) (s : Bytes) (n e : Nat) :
    parseRoute lim.maxParams lim.maxKeyBytes s = .ok n e ↔
      indexByte SLASH s = some e ∧ ∃ toks, tokenize s = some toks ∧ Spec.validToks lim toks = true ∧ n = wilds toks := by
  have hacc (toks) : (Spec.validToks lim toks = true ∧ n = wilds toks) ↔ tokAccept lim toks = some n := by
    rw [tokAccept_eq, Option.ite_none_right_eq_some, Option.some.injEq, eq_comm (a := n)]
  simp only [hacc]
  -- the token machine rejects a first byte '.' or '-', as the two tests before the loop do
  have hhead : (∃ toks, tokenize s = some toks ∧ tokAccept lim toks = some n) →
      s.head? ≠ some DOT ∧ s.head? ≠ some DASH :=
    fun ⟨toks, ht, ha⟩ => nextByte_tokenize ht ▸ tokAccept_head_ne ha
  unfold parseRoute
  cases heh : indexByte SLASH s with
  | none => simp
  | some eh =>
    simp only
    by_cases h1 : s.head? = some DOT
    · rw [if_pos h1]; exact ⟨nofun, fun h => absurd h1 (hhead h.2).1⟩
    by_cases h2 : s.head? = some DASH
    · rw [if_neg h1, if_pos h2]; exact ⟨nofun, fun h => absurd h2 (hhead h.2).2⟩
    rw [if_neg h1, if_neg h2]
    have A := runFrom_agree (mp := lim.maxParams) (mk := lim.maxKeyBytes) heh h1
    rw [show accT ⟨lim.maxParams, lim.maxKeyBytes⟩ {} s = (tokenize s).bind (tokAccept lim) from rfl] at A
    rw [Option.some.injEq, ← Option.bind_eq_some_iff]
    generalize (tokenize s).bind (tokAccept lim) = o at A
    match o, A with
    | none, ⟨e', he⟩ => rw [he]; exact ⟨nofun, fun h => nomatch h.2⟩
    | some m, he =>
      rw [he, ParseResult.ok.injEq, Option.some.injEq]
      exact and_comm

end Fox.Model
