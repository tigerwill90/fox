import FoxModel.Lemmas.NodeBasics
/-
  The matcher's recursive functions (`walk`, `walkKids`, `walkInfix`; `hostWalk`, `hostKids`) as equations, one per
  branch, and the induction principle along the calls of `walk`. Every statement about the walk is proved from these.
-/
namespace Fox.Model
open Fox

/-- the shape of every trailing-slash site of the walk: the route `o`, if there is one, is a candidate when `c` holds -/
def tsrIf (o : Option Route) (c : Bool) (ps : Binds) : List Ev :=
  match o with
  | some r => if c then [.tsr r ps] else []
  | none => []

theorem midKeyEnd_eq (n pre k pr es ps) :
    midKeyEnd n pre k pr es ps =
      if es then tsrIf pr (pre == [.lit SLASH]) ps else tsrIf n.route (k == [.lit SLASH]) ps := rfl

theorem walk_nil_nil (n pre pr es ps) :
    walk n pre [] pr es [] ps =
      match n.route with
      | some r => [.direct r ps]
      | none =>
        if es then tsrIf pr (pre == [.lit SLASH]) ps
        else
          (match n.children.find? (fun c => startsWithSlash c.key) with
           | some c => tsrIf c.route (c.key.length == 1) ps
           | none => []) := by
  conv => lhs; unfold walk
  rfl

theorem walk_nil_cons (n pre pr es b rest ps) :
    walk n pre [] pr es (b :: rest) ps =
      (match n.route with
       | some r => if rest == [] && b == SLASH then [Ev.tsr r ps] else []
       | none => [])
      ++ (if b == STAR then [] else walkKids (.static b) n.children n.route es (b :: rest) ps)
      ++ walkKids .param n.children n.route es (b :: rest) ps
      ++ walkKids .catchAll n.children n.route es (b :: rest) ps := by
  conv => lhs; unfold walk
  rfl

theorem walk_cons_nil (n pre t k pr es ps) :
    walk n pre (t :: k) pr es [] ps = midKeyEnd n pre (t :: k) pr es ps := by
  cases t <;> (conv => lhs; unfold walk)

theorem walk_lit_eq (n pre b k' pr es p ps) :
    walk n pre (Tok.lit b :: k') pr es (b :: p) ps = walk n (pre ++ [Tok.lit b]) k' pr es p ps := by
  conv => lhs; unfold walk
  simp

theorem walk_lit_ne (n pre c k' pr es b p ps) (h : ¬ c = b) :
    walk n pre (Tok.lit c :: k') pr es (b :: p) ps = [] := by
  conv => lhs; unfold walk
  simp [h]

theorem walk_param_zero (n pre nm k' pr es b p ps) (h : segEnd SLASH (b :: p) = 0) :
    walk n pre (Tok.param nm :: k') pr es (b :: p) ps = [] := by
  conv => lhs; unfold walk
  simp [h]

theorem walk_param_step (n pre nm k' pr es b p ps) (h : ¬ segEnd SLASH (b :: p) = 0) :
    walk n pre (Tok.param nm :: k') pr es (b :: p) ps =
      walk n (pre ++ [Tok.param nm]) k' pr es ((b :: p).drop (segEnd SLASH (b :: p)))
        (ps ++ [(nm, (b :: p).take (segEnd SLASH (b :: p)))]) := by
  conv => lhs; unfold walk
  simp [h]

theorem walk_catch_leaf_some {n : Node} (hcs : n.children = []) {r : Route} (hr : n.route = some r) (pre nm pr es b p ps) :
    walk n pre [Tok.catchAll nm] pr es (b :: p) ps = [Ev.direct r (ps ++ [(nm, b :: p)])] := by
  conv => lhs; unfold walk
  simp [hcs, hr]

theorem walk_catch_leaf_none {n : Node} (hcs : n.children = []) (hr : n.route = none) (pre nm pr es b p ps) :
    walk n pre [Tok.catchAll nm] pr es (b :: p) ps = [Ev.bad] := by
  conv => lhs; unfold walk
  simp [hcs, hr]

theorem walk_catch_child_some {n c : Node} {tail : List Node} (hcs : n.children = c :: tail) {r : Route}
    (hr : n.route = some r) (pre nm pr es b p ps) :
    walk n pre [Tok.catchAll nm] pr es (b :: p) ps =
      (if b = SLASH then [] else walkInfix c nm [b] p es ps) ++ [Ev.direct r (ps ++ [(nm, b :: p)])] := by
  conv => lhs; unfold walk
  simp [hcs, hr]

theorem walk_catch_child_none {n c : Node} {tail : List Node} (hcs : n.children = c :: tail)
    (hr : n.route = none) (pre nm pr es b p ps) :
    walk n pre [Tok.catchAll nm] pr es (b :: p) ps =
      (if b = SLASH then [] else walkInfix c nm [b] p es ps) ++ [Ev.bad] := by
  conv => lhs; unfold walk
  simp [hcs, hr]

theorem walk_catch_infix_slash (n pre nm t k'' pr es p ps) :
    walk n pre (Tok.catchAll nm :: t :: k'') pr es (SLASH :: p) ps = [] := by
  conv => lhs; unfold walk
  simp

/-- An infix catch-all in front of a first byte other than '/': the continuations on the sub-node, then - the catch-all
    having captured the whole rest - a leaf with exactly "/" of its key left as candidate for adding a slash. -/
theorem walk_catch_infix (n pre nm t k'' pr es b p ps) (hb : ¬ b = SLASH) :
    walk n pre (Tok.catchAll nm :: t :: k'') pr es (b :: p) ps =
      walkInfix (.mk (t :: k'') n.route n.children) nm [b] p es ps
        ++ (if es then [] else tsrIf n.route ((t :: k'') == [.lit SLASH]) (ps ++ [(nm, b :: p)])) := by
  conv => lhs; unfold walk
  simp only [hb, if_false]
  cases es <;> cases n.route <;> rfl

/-- `walk_catch_infix_slash` and `walk_catch_infix` in one equation, for either kind of first byte -/
theorem walk_catch_infix_eq (n : Node) (pre nm t k'' pr es b rest ps) :
    walk n pre (Tok.catchAll nm :: t :: k'') pr es (b :: rest) ps =
      (if b = SLASH then [] else walkInfix (.mk (t :: k'') n.route n.children) nm [b] rest es ps)
      ++ (if b = SLASH then [] else tsrIf n.route (!es && (t :: k'') == [Tok.lit SLASH]) (ps ++ [(nm, b :: rest)])) := by
  by_cases hb : b = SLASH
  · rw [if_pos hb, if_pos hb, hb]; exact walk_catch_infix_slash ..
  · rw [if_neg hb, if_neg hb, walk_catch_infix _ _ _ _ _ _ _ _ _ _ hb]
    cases es <;> cases n.route <;> rfl

theorem walkInfix_nil (inode nm acc es ps) : walkInfix inode nm acc [] es ps = [] := by
  unfold walkInfix; rfl

theorem walkInfix_slash_stop (inode nm acc r es ps) (h : acc.getLast? = some SLASH) :
    walkInfix inode nm acc (SLASH :: r) es ps = [] := by
  conv => lhs; unfold walkInfix
  simp [h]

theorem walkInfix_slash_go (inode nm acc r es ps) (h : ¬ acc.getLast? = some SLASH) :
    walkInfix inode nm acc (SLASH :: r) es ps =
      walk inode [] inode.key none es (SLASH :: r) (ps ++ [(nm, acc)]) ++ walkInfix inode nm (acc ++ [SLASH]) r es ps := by
  conv => lhs; unfold walkInfix
  simp [h]

theorem walkInfix_other (inode nm acc b r es ps) (hb : ¬ b = SLASH) :
    walkInfix inode nm acc (b :: r) es ps = walkInfix inode nm (acc ++ [b]) r es ps := by
  conv => lhs; unfold walkInfix
  simp [hb]

theorem walkKids_nil (sel pr es path ps) : walkKids sel [] pr es path ps = [] := by
  unfold walkKids; rfl

theorem walkKids_cons (sel c cs pr es path ps) :
    walkKids sel (c :: cs) pr es path ps =
      (if sel.matches c.key then walk c [] c.key pr es path ps else []) ++ walkKids sel cs pr es path ps := by
  conv => lhs; unfold walkKids

/-- Induction along the calls of `walk` / `walkInfix` / `walkKids`, one case per equation above, binders in the order of
    `walk.mutual_induct`. (The recursion does not depend on `es`, and every call is offered as a hypothesis whether or not
    its guard holds.) -/
theorem walk_induct
    {P1 : Node → List Tok → List Tok → Option Route → Bytes → Binds → Prop}
    {P2 : Node → Bytes → Bytes → Bytes → Binds → Prop}
    {P3 : Sel → List Node → Option Route → Bytes → Binds → Prop}
    (nil_nil : ∀ n pre pr ps, P1 n pre [] pr [] ps)
    (nil_cons : ∀ n pre pr ps b rest, P3 (.static b) n.children n.route (b :: rest) ps →
      P3 .param n.children n.route (b :: rest) ps → P3 .catchAll n.children n.route (b :: rest) ps →
      P1 n pre [] pr (b :: rest) ps)
    (cons_nil : ∀ n pre t k pr ps, P1 n pre (t :: k) pr [] ps)
    (lit_eq : ∀ n pre pr ps k' b rest, P1 n (pre ++ [.lit b]) k' pr rest ps → P1 n pre (.lit b :: k') pr (b :: rest) ps)
    (lit_ne : ∀ n pre pr ps c k' b rest, ¬ c = b → P1 n pre (.lit c :: k') pr (b :: rest) ps)
    (param_zero : ∀ n pre pr ps nm k' b rest, segEnd SLASH (b :: rest) = 0 →
      P1 n pre (.param nm :: k') pr (b :: rest) ps)
    (param_step : ∀ n pre pr ps nm k' b rest, ¬ segEnd SLASH (b :: rest) = 0 →
      P1 n (pre ++ [.param nm]) k' pr ((b :: rest).drop (segEnd SLASH (b :: rest)))
        (ps ++ [(nm, (b :: rest).take (segEnd SLASH (b :: rest)))]) →
      P1 n pre (.param nm :: k') pr (b :: rest) ps)
    (catch_leaf : ∀ n pre pr ps nm b rest, n.children = [] → P1 n pre [.catchAll nm] pr (b :: rest) ps)
    (catch_child : ∀ n pre pr ps nm b rest c tail, n.children = c :: tail → P2 c nm [b] rest ps →
      P1 n pre [.catchAll nm] pr (b :: rest) ps)
    (catch_infix : ∀ n pre pr ps nm b rest t k'', P2 (.mk (t :: k'') n.route n.children) nm [b] rest ps →
      P1 n pre (.catchAll nm :: t :: k'') pr (b :: rest) ps)
    (infix_nil : ∀ inode nm acc ps, P2 inode nm acc [] ps)
    (infix_stop : ∀ inode nm acc ps rest, acc.getLast? = some SLASH → P2 inode nm acc (SLASH :: rest) ps)
    (infix_go : ∀ inode nm acc ps rest, ¬ acc.getLast? = some SLASH →
      P1 inode [] inode.key none (SLASH :: rest) (ps ++ [(nm, acc)]) → P2 inode nm (acc ++ [SLASH]) rest ps →
      P2 inode nm acc (SLASH :: rest) ps)
    (infix_other : ∀ inode nm acc ps b rest, ¬ b = SLASH → P2 inode nm (acc ++ [b]) rest ps →
      P2 inode nm acc (b :: rest) ps)
    (kids_nil : ∀ sel pr path ps, P3 sel [] pr path ps)
    (kids_cons : ∀ sel pr path ps c cs, P1 c [] c.key pr path ps → P3 sel cs pr path ps →
      P3 sel (c :: cs) pr path ps) :
    (∀ n pre k pr path ps, P1 n pre k pr path ps) ∧ (∀ inode nm acc rest ps, P2 inode nm acc rest ps) ∧
      (∀ sel cs pr path ps, P3 sel cs pr path ps) := by
  apply walk.mutual_induct true P1 P2 P3
  · intro n pre pr ps _ _; exact nil_nil n pre pr ps
  · intro n pre ps _ _ p _; exact nil_nil n pre _ ps
  · intro n pre ps _ _ p _; exact nil_nil n pre _ ps
  · intro n pre ps _ _; exact nil_nil n pre _ ps
  · intro n pre pr ps _ _ _ _ _ _ _; exact nil_nil n pre pr ps
  · intro n pre pr ps _ _ _ _ _ _ _; exact nil_nil n pre pr ps
  · intro n pre pr ps _ _ _ _ _; exact nil_nil n pre pr ps
  · intro n pre pr ps _ _ _; exact nil_nil n pre pr ps
  · exact nil_cons
  · intro n pre pr ps c k'; exact cons_nil n pre _ k' pr ps
  · exact lit_eq
  · exact lit_ne
  · intro n pre pr ps nm k'; exact cons_nil n pre _ k' pr ps
  · exact param_zero
  · exact param_step
  · intro n pre pr ps nm k'; exact cons_nil n pre _ k' pr ps
  · intro n pre pr ps nm b rest hcs _ _; exact catch_leaf n pre pr ps nm b rest hcs
  · intro n pre pr ps nm b rest hcs _; exact catch_leaf n pre pr ps nm b rest hcs
  · exact catch_child
  · exact catch_infix
  · exact infix_nil
  · exact infix_stop
  · exact infix_go
  · exact infix_other
  · exact kids_nil
  · exact kids_cons

theorem hostWalk_end_some {n c : Node} (hc : n.children.find? (fun c => startsWithSlash c.key) = some c) (path ps) :
    hostWalk n [] [] path ps = pathEvents c path ps := by
  conv => lhs; unfold hostWalk
  simp only [hc]

theorem hostWalk_end_none {n : Node} (hc : n.children.find? (fun c => startsWithSlash c.key) = none) (path ps) :
    hostWalk n [] [] path ps = [] := by
  conv => lhs; unfold hostWalk
  simp only [hc]

theorem hostWalk_nil_cons (n : Node) (b rest path ps) :
    hostWalk n [] (b :: rest) path ps =
      hostKids (.static b) n.children (b :: rest) path ps ++ hostKids .param n.children (b :: rest) path ps := by
  conv => lhs; unfold hostWalk

theorem hostWalk_tok_nil (n : Node) (t k' path ps) : hostWalk n (t :: k') [] path ps = [] := by
  cases t <;> (conv => lhs; unfold hostWalk)

theorem hostWalk_lit (n : Node) (c k' b rest path ps) :
    hostWalk n (.lit c :: k') (b :: rest) path ps = if c = b then hostWalk n k' rest path ps else [] := by
  conv => lhs; unfold hostWalk

theorem hostWalk_param (n : Node) (nm k' b rest path ps) :
    hostWalk n (.param nm :: k') (b :: rest) path ps =
      if segEnd DOT (b :: rest) = 0 then []
      else hostWalk n k' ((b :: rest).drop (segEnd DOT (b :: rest))) path
        (ps ++ [(nm, (b :: rest).take (segEnd DOT (b :: rest)))]) := by
  conv => lhs; unfold hostWalk

theorem hostWalk_catch (n : Node) (nm k' host path ps) : hostWalk n (.catchAll nm :: k') host path ps = [] := by
  conv => lhs; unfold hostWalk

theorem hostKids_nil (sel host path ps) : hostKids sel [] host path ps = [] := by
  unfold hostKids; rfl

theorem hostKids_cons (sel c cs host path ps) :
    hostKids sel (c :: cs) host path ps =
      (if sel.matches c.key then hostWalk c c.key host path ps else []) ++ hostKids sel cs host path ps := by
  conv => lhs; unfold hostKids

/-! ### `roots.lookup` as a function of its two stages -/

/-- the answer of the path stage: `lookupByPath` below the "/" child of the method root -/
def pathAnswer (cs : List Node) (path : Bytes) : Result :=
  match cs.find? (fun c => startsWithSlash c.key) with
  | some c => pick (pathEvents c path [])
  | none => .none

/-- the first answer unless it is "no match" -/
def Result.orElse (a b : Result) : Result :=
  match a with
  | .none => b
  | r => r

theorem lookup_no_root {rs : Roots} {m : Bytes} (hm : methodRoot rs m = none) (hostPort path : Bytes) :
    lookup rs m hostPort path = .none := by
  unfold lookup
  rw [hm]

theorem lookup_no_children {rs : Roots} {m : Bytes} {root : Node} (hm : methodRoot rs m = some root)
    (hc : root.children = []) (hostPort path : Bytes) : lookup rs m hostPort path = .none := by
  unfold lookup
  rw [hm]
  dsimp only
  rw [hc]

/-- `roots.lookup` on a method root: the path stage alone when the root has the "/" child only; otherwise the hostname
    stage (skipped for an empty host), then the path stage. A root without children needs no case of its own: both stages
    find nothing there. -/
theorem lookup_of_root {rs : Roots} {m : Bytes} {root : Node} (hm : methodRoot rs m = some root) (hostPort path : Bytes) :
    lookup rs m hostPort path =
      if (root.children.length == 1 && (root.children.find? (fun c => startsWithSlash c.key)).isSome) = true then
        pathAnswer root.children path
      else
        (if (Spec.stripHostPort hostPort == []) = true then Result.none
         else pick (hostWalk root [] (Spec.stripHostPort hostPort) path [])).orElse (pathAnswer root.children path) := by
  unfold lookup
  rw [hm]
  dsimp only
  cases hcs : root.children with
  | cons c0 cs0 => rfl
  | nil =>
    cases hh : Spec.stripHostPort hostPort with
    | nil => rfl
    | cons b rest => rw [hostWalk_nil_cons, hcs, hostKids_nil, hostKids_nil]; rfl

end Fox.Model
