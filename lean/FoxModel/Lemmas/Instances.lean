import FoxModel.Basic
/-
  `beq_iff_eq`, `beq_self_eq_true` and their kin on byte strings ask for `LawfulBEq (List UInt8)` / `ReflBEq (List UInt8)`,
  hence for the same class on `UInt8`. With no direct instance there the search goes through the order classes of
  `UInt8` every time, which is slow; these two answer it at once.
-/
instance : LawfulBEq UInt8 := inferInstance
instance : ReflBEq UInt8 := inferInstance
