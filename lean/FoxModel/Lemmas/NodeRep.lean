import FoxModel.Lemmas.Instances
import FoxModel.Model.NodeRep
/-
  FoxModel.Lemmas.NodeRep — the searches on the derived node fields find the child `find?` selects by first byte.

  A linear scan returns the first position holding the byte, which is what `find?` returns on any child list. Bisection
  returns some position holding it and the index loop of `newNode` the last one; when the first bytes are distinct
  there is only one (`find_of_mem`, `pos_unique`, `lastIdx_eq_linearFrom`). The ascending order is what bisection
  itself needs, and what makes the first bytes distinct.
-/
namespace Fox.Model.NodeRep
open Fox Fox.Model

/-- "the key starts with the byte `s`": the test of `Machine.staticChild` / `hostStaticChild`, and the one in which
    the searches on `childKeys` are specified here -/
def sel (s : UInt8) (c : Node) : Bool := firstByte c.key == s

theorem childKeys_cons (c : Node) (cs : List Node) : childKeys (c :: cs) = firstByte c.key :: childKeys cs := rfl

theorem find_none_of_not_mem {cs : List Node} {s : UInt8} (h : s ∉ childKeys cs) : cs.find? (sel s) = none :=
  List.find?_eq_none.mpr fun c hc hsel => h (List.mem_map.mpr ⟨c, hc, of_decide_eq_true hsel⟩)

/-! ### `linearSearch` -/

theorem linearFrom_spec (s : UInt8) (cs : List Node) : ∀ i : Nat,
    (linearFrom (childKeys cs) s i = -1 ∧ cs.find? (sel s) = none) ∨
    (∃ j c, linearFrom (childKeys cs) s i = ((i + j : Nat) : Int) ∧ cs[j]? = some c ∧ cs.find? (sel s) = some c) := by
  induction cs with
  | nil => exact fun _ => .inl ⟨rfl, rfl⟩
  | cons c cs ih =>
    intro i
    rw [childKeys_cons, linearFrom]
    by_cases h : firstByte c.key = s
    · rw [if_pos h]
      exact .inr ⟨0, c, rfl, rfl, List.find?_cons_of_pos (decide_eq_true h)⟩
    · rw [if_neg h, List.find?_cons_of_neg (p := sel s) (mt of_decide_eq_true h)]
      rcases ih (i + 1) with h' | ⟨j, d, h1, h2, h3⟩
      · exact .inl h'
      · exact .inr ⟨j + 1, d, h1.trans (congrArg Nat.cast (Nat.add_right_comm i 1 j)), h2, h3⟩

theorem childAt_natCast (cs : List Node) (j : Nat) : childAt cs (j : Int) = cs[j]? := by
  rw [childAt, if_neg (Int.not_lt.mpr (Int.natCast_nonneg j)), Int.toNat_natCast]

/-- the matcher's scan of `childKeys`, on any child list -/
theorem childAt_linearSearch (cs : List Node) (s : UInt8) :
    childAt cs (linearSearch (childKeys cs) s) = cs.find? (sel s) := by
  rw [linearSearch]
  rcases linearFrom_spec s cs 0 with ⟨h1, h2⟩ | ⟨j, c, h1, h2, h3⟩
  · rw [h1, h2]; rfl
  · rw [h1, h3, Nat.zero_add, childAt_natCast, h2]

/-! ### `binarySearch` -/


theorem uint8_eq_of_not_lt {a b : UInt8} (h1 : ¬ a < b) (h2 : ¬ b < a) : a = b :=
  UInt8.le_antisymm (UInt8.not_lt.mp h2) (UInt8.not_lt.mp h1)

/-- strictly ascending byte list, index form -/
def Asc (keys : List UInt8) : Prop := ∀ (i j : Nat) (a b : UInt8), i < j → keys[i]? = some a → keys[j]? = some b → a < b

theorem asc_of_pairwise {keys : List UInt8} (h : keys.Pairwise (· < ·)) : Asc keys := by
  intro i j a b hij ha hb
  obtain ⟨hi, rfl⟩ := List.getElem?_eq_some_iff.mp ha
  obtain ⟨hj, rfl⟩ := List.getElem?_eq_some_iff.mp hb
  exact List.pairwise_iff_getElem.mp h i j hi hj hij

theorem asc_le {keys : List UInt8} (hs : Asc keys) {i j : Nat} {a b : UInt8} (hij : i ≤ j)
    (ha : keys[i]? = some a) (hb : keys[j]? = some b) : a ≤ b := by
  rcases Nat.lt_or_eq_of_le hij with h | rfl
  · exact UInt8.le_of_lt (hs i j a b h ha hb)
  · rw [ha] at hb; cases hb; exact UInt8.le_refl a

theorem avg_bounds {lo h : Nat} (hl : lo ≤ h) : lo ≤ (lo + h) / 2 ∧ (lo + h) / 2 ≤ h := by
  refine ⟨(Nat.le_div_iff_mul_le (by decide)).mpr ?_, Nat.div_le_of_le_mul ?_⟩
  · rw [Nat.mul_two]; exact Nat.add_le_add_left hl lo
  · rw [Nat.two_mul]; exact Nat.add_le_add_right hl h

/-- the loop on the empty interval `[lo, lo)` -/
theorem bsLoop_empty (keys : List UInt8) (s : UInt8) (lo : Nat) :
    bsLoop keys s lo ((lo : Int) - 1) = some (-((lo : Int) + 1)) := by
  rw [bsLoop, dif_neg (Int.not_le.mpr (Int.sub_one_lt_of_le (Int.le_refl _)))]

/-- one round of the loop on a non-empty interval `[lo, hi)` (`low = lo`, `high = hi - 1`): it reads the key at some
    position `m` of the interval without an index panic and goes on with `[m + 1, hi)` or `[lo, m)`. Which `m` it is
    (the midpoint) matters for the running time only. -/
theorem bsLoop_probe (keys : List UInt8) (s : UInt8) {lo hi : Nat} (hl : lo < hi) (hh : hi ≤ keys.length) :
    ∃ m k, lo ≤ m ∧ m < hi ∧ keys[m]? = some k ∧ bsLoop keys s lo ((hi : Int) - 1) =
      if k < s then bsLoop keys s ((m : Int) + 1) ((hi : Int) - 1)
      else if s < k then bsLoop keys s lo ((m : Int) - 1) else some (m : Int) := by
  cases hi with
  | zero => exact absurd hl (Nat.not_lt_zero lo)
  | succ h =>
    have hlh := Nat.le_of_lt_succ hl
    have ⟨h1, h2⟩ := avg_bounds hlh
    have hlt : (lo + h) / 2 < keys.length := Nat.lt_of_le_of_lt h2 hh
    refine ⟨(lo + h) / 2, keys[(lo + h) / 2], h1, Nat.lt_succ_of_le h2, List.getElem?_eq_getElem hlt, ?_⟩
    rw [Int.natCast_add_one, Int.add_sub_cancel, bsLoop, dif_pos (Int.ofNat_le.mpr hlh), ← Int.natCast_add,
      if_neg (Int.not_lt.mpr (Int.natCast_nonneg _))]
    dsimp only
    rw [show ((lo + h : Nat) : Int) / 2 = (((lo + h) / 2 : Nat) : Int) from rfl, Int.toNat_natCast,
      List.getElem?_eq_getElem hlt]

/-- loop invariant of `binarySearch`: left of the interval everything is below `s`, right of it everything above -/
theorem bsLoop_spec (keys : List UInt8) (s : UInt8) (hs : Asc keys) : ∀ (n lo hi : Nat), hi - lo = n → lo ≤ hi →
    hi ≤ keys.length → (∀ j k, j < lo → keys[j]? = some k → k < s) → (∀ j k, hi ≤ j → keys[j]? = some k → s < k) →
    ∃ r, bsLoop keys s lo ((hi : Int) - 1) = some r ∧ ((0 ≤ r ∧ keys[r.toNat]? = some s) ∨ (r < 0 ∧ s ∉ keys)) := by
  intro n
  induction n using Nat.strongRecOn with
  | _ n ih =>
    intro lo hi hn hle hhi hl hr
    subst hn
    rcases Nat.lt_or_eq_of_le hle with hlt | rfl
    · obtain ⟨m, k, hlm, hmh, hk, heq⟩ := bsLoop_probe keys s hlt hhi
      rw [heq]
      by_cases h1 : k < s
      · rw [if_pos h1, ← Int.natCast_add_one]
        exact ih _ (Nat.sub_lt_sub_left hlt (Nat.lt_succ_of_le hlm)) (m + 1) hi rfl hmh hhi
          (fun j a hj ha => UInt8.lt_of_le_of_lt (asc_le hs (Nat.le_of_lt_succ hj) ha hk) h1) hr
      · rw [if_neg h1]
        by_cases h2 : s < k
        · rw [if_pos h2]
          exact ih _ (Nat.sub_lt_sub_right hlm hmh) lo m rfl hlm (Nat.le_trans (Nat.le_of_lt hmh) hhi) hl
            (fun j a hj ha => UInt8.lt_of_lt_of_le h2 (asc_le hs hj hk ha))
        · rw [if_neg h2]
          cases uint8_eq_of_not_lt h1 h2
          exact ⟨_, rfl, .inl ⟨Int.natCast_nonneg m, by rwa [Int.toNat_natCast]⟩⟩
    · refine ⟨_, bsLoop_empty keys s lo,
        .inr ⟨Int.neg_neg_of_pos (Int.lt_add_one_iff.mpr (Int.natCast_nonneg lo)), fun hmem => ?_⟩⟩
      obtain ⟨j, hj, rfl⟩ := List.getElem_of_mem hmem
      rcases Nat.lt_or_ge j lo with hjl | hjl
      · exact UInt8.lt_irrefl _ (hl j _ hjl (List.getElem?_eq_getElem hj))
      · exact UInt8.lt_irrefl _ (hr j _ hjl (List.getElem?_eq_getElem hj))

/-- `binarySearch` on strictly ascending keys: never an index panic; a non-negative result is a position
    holding `s`, a negative one means `s` does not occur -/
theorem binarySearch_spec (keys : List UInt8) (s : UInt8) (hs : Asc keys) :
    ∃ r, binarySearch keys s = some r ∧ ((0 ≤ r ∧ keys[r.toNat]? = some s) ∨ (r < 0 ∧ s ∉ keys)) :=
  bsLoop_spec keys s hs _ 0 keys.length rfl (Nat.zero_le _) (Nat.le_refl _)
    (fun j _ hj => absurd hj (Nat.not_lt_zero j))
    (fun _ _ hj hk => absurd (List.getElem?_eq_some_iff.mp hk).1 (Nat.not_lt.mpr hj))

/-! ### child lists with distinct first bytes -/

theorem childKeys_lt {cs : List Node} (h : (fbs cs).Pairwise (· < ·)) : (childKeys cs).Pairwise (· < ·) := by
  rw [fbs, List.pairwise_map] at h
  rw [childKeys, List.pairwise_map]
  exact h.imp UInt8.lt_iff_toNat_lt.mpr

theorem childKeys_nodup {cs : List Node} (h : (fbs cs).Pairwise (· < ·)) : (childKeys cs).Nodup :=
  (childKeys_lt h).imp UInt8.ne_of_lt

theorem find_of_mem {cs : List Node} (h : (childKeys cs).Nodup) {c : Node} (hc : c ∈ cs) :
    cs.find? (sel (firstByte c.key)) = some c := by
  induction cs with
  | nil => exact absurd hc List.not_mem_nil
  | cons d cs ih =>
    rw [childKeys_cons, List.nodup_cons] at h
    rcases List.mem_cons.mp hc with rfl | hc
    · exact List.find?_cons_of_pos (beq_self_eq_true _)
    · refine (List.find?_cons_of_neg (p := sel (firstByte c.key)) fun e => h.1 ?_).trans (ih h.2 hc)
      rw [of_decide_eq_true e]
      exact List.mem_map.mpr ⟨c, hc, rfl⟩

theorem pos_unique {cs : List Node} (h : (childKeys cs).Nodup) {i j : Nat} {c : Node}
    (hi : cs[i]? = some c) (hj : cs[j]? = some c) : i = j := by
  refine (List.getElem?_inj ?_ h).mp ?_
  · rw [childKeys, List.length_map]; exact (List.getElem?_eq_some_iff.mp hi).1
  · rw [childKeys, List.getElem?_map, List.getElem?_map, hi, hj]

/-! ### `getEdge` / `updateEdge` -/

/-- the index computed by `getEdge` / `updateEdge`, on either side of the 50-children threshold: never an index
    panic; negative iff the model finds no child, otherwise a position holding the child the model finds -/
theorem edgeIndex_spec {cs : List Node} (h : (fbs cs).Pairwise (· < ·)) (s : UInt8) :
    ∃ id, edgeIndex cs s = some id ∧
      ((id < 0 ∧ cs.find? (sel s) = none) ∨ (0 ≤ id ∧ ∃ c, cs[id.toNat]? = some c ∧ cs.find? (sel s) = some c)) := by
  unfold edgeIndex
  by_cases hl : cs.length ≤ linearMax
  · rw [if_pos hl, linearSearch]
    refine ⟨_, rfl, ?_⟩
    rcases linearFrom_spec s cs 0 with ⟨h1, h2⟩ | ⟨j, c, h1, h2, h3⟩
    · rw [h1]; exact .inl ⟨by decide, h2⟩
    · rw [h1, Nat.zero_add, Int.toNat_natCast]; exact .inr ⟨Int.natCast_nonneg j, c, h2, h3⟩
  · rw [if_neg hl]
    obtain ⟨r, hr, hcase⟩ := binarySearch_spec (childKeys cs) s (asc_of_pairwise (childKeys_lt h))
    refine ⟨r, hr, ?_⟩
    rcases hcase with ⟨h0, hk⟩ | ⟨h0, hk⟩
    · rw [childKeys, List.getElem?_map, Option.map_eq_some_iff] at hk
      obtain ⟨c, hc, hcs⟩ := hk
      exact .inr ⟨h0, c, hc, hcs ▸ find_of_mem (childKeys_nodup h) (List.mem_of_getElem? hc)⟩
    · exact .inl ⟨h0, find_none_of_not_mem hk⟩

/-- **`getEdge` = the model's child selection** when the children are in ascending order of their first byte; in
    particular it never panics -/
theorem getEdge_eq_find {cs : List Node} (h : (fbs cs).Pairwise (· < ·)) (s : UInt8) :
    getEdge cs s = some (cs.find? (sel s)) := by
  obtain ⟨id, hid, hcase⟩ := edgeIndex_spec h s
  rw [getEdge, hid]
  dsimp only
  rcases hcase with ⟨h0, hf⟩ | ⟨h0, c, hc, hf⟩
  · rw [hf]; exact if_pos h0
  · rw [hf, if_neg (Int.not_lt.mpr h0), hc]; rfl

/-- `updateEdge` with a node whose key starts like that of the child `c` puts it in `c`'s place, wherever `c` stands
    in the list, and never panics -/
theorem updateEdge_eq_set {pre post : List Node} {c n : Node} (h : (fbs (pre ++ c :: post)).Pairwise (· < ·))
    (hk : firstByte n.key = firstByte c.key) : updateEdge (pre ++ c :: post) n = some (pre ++ n :: post) := by
  have hpos : (pre ++ c :: post)[pre.length]? = some c := by
    rw [List.getElem?_append_right (Nat.le_refl _), Nat.sub_self]; rfl
  have hd := childKeys_nodup h
  have hfind := find_of_mem hd (List.mem_of_getElem? hpos)
  obtain ⟨id, hid, hcase⟩ := edgeIndex_spec h (firstByte n.key)
  rw [updateEdge, hid]
  dsimp only
  rw [hk] at hcase
  rcases hcase with ⟨_, hf⟩ | ⟨h0, e, he, hf⟩
  · rw [hf] at hfind; cases hfind
  · rw [hfind] at hf; cases hf
    rw [pos_unique hd he hpos, if_neg (Int.not_lt.mpr h0), if_pos (List.getElem?_eq_some_iff.mp hpos).1,
      List.set_append_right _ _ (Nat.le_refl _), Nat.sub_self, List.set_cons_zero]

/-! ### `paramChildIndex` / `wildcardChildIndex` -/

def isP : Node → Bool := sel LBR
def isW : Node → Bool := sel STAR

/-- what `indexLoop` records for the byte `b`: the position of the last child whose key starts with `b`, or the
    value it started with -/
def lastIdx (b : UInt8) : List Node → Nat → Int → Int
  | [], _, r => r
  | c :: cs, i, r => lastIdx b cs (i + 1) (if firstByte c.key = b then i else r)

/-- '{' and '*' differ, so the two fields are filled independently of each other -/
theorem indexLoop_eq (cs : List Node) : ∀ (i : Nat) (p w : Int),
    indexLoop cs i p w = (lastIdx LBR cs i p, lastIdx STAR cs i w) := by
  induction cs with
  | nil => exact fun _ _ _ => rfl
  | cons c cs ih =>
    intro i p w
    rw [indexLoop, lastIdx, lastIdx]
    by_cases hp : firstByte c.key = LBR
    · rw [if_pos hp, if_pos hp, if_neg (by rw [hp]; decide)]
      exact ih _ _ _
    · rw [if_neg hp, if_neg hp]
      by_cases hw : firstByte c.key = STAR
      · rw [if_pos hw, if_pos hw]
        exact ih _ _ _
      · rw [if_neg hw, if_neg hw]
        exact ih _ _ _

theorem lastIdx_of_not_mem (b : UInt8) (cs : List Node) (h : b ∉ childKeys cs) :
    ∀ (i : Nat) (r : Int), lastIdx b cs i r = r := by
  induction cs with
  | nil => exact fun _ _ => rfl
  | cons c cs ih =>
    intro i r
    rw [childKeys_cons, List.mem_cons, not_or] at h
    rw [lastIdx, if_neg (Ne.symm h.1), ih h.2]

/-- a byte that occurs once has its last position where it has its first: the index fields hold what `linearSearch`
    returns for '{' and '*' -/
theorem lastIdx_eq_linearFrom {cs : List Node} (h : (childKeys cs).Nodup) (b : UInt8) :
    ∀ i : Nat, lastIdx b cs i (-1) = linearFrom (childKeys cs) b i := by
  induction cs with
  | nil => exact fun _ => rfl
  | cons c cs ih =>
    intro i
    rw [childKeys_cons, List.nodup_cons] at h
    rw [lastIdx, childKeys_cons, linearFrom]
    by_cases hb : firstByte c.key = b
    · rw [if_pos hb, if_pos hb]
      exact lastIdx_of_not_mem b cs (hb ▸ h.1) _ _
    · rw [if_neg hb, if_neg hb]
      exact ih h.2 (i + 1)

/-- `children[paramChildIndex]` (guarded by `>= 0`) is the child whose key starts with '{' -/
theorem paramChild_eq {cs : List Node} (h : (childKeys cs).Nodup) :
    childAt cs (paramChildIndex cs) = cs.find? isP := by
  rw [paramChildIndex, indexLoop_eq, lastIdx_eq_linearFrom h LBR]
  exact childAt_linearSearch cs LBR

/-- `children[wildcardChildIndex]` (guarded by `>= 0`) is the child whose key starts with '*' -/
theorem wildChild_eq {cs : List Node} (h : (childKeys cs).Nodup) :
    childAt cs (wildcardChildIndex cs) = cs.find? isW := by
  rw [wildcardChildIndex, indexLoop_eq, lastIdx_eq_linearFrom h STAR]
  exact childAt_linearSearch cs STAR

end Fox.Model.NodeRep
