import FoxModel.Model.IterMachine
/-
  FoxModel.Lemmas.IterMachine — the explicit-stack loop of iter.go yields the pre-order listing of the tree model.
-/
namespace Fox.Model.IterMachine
open Fox Fox.Model

theorem pending_cons (f : List Node) (rest : Stack) : pending (f :: rest) = routesKids f ++ pending rest := rfl

theorem pending_push (f : List Node) (stk : Stack) :
    pending (if f.isEmpty then stk else f :: stk) = routesKids f ++ pending stk := by
  cases f <;> rfl

/-- one round of the loop: the element popped contributes its own route, if it has one; everything else is still
    pending on the stack the round leaves -/
theorem pending_step (e : Node) (es : List Node) (rest : Stack) :
    pending ((e :: es) :: rest) = e.route.toList ++ pending (advance e es rest) := by
  obtain ⟨k, r, cs⟩ := e
  rw [advance, pending_push, pending_push, ← List.append_assoc, ← List.append_assoc]
  cases r <;> rfl

theorem framesOk_push {f : List Node} {stk : Stack} (h : FramesOk stk) :
    FramesOk (if f.isEmpty then stk else f :: stk) := by
  cases f with
  | nil => exact h
  | cons c cs => exact fun g hg => (List.mem_cons.mp hg).elim (fun e => e ▸ List.cons_ne_nil c cs) (h g)

theorem framesOk_advance {e : Node} {es : List Node} {rest : Stack} (h : FramesOk ((e :: es) :: rest)) :
    FramesOk (advance e es rest) :=
  framesOk_push (framesOk_push fun f hf => h f (List.mem_cons_of_mem _ hf))

/-- one run of the loop: it ends exactly when nothing is pending, otherwise it yields the first pending route and
    leaves a stack on which the rest is pending; an empty frame (the index panic) is never met -/
theorem next_spec (stk : Stack) (hok : FramesOk stk) :
    match next stk with
    | .done => pending stk = []
    | .panic => False
    | .item r stk' => pending stk = r :: pending stk' ∧ FramesOk stk' := by
  fun_induction next stk with
  | case1 => rfl
  | case2 rest => exact hok [] List.mem_cons_self rfl
  | case3 e es rest r hr =>
    refine ⟨?_, framesOk_advance hok⟩
    rw [pending_step, hr]
    rfl
  | case4 e es rest hr ih =>
    rw [pending_step, hr]
    exact ih (framesOk_advance hok)

/-- **the loop yields the pre-order listing, and a consumer that stops after `k` items has seen its first `k`** -/
theorem drain_take (k : Nat) : ∀ stk : Stack, FramesOk stk → drain k stk = some ((pending stk).take k) := by
  induction k with
  | zero => exact fun _ _ => rfl
  | succ k ih =>
    intro stk hok
    have h := next_spec stk hok
    rw [drain]
    generalize next stk = res at h ⊢
    cases res with
    | done => rw [show pending stk = [] from h]; rfl
    | panic => exact h.elim
    | item r stk' =>
      rw [show pending stk = r :: pending stk' from h.1]
      exact congrArg (Option.map (r :: ·)) (ih stk' h.2)

theorem pending_single (n : Node) : pending [[n]] = routesNode n :=
  (List.append_nil _).trans (List.append_nil _)

end Fox.Model.IterMachine
