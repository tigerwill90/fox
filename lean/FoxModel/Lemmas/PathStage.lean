import FoxModel.Lemmas.TsrAdd
/-
  The path stage of `roots.lookup` (lookupByPath on the "/" child) equals the specification `pathOnlyS` on the suffix
  set of that child: best direct match, else best slash-adjusted match (remove / add against a literal '/').
-/
namespace Fox.Spec
open Fox

/-- `Spec.pathOnly` on a suffix set instead of a route list -/
def pathOnlyS (S : SufSet) (path : Bytes) (ps : Binds) : Option Found :=
  (first (specAll S path ps) false).orElse fun _ =>
    match adjust path with
    | none => none
    | some (p', added) => first (specAll (if added then flt endsWithLitSlash S else S) p' ps) true

theorem sufsOf_filter (rs : List Route) (p : Route → Bool) : sufsOf (rs.filter p) = flt p (sufsOf rs) := by
  unfold sufsOf flt
  rw [List.filter_map]
  rfl

theorem pathOnly_eq (P : List Route) (path : Bytes) : pathOnly P path = pathOnlyS (sufsOf P) path [] := by
  unfold pathOnly pathOnlyS bestTsr
  congr 1
  funext _
  cases adjust path with
  | none => rfl
  | some x =>
    obtain ⟨p', added⟩ := x
    cases added <;> simp [sufsOf_filter]

theorem pathOnlyS_nil (path ps) : pathOnlyS [] path ps = none := by
  unfold pathOnlyS
  simp only [specAll_nil, first, Option.orElse]
  cases adjust path with
  | none => rfl
  | some x => obtain ⟨p', added⟩ := x; cases added <;> simp [specAll_nil, flt]

/-- the route filter of the slash-adjusted search: all routes when a slash was removed, the routes ending in a
    literal '/' when one was added -/
def pOf (added : Bool) : Route → Bool := if added then endsWithLitSlash else fun _ => true

/-- adjusted path and direction; for "/" (no adjustment possible) the empty path, which nothing matches -/
def adjTarget (path : Bytes) : Bytes × Bool :=
  match adjust path with
  | none => ([], false)
  | some x => x

theorem flt_pOf (added : Bool) (S : SufSet) : flt (pOf added) S = if added then flt endsWithLitSlash S else S := by
  cases added <;> simp [pOf, flt_true]

/-- the slash-adjusted search of `pathOnlyS` / `hostOnlyS` in terms of `adjTarget`, for a search `run` that finds nothing
    on the empty path -/
theorem first_adjusted (run : SufSet → Bytes → Res) (S : SufSet) (path : Bytes) (h0 : run S [] = []) :
    first (run (flt (pOf (adjTarget path).2) S) (adjTarget path).1) true =
      match adjust path with
      | none => none
      | some (p', added) => first (run (if added then flt endsWithLitSlash S else S) p') true := by
  unfold adjTarget
  cases adjust path with
  | none => simp only [flt_pOf, Bool.false_eq_true, if_false]; rw [h0]; rfl
  | some x => simp only [flt_pOf]

end Fox.Spec

namespace Fox.Model
open Fox Fox.Spec

/-- an answer of the specification as a result of the matcher (the matcher's `.bad` has no counterpart) -/
def toResult : Option Found → Result
  | none => .none
  | some f => .found f.route f.params f.tsr

theorem endsWithSlash_false_iff {q : Bytes} : endsWithSlash q = false ↔ q.getLast? ≠ some SLASH :=
  beq_eq_false_iff_ne

/-- add direction, any parameter prefix -/
theorem path_sim_add {c : Node} (h : wfNode c = true) (hL : LastOK (sufsNode c)) (q : Bytes) (ps : Binds)
    (hq : q.getLast? ≠ some SLASH) (hn : noDbl q = true) (hX : specAll (sufsNode c) q ps = []) :
    Sim (tsrs (pathEvents c q ps)) (specAll (F (sufsNode c)) (q ++ [SLASH]) ps) := by
  have hf := wfNode_parts h
  have := tsr_add_all.1 c [] c.key none q ps hf.1 hf.2.1 hf.2.2 (by rw [← sufsNode_eq]; exact hL) hq hn
    ((walk_direct h ..).trans hX)
  rw [← sufsNode_eq] at this
  unfold pathEvents
  rw [endsWithSlash_false_iff.mpr hq]
  exact this

theorem dropLast_append_slash (q : Bytes) : (q ++ [SLASH]).dropLast = q := by simp

theorem adjust_append_slash {q : Bytes} (hq : q ≠ []) : adjust (q ++ [SLASH]) = some (q, false) := by
  unfold adjust
  have h1 : ¬ (q ++ [SLASH] = [SLASH]) := by
    intro h
    cases q with
    | nil => exact hq rfl
    | cons a as => simp at h
  simp [h1, endsWithSlash_append_slash]

theorem adjust_no_slash {q : Bytes} (hq : q.getLast? ≠ some SLASH) : adjust q = some (q ++ [SLASH], true) := by
  unfold adjust
  have h1 : ¬ (q = [SLASH]) := by intro h; rw [h] at hq; simp at hq
  simp [h1, endsWithSlash_false_iff.mpr hq]

/-- both directions in one statement, in the shape the hostname walk uses as well -/
theorem path_sim {c : Node} (h : wfNode c = true) (hL : LastOK (sufsNode c)) (path : Bytes) (ps : Binds)
    (hn : noDbl path = true) (hX : specAll (sufsNode c) path ps = []) :
    Sim (tsrs (pathEvents c path ps))
      (specAll (flt (pOf (adjTarget path).2) (sufsNode c)) (adjTarget path).1 ps) := by
  by_cases hq : path.getLast? = some SLASH
  · obtain ⟨q, rfl⟩ := List.getLast?_eq_some_iff.mp hq
    have ht : adjTarget (q ++ [SLASH]) = (q, false) := by
      by_cases hq0 : q = []
      · subst hq0; rfl
      · simp [adjTarget, adjust_append_slash hq0]
    rw [ht, flt_pOf]
    exact path_sim_remove h q ps hX
  · have ht : adjTarget path = (path ++ [SLASH], true) := by simp [adjTarget, adjust_no_slash hq]
    rw [ht, flt_pOf]
    exact path_sim_add h hL path ps hq hn hX

/-- from the events to the result: the first direct match, else the first of a list `Sim`-related to the candidates -/
theorem pick_of_sim {evs : List Ev} {D T : Res} (hb : Ev.bad ∉ evs) (hD : directs evs = D)
    (hT : D = [] → Sim (tsrs evs) T) :
    pick evs = toResult ((first D false).orElse fun _ => first T true) := by
  rw [pick_eq hb, hD]
  cases D with
  | cons x xs => rfl
  | nil =>
    rw [firstTsr_of_sim (hT rfl)]
    cases T with
    | nil => rfl
    | cons y ys => rfl

/-- **the path stage equals the specification**: for every well-formed subtree `c` whose stored suffixes end like their
    routes' patterns, every parameter prefix and every path without empty segment, `lookupByPath` returns the best direct
    match, else the best match of the path with its trailing slash removed, else (no trailing slash) the best match of the
    path with a slash added among the routes ending in a literal '/', else nothing -/
theorem pathStage_eq_spec {c : Node} (h : wfNode c = true) (hL : LastOK (sufsNode c)) (path : Bytes) (ps : Binds)
    (hn : noDbl path = true) :
    pick (pathEvents c path ps) = toResult (pathOnlyS (sufsNode c) path ps) := by
  obtain ⟨t, k', _, hh⟩ := wfNode_head h
  rw [pick_of_sim (pathEvents_no_bad h path ps) (pathEvents_direct h path ps) (path_sim h hL path ps hn),
    first_adjusted (fun S p => specAll S p ps) _ path (specAll_head_nil hh ps)]
  rfl

end Fox.Model
