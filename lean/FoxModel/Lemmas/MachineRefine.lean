import FoxModel.Lemmas.MachineKids
import FoxModel.Lemmas.NoBad
import FoxModel.Lemmas.MachineEqns
/-
  The state machine of `Model/Machine.lean` (the Go control flow of lookupByPath: registers, skipped-node stack,
  parameter buffer truncated on backtracking, first trailing-slash candidate kept, early return) computes `pick` of
  the enumerating walk of `Model/Lookup.lean` on every well-formed node.

  Invariant of a machine state: the answer of the machine is `pickC tsr (events still to explore)`, where the events
  still to explore are those of the walk at the current position followed by those of the skipped alternatives on the
  stack, each started with the parameters that the backtrack will restore.
-/
namespace Fox.Model
open Fox Fox.Model.Machine

/-! ### small facts about lists, segments and keys -/

theorem head_of_drop {p : Bytes} {cm : Nat} {b : UInt8} {rest : Bytes} (hp : p.drop cm = b :: rest) :
    (p.drop cm).head? = some b := by rw [hp]; rfl

theorem beq_nil_isEmpty (rest : Bytes) : (rest == []) = rest.isEmpty := by cases rest <;> rfl

theorem cons_beq_singleton (b c : UInt8) (rest : Bytes) : (b :: rest == [c]) = (rest.isEmpty && b == c) := by
  cases rest with
  | nil => exact (Bool.and_true _).trans (Bool.true_and _).symm
  | cons x xs => exact Bool.and_false _

theorem segEnd_zero_iff (d b : UInt8) (rest : Bytes) : segEnd d (b :: rest) = 0 ↔ b = d := by
  simp only [segEnd]
  split
  · simp [*]
  · constructor
    · intro h; omega
    · intro h; contradiction

theorem segEnd_drop_slash (d : UInt8) (s : Bytes) (h : segEnd d s < s.length) : ∃ r, s.drop (segEnd d s) = d :: r := by
  induction s with
  | nil => simp at h
  | cons x xs ih =>
    simp only [segEnd] at h ⊢
    split
    · rename_i hx; exact ⟨xs, by simp [hx]⟩
    · rename_i hx
      rw [if_neg hx] at h
      have : segEnd d xs < xs.length := by simp at h; omega
      obtain ⟨r, hr⟩ := ih this
      exact ⟨r, by rw [Nat.add_comm, List.drop_succ_cons]; exact hr⟩

theorem segEnd_noslash {d : UInt8} {s : Bytes} (h : ¬ segEnd d s < s.length) : d ∉ s := by
  have hle := segEnd_le d s
  have : segEnd d s = s.length := Nat.le_antisymm hle (Nat.le_of_not_lt h)
  have h2 := Spec.segEnd_take_no_delim d s
  rw [this, List.take_length] at h2
  exact h2

theorem walkInfix_skip (inode nm es ps) (seg : Bytes) (hs : SLASH ∉ seg) (acc rest : Bytes) :
    walkInfix inode nm acc (seg ++ rest) es ps = walkInfix inode nm (acc ++ seg) rest es ps := by
  induction seg generalizing acc with
  | nil => simp
  | cons x xs ih =>
    have hx : ¬ x = SLASH := fun h => hs (by simp [h])
    rw [List.cons_append, walkInfix_other _ _ _ _ _ _ _ hx, ih (fun h => hs (List.mem_cons_of_mem _ h))]
    simp

theorem walkInfix_noslash (inode nm es ps) (seg : Bytes) (hs : SLASH ∉ seg) (acc : Bytes) :
    walkInfix inode nm acc seg es ps = [] := by
  have := walkInfix_skip inode nm es ps seg hs acc []
  simp only [List.append_nil] at this
  rw [this, walkInfix_nil]

theorem endsWithSlash_drop {p : Bytes} {n : Nat} (h : p.drop n ≠ []) : endsWithSlash (p.drop n) = endsWithSlash p := by
  unfold endsWithSlash
  rw [List.getLast?_drop]
  have : ¬ p.length ≤ n := by
    intro hle; exact h (List.drop_eq_nil_of_le hle)
  simp [this]

theorem wfNode_inode {cur : Node} (h : wfNode cur = true) {pre : List Tok} {t : Tok} {k'' : List Tok}
    (hkey : pre ++ (t :: k'') = cur.key) : wfNode (.mk (t :: k'') cur.route cur.children) = true := by
  obtain ⟨k, r, cs⟩ := cur
  obtain ⟨_, hko, hd, hc, hw⟩ := (wfNode_iff k r cs).mp h
  cases hkey
  exact (wfNode_iff ..).mpr ⟨List.cons_ne_nil _ _, keyOk_append_right _ _ hko, hd,
    fun he => hc ((endsWithCatchAll_append pre (List.cons_ne_nil t k'')).trans he), hw⟩

theorem pre_catch_ne (pre : List Tok) (nm : Bytes) : (pre ++ [Tok.catchAll nm] == [Tok.lit SLASH]) = false := by
  cases pre with
  | nil => rfl
  | cons t pre =>
    cases pre with
    | nil => exact Bool.and_false _
    | cons t' pre' => exact Bool.and_false _

theorem find_slash (cs : List Node) :
    cs.find? (fun c => firstByte c.key == SLASH) = cs.find? (fun c => startsWithSlash c.key) := by
  apply find_congr; intro x _; exact firstByte_slash x.key

/-! ### the events still to explore, and the invariant -/

/-- the events of one skipped alternative, once it is popped -/
def frameEvs (es : Bool) (p : Bytes) (params : Binds) (f : Frame) : List Ev :=
  walk f.child [] f.child.key f.n.route es (p.drop f.pathIndex) (params.take f.paramCnt)

/-- the events of the whole stack (top first); popping an entry truncates the parameters for the ones below -/
def stackEvs (es : Bool) (p : Bytes) : Binds → List Frame → List Ev
  | _, [] => []
  | params, f :: st => frameEvs es p params f ++ stackEvs es p (params.take f.paramCnt) st

/-- stack discipline: parameter counts do not increase towards the bottom and never exceed the buffer; the saved
    children are well-formed nodes -/
def stackOk : Nat → List Frame → Prop
  | _, [] => True
  | n, f :: st => f.paramCnt ≤ n ∧ wfNode f.child = true ∧ stackOk f.paramCnt st

theorem stackOk_append {ps : Binds} {st : List Frame} (hs : stackOk ps.length st) (x : Binds) :
    stackOk (ps ++ x).length st := by
  cases st with
  | nil => trivial
  | cons f st => exact ⟨Nat.le_trans hs.1 (by rw [List.length_append]; exact Nat.le_add_right _ _), hs.2⟩

theorem stackOk_pop {ps : Binds} {f : Frame} {st : List Frame} (h : stackOk ps.length (f :: st)) :
    f.paramCnt = (ps.take f.paramCnt).length ∧ stackOk (ps.take f.paramCnt).length st := by
  rw [List.length_take, Nat.min_eq_left h.1]
  exact ⟨rfl, h.2.2⟩

theorem stackEvs_append (es p) (params x : Binds) {st : List Frame} (hs : stackOk params.length st) :
    stackEvs es p (params ++ x) st = stackEvs es p params st := by
  cases st with
  | nil => rfl
  | cons f st =>
    simp only [stackEvs, frameEvs]
    rw [List.take_append_of_le_length hs.1]

theorem stackEvs_take (es p) (params : Binds) {st : List Frame} (hs : stackOk params.length st) :
    stackEvs es p (params.take params.length) st = stackEvs es p params st := by
  rw [List.take_length]

theorem stackEvs_params_congr (es p) {R : Regs} {ps : Binds} (h : R.params = ps) : stackEvs es p R.params = stackEvs es p ps := by
  rw [h]

/-- `setTsr` and `ret` on the walk's side: what a trailing-slash site, resp. a `return current, false`, contributes
    (`pickC_candEvs`, `pickC_retEvs`) -/
def candEvs (o : Option Route) (ps : Binds) : List Ev :=
  match o with
  | some r => [.tsr r ps]
  | none => []

def retEvs (o : Option Route) (ps : Binds) : List Ev :=
  match o with
  | some r => [.direct r ps]
  | none => [.bad]

theorem pickC_retEvs (t o ps X) : pickC t (retEvs o ps ++ X) = ret o ps := by
  cases o <;> rfl

theorem pickC_candEvs (R : Regs) (o : Option Route) (ps : Binds) (X : List Ev) :
    pickC R.tsr (candEvs o ps ++ X) = pickC (setTsr R o ps).tsr X := by
  rw [setTsr_tsr]
  cases o <;> rfl

/-- what the analysis after the `Walk` loop contributes -/
def postEvs (p : Bytes) (cur : Node) (pre k : List Tok) (parent : Option Node) (cm : Nat) (ps : Binds) : List Ev :=
  if cur.isLeaf && (p.drop cm).isEmpty && k.isEmpty then retEvs cur.route ps
  else candEvs (postCand p cur pre k parent cm) ps

/-- `pos`: past the first token of a key at least one byte is read. At the end of a (non-empty) key this gives the
    `charsMatched > 0` of the early "remove the slash" site (`WalkInv.cm_pos`, `earlyCand`). -/
structure WalkInv (cur : Node) (pre k : List Tok) (cm pc : Nat) (R : Regs) : Prop where
  wf : wfNode cur = true
  key : pre ++ k = cur.key
  pos : pre ≠ [] → 0 < cm
  cnt : pc = R.params.length
  st : stackOk R.params.length R.skipNds

/-- events of the catch-all loop still to come when the machine is at `cm` (capture started at `startPath`). Before the
    first byte is read the walk has not started its accumulator (it starts it as `[b]`, and not at all on a '/'); from
    then on the accumulator is the capture so far (`infixEvs_cons`). -/
def infixEvs (inode : Node) (nm : Bytes) (es : Bool) (p : Bytes) (startPath cm : Nat) (ps : Binds) : List Ev :=
  if cm = startPath then
    (match p.drop cm with
     | [] => []
     | b :: rest => if b = SLASH then [] else walkInfix inode nm [b] rest es ps)
  else walkInfix inode nm ((p.drop startPath).take (cm - startPath)) (p.drop cm) es ps

/-- what follows the catch-all loop -/
def tailEvs (p : Bytes) (cur : Node) (pre k' : List Tok) (nm : Bytes) (parent : Option Node) (startPath cm : Nat)
    (ps : Binds) : List Ev :=
  if k' = [] then retEvs cur.route (ps ++ [(nm, p.drop startPath)])
  else if (p.drop startPath).head? = some SLASH then postEvs p cur pre k' parent cm (ps ++ [(nm, p.drop startPath)])
  else postEvs p cur pre k' parent p.length (ps ++ [(nm, p.drop startPath)])

/- The invariant for each function of the machine, in the order of `keyLoop.mutual_induct`:
   `P1` keyLoop, `P2` infixLoop, `P3` infixTail, `P4` afterLoop, `P5` backtrack, `P6` nodeEnd. -/
def P1 (p : Bytes) (cur : Node) (pre k : List Tok) (parent : Option Node) (cm pc : Nat) (R : Regs) : Prop :=
  WalkInv cur pre k cm pc R →
  keyLoop false p cur pre k parent cm pc R =
    pickC R.tsr (walk cur pre k (parentLeafRoute parent) (endsWithSlash p) (p.drop cm) R.params
      ++ stackEvs (endsWithSlash p) p R.params R.skipNds)

def P2 (p : Bytes) (cur : Node) (pre k' : List Tok) (nm : Bytes) (parent : Option Node) (inode : Node)
    (startPath cm : Nat) (R : Regs) : Prop :=
  wfNode inode = true → stackOk R.params.length R.skipNds → startPath ≤ cm →
  (cm ≠ startPath → ((p.drop startPath).take (cm - startPath)).getLast? = some SLASH) →
  ((p.drop startPath).head? = some SLASH → cm = startPath ∧ p.drop cm ≠ []) →
  infixLoop false p cur pre k' nm parent inode startPath cm R =
    pickC R.tsr (infixEvs inode nm (endsWithSlash p) p startPath cm R.params
      ++ (tailEvs p cur pre k' nm parent startPath cm R.params ++ stackEvs (endsWithSlash p) p R.params R.skipNds))

def P3 (p : Bytes) (cur : Node) (pre k' : List Tok) (nm : Bytes) (parent : Option Node)
    (startPath cm : Nat) (R : Regs) : Prop :=
  stackOk R.params.length R.skipNds →
  infixTail false p cur pre k' nm parent startPath cm R =
    pickC R.tsr (tailEvs p cur pre k' nm parent startPath cm R.params ++ stackEvs (endsWithSlash p) p R.params R.skipNds)

def P4 (p : Bytes) (cur : Node) (pre k : List Tok) (parent : Option Node) (cm : Nat) (R : Regs) : Prop :=
  stackOk R.params.length R.skipNds →
  afterLoop false p cur pre k parent cm R =
    pickC R.tsr (postEvs p cur pre k parent cm R.params ++ stackEvs (endsWithSlash p) p R.params R.skipNds)

def P5 (p : Bytes) (R : Regs) : Prop :=
  stackOk R.params.length R.skipNds →
  backtrack false p R = pickC R.tsr (stackEvs (endsWithSlash p) p R.params R.skipNds)

def P6 (p : Bytes) (cur : Node) (pre : List Tok) (parent : Option Node) (cm pc : Nat) (b : UInt8) (rest : Bytes)
    (R : Regs) : Prop :=
  WalkInv cur pre [] cm pc R → p.drop cm = b :: rest →
  nodeEnd false p cur pre parent cm pc b rest R =
    pickC R.tsr (walk cur pre [] (parentLeafRoute parent) (endsWithSlash p) (b :: rest) R.params
      ++ stackEvs (endsWithSlash p) p R.params R.skipNds)

/-! ### the analysis after the `Walk` loop is what the walk reports when it stops -/

theorem postEvs_mid {p : Bytes} {cm : Nat} {b : UInt8} {rest : Bytes} (hp : p.drop cm = b :: rest) (cur pre t k parent ps) :
    postEvs p cur pre (t :: k) parent cm ps = [] := by
  unfold postEvs postCand
  rw [hp]
  simp [candEvs]

theorem walk_end_eq_postEvs {p : Bytes} {cm : Nat} (hp : p.drop cm = []) (cur pre k parent ps) :
    walk cur pre k (parentLeafRoute parent) (endsWithSlash p) [] ps = postEvs p cur pre k parent cm ps := by
  unfold postEvs postCand Node.isLeaf
  rw [hp, find_slash]
  cases k with
  | nil =>
    rw [walk_nil_nil]
    generalize (pre == [Tok.lit SLASH]) = e
    cases cur.route with
    | some r => rfl
    | none =>
      cases endsWithSlash p with
      | true => cases parentLeafRoute parent <;> cases e <;> rfl
      | false =>
        cases cur.children.find? (fun c => startsWithSlash c.key) with
        | none => rfl
        | some c =>
          dsimp only
          generalize (c.key.length == 1) = e'
          cases c.route <;> cases e' <;> rfl
  | cons t k' =>
    rw [walk_cons_nil]
    unfold midKeyEnd
    generalize (pre == [Tok.lit SLASH]) = e
    generalize (t :: k' == [Tok.lit SLASH]) = e'
    cases endsWithSlash p with
    | true => cases cur.route <;> cases parentLeafRoute parent <;> cases e <;> rfl
    | false =>
      cases cur.route with
      | none => rfl
      | some r => cases e' <;> rfl

/-! ### the end of a node's key: the children in the machine's order -/

theorem WalkInv.cm_pos {cur : Node} {pre : List Tok} {cm pc : Nat} {R : Regs} (h : WalkInv cur pre [] cm pc R) : 0 < cm := by
  apply h.pos
  have := h.key
  rw [List.append_nil] at this
  rw [this]; exact (wfNode_key h.wf).1

theorem WalkInv.kids {cur : Node} {pre k : List Tok} {cm pc : Nat} {R : Regs} (h : WalkInv cur pre k cm pc R) :
    wfKids cur.children = true :=
  (wfNode_leafcond h.wf).1

theorem WalkInv.start {c : Node} (hw : wfNode c = true) {cm pc : Nat} {R : Regs} (hc : pc = R.params.length)
    (hs : stackOk R.params.length R.skipNds) : WalkInv c [] c.key cm pc R :=
  ⟨hw, rfl, fun h => absurd rfl h, hc, hs⟩

theorem walk_nodeEnd {cur : Node} (hw : wfNode cur = true) {cm : Nat} (hcm : 0 < cm) (pre pr es b rest ps) :
    walk cur pre [] pr es (b :: rest) ps =
      candEvs (earlyCand cur cm b rest) ps
      ++ ((if b == STAR then [] else walkKids (.static b) cur.children cur.route es (b :: rest) ps)
      ++ ((match paramChild cur with | some c => walk c [] c.key cur.route es (b :: rest) ps | none => [])
      ++ (match wildChild cur with | some c => walk c [] c.key cur.route es (b :: rest) ps | none => []))) := by
  rw [walk_nil_cons, walkKids_find (wfNode_nodup hw) .param, walkKids_find (wfNode_nodup hw) .catchAll, List.append_assoc,
    List.append_assoc]
  congr 1
  unfold earlyCand Node.isLeaf
  rw [beq_nil_isEmpty, decide_eq_true hcm]
  cases cur.route with
  | none => rfl
  | some r =>
    generalize rest.isEmpty = e1
    generalize (b == SLASH) = e2
    cases e1 <;> cases e2 <;> rfl

/-- inside the path, at the end of the key, the late "exactly '/' is left" site repeats the early one -/
theorem postEvs_early {p : Bytes} {cm : Nat} {b : UInt8} {rest : Bytes} (hp : p.drop cm = b :: rest) (hcm : 0 < cm)
    (cur pre parent ps) : postEvs p cur pre [] parent cm ps = candEvs (earlyCand cur cm b rest) ps := by
  unfold postEvs postCand earlyCand Node.isLeaf
  rw [hp, decide_eq_true hcm, cons_beq_singleton]
  simp only [List.isEmpty_cons, List.isEmpty_nil, Bool.and_false, Bool.false_and, Bool.and_true, Bool.false_eq_true, if_false,
    if_true]
  cases cur.route <;> rfl

/-- at the end of a node's key the walk offers what the machine tries, in its order: the early candidate, the child its
    linear search finds, the param child, the catch-all child. For a path byte '{' the search lands on the param child,
    which is then explored twice. -/
theorem pickC_nodeEnd {cur : Node} {pre : List Tok} {cm pc : Nat} {R : Regs} (hinv : WalkInv cur pre [] cm pc R)
    (pr es b rest) (S : List Ev) :
    pickC R.tsr (walk cur pre [] pr es (b :: rest) R.params ++ S) =
      pickC (earlyTsr cur cm b rest R).tsr
        ((match staticChild cur b with | some c => walk c [] c.key cur.route es (b :: rest) R.params | none => [])
        ++ ((match paramChild cur with | some c => walk c [] c.key cur.route es (b :: rest) R.params | none => [])
        ++ ((match wildChild cur with | some c => walk c [] c.key cur.route es (b :: rest) R.params | none => []) ++ S))) := by
  have hwk := hinv.kids
  rw [walk_nodeEnd hinv.wf (hinv.cm_pos), List.append_assoc, pickC_candEvs, List.append_assoc, List.append_assoc]
  by_cases hstar : b = STAR
  · subst hstar; rw [staticChild_star]; rfl
  · rw [if_neg (by simpa using hstar)]
    by_cases hl : b = LBR
    · subst hl
      rw [walkKids_static_lbr hwk, staticChild_lbr hwk, List.nil_append]
      exact (pickC_dup _ _ _).symm
    · rw [walkKids_find (wfNode_nodup hinv.wf), ← staticChild_static hwk hl hstar]
      rfl

theorem stackEvs_pushWild (es p) (cur : Node) (cm : Nat) (ps : Binds) (st : List Frame) :
    stackEvs es p ps (pushWild cur cm ps.length st) =
      (match wildChild cur with | some c => walk c [] c.key cur.route es (p.drop cm) ps | none => []) ++ stackEvs es p ps st := by
  unfold pushWild
  cases wildChild cur with
  | none => rfl
  | some wc => simp only [stackEvs, frameEvs, List.take_length]

theorem stackEvs_pushParam (es p) (cur : Node) (cm : Nat) (ps : Binds) (st : List Frame) :
    stackEvs es p ps (pushParam cur cm ps.length st) =
      (match paramChild cur with | some c => walk c [] c.key cur.route es (p.drop cm) ps | none => []) ++ stackEvs es p ps st := by
  unfold pushParam
  cases paramChild cur with
  | none => rfl
  | some wc => simp only [stackEvs, frameEvs, List.take_length]

theorem child_wf {cur : Node} (hw : wfKids cur.children = true) {f : Node → Bool} {c : Node}
    (h : cur.children.find? f = some c) : wfNode c = true :=
  wfKids_mem hw (List.mem_of_find?_eq_some h)

theorem stackOk_pushWild {cur : Node} (hw : wfKids cur.children = true) (cm n : Nat) {st : List Frame} (hs : stackOk n st) :
    stackOk n (pushWild cur cm n st) := by
  unfold pushWild
  cases h : wildChild cur with
  | none => exact hs
  | some wc => exact ⟨Nat.le_refl _, child_wf hw h, hs⟩

theorem stackOk_pushParam {cur : Node} (hw : wfKids cur.children = true) (cm n : Nat) {st : List Frame} (hs : stackOk n st) :
    stackOk n (pushParam cur cm n st) := by
  unfold pushParam
  cases h : paramChild cur with
  | none => exact hs
  | some wc => exact ⟨Nat.le_refl _, child_wf hw h, hs⟩

theorem WalkInv.stack {cur : Node} {pre : List Tok} {cm pc : Nat} {R : Regs} (h : WalkInv cur pre [] cm pc R)
    (b : UInt8) (rest : Bytes) : stackOk pc (earlyTsr cur cm b rest R).skipNds := by
  rw [earlyTsr_skipNds, h.cnt]; exact h.st

/-- what the invariant says where the machine enters the child `c` found by one of its searches, with `st` stacked -/
theorem enter_child {p : Bytes} {cur c : Node} {pre : List Tok} {cm pc : Nat} {R : Regs} (hinv : WalkInv cur pre [] cm pc R)
    {b : UInt8} {rest : Bytes} (hp : p.drop cm = b :: rest) {f : Node → Bool} (hc : cur.children.find? f = some c)
    {st : List Frame} (hst : stackOk pc st)
    (ih : P1 p c [] c.key (some cur) cm pc { earlyTsr cur cm b rest R with skipNds := st }) :
    keyLoop false p c [] c.key (some cur) cm pc { earlyTsr cur cm b rest R with skipNds := st } =
      pickC (earlyTsr cur cm b rest R).tsr
        (walk c [] c.key cur.route (endsWithSlash p) (b :: rest) R.params ++ stackEvs (endsWithSlash p) p R.params st) := by
  have hinv' : WalkInv c [] c.key cm pc { earlyTsr cur cm b rest R with skipNds := st } :=
    .start (child_wf hinv.kids hc) (by rw [earlyTsr_params]; exact hinv.cnt) (by rw [earlyTsr_params, ← hinv.cnt]; exact hst)
  rw [ih hinv', hp]
  simp only [earlyTsr_params]
  rfl

/-! ### the catch-all loop -/

/-- the capture `(p.drop sp).take (· - sp)` grows by what is read -/
theorem take_sub_add {p l : Bytes} {sp cm : Nat} (hle : sp ≤ cm) (h : p.drop cm = l) (n : Nat) :
    (p.drop sp).take (cm + n - sp) = (p.drop sp).take (cm - sp) ++ l.take n := by
  rw [Nat.sub_add_comm hle, List.take_add, List.drop_drop, Nat.add_sub_cancel' hle, h]

theorem walkInfix_seg (inode nm es ps) {acc seg : Bytes} (hs : SLASH ∉ seg) (hne : seg ≠ []) (r : Bytes) :
    walkInfix inode nm acc (seg ++ SLASH :: r) es ps =
      walk inode [] inode.key none es (SLASH :: r) (ps ++ [(nm, acc ++ seg)])
        ++ walkInfix inode nm (acc ++ seg ++ [SLASH]) r es ps := by
  have hgl : ¬ (acc ++ seg).getLast? = some SLASH := by
    rw [List.getLast?_append]
    cases hl : seg.getLast? with
    | none => exact absurd (List.getLast?_eq_none_iff.mp hl) hne
    | some x =>
      intro hx
      have : x = SLASH := by simpa using hx
      exact hs (this ▸ List.mem_of_getLast? hl)
  rw [walkInfix_skip _ _ _ _ _ hs, walkInfix_slash_go _ _ _ _ _ _ hgl]

/-- where the catch-all loop stands after one turn: behind the next '/' -/
theorem infix_next {p : Bytes} {startPath cm : Nat} (hle : startPath ≤ cm) {b : UInt8} {rest : Bytes}
    (hp : p.drop cm = b :: rest) (h1 : segEnd SLASH (b :: rest) < (b :: rest).length) :
    ∃ r, p.drop (cm + segEnd SLASH (b :: rest)) = SLASH :: r ∧ p.drop (cm + segEnd SLASH (b :: rest) + 1) = r ∧
      (p.drop startPath).take (cm + segEnd SLASH (b :: rest) + 1 - startPath)
        = (p.drop startPath).take (cm + segEnd SLASH (b :: rest) - startPath) ++ [SLASH] := by
  obtain ⟨r, hr⟩ := segEnd_drop_slash SLASH (b :: rest) h1
  have hd : p.drop (cm + segEnd SLASH (b :: rest)) = SLASH :: r := by rw [drop_add_of_drop hp, hr]
  exact ⟨r, hd, by rw [drop_add_of_drop hd 1]; rfl, take_sub_add (Nat.le_add_right_of_le hle) hd 1⟩

/-- in front of a byte other than '/', both forms of `infixEvs` are the byte-wise loop of the walk on the capture so far -/
theorem infixEvs_cons {p : Bytes} {startPath cm : Nat} {b : UInt8} {rest : Bytes} (hp : p.drop cm = b :: rest)
    (hb : ¬ b = SLASH) (inode nm es ps) :
    infixEvs inode nm es p startPath cm ps
      = walkInfix inode nm ((p.drop startPath).take (cm - startPath)) (b :: rest) es ps := by
  unfold infixEvs
  by_cases hcm : cm = startPath
  · rw [if_pos hcm, hp, hcm, Nat.sub_self, List.take_zero, walkInfix_other _ _ _ _ _ _ _ hb]
    exact if_neg hb
  · rw [if_neg hcm, hp]

/-- one turn of the loop on the walk's side: the sub-walk at the next '/', then the rest of the loop -/
theorem infixEvs_step {p : Bytes} {startPath cm : Nat} (hle : startPath ≤ cm) {b : UInt8} {rest : Bytes}
    (hp : p.drop cm = b :: rest)
    (hidx : 0 < segEnd SLASH (b :: rest) ∧ segEnd SLASH (b :: rest) < (b :: rest).length)
    (inode : Node) (nm : Bytes) (es : Bool) (ps : Binds) :
    infixEvs inode nm es p startPath cm ps =
        walk inode [] inode.key none es (p.drop (cm + segEnd SLASH (b :: rest)))
          (ps ++ [(nm, (p.drop startPath).take (cm + segEnd SLASH (b :: rest) - startPath))])
        ++ infixEvs inode nm es p startPath (cm + segEnd SLASH (b :: rest) + 1) ps := by
  obtain ⟨r, hd, hd1, hacc⟩ := infix_next hle hp hidx.2
  have hb : ¬ b = SLASH := fun h => Nat.ne_of_gt hidx.1 ((segEnd_zero_iff SLASH b rest).mpr h)
  have hseg := Spec.segEnd_take_no_delim SLASH (b :: rest)
  have hne : (b :: rest).take (segEnd SLASH (b :: rest)) ≠ [] := by
    obtain ⟨n, hn⟩ := Nat.exists_eq_succ_of_ne_zero (Nat.ne_of_gt hidx.1)
    rw [hn]; exact List.cons_ne_nil _ _
  have hnext : infixEvs inode nm es p startPath (cm + segEnd SLASH (b :: rest) + 1) ps
      = walkInfix inode nm ((p.drop startPath).take (cm + segEnd SLASH (b :: rest) + 1 - startPath)) r es ps := by
    unfold infixEvs
    rw [if_neg (Nat.ne_of_gt (Nat.lt_succ_of_le (Nat.le_add_right_of_le hle))), hd1]
  rw [infixEvs_cons hp hb, hnext, hd, hacc, take_sub_add hle hp]
  conv => lhs; rw [← List.take_append_drop (segEnd SLASH (b :: rest)) (b :: rest), ← drop_add_of_drop hp, hd]
  exact walkInfix_seg _ _ _ _ hseg hne r

theorem tailEvs_cm_irrel {p : Bytes} {startPath : Nat} (h : ¬ (p.drop startPath).head? = some SLASH)
    (cur pre k' nm parent cm cm' ps) :
    tailEvs p cur pre k' nm parent startPath cm ps = tailEvs p cur pre k' nm parent startPath cm' ps := by
  unfold tailEvs; simp only [if_neg h]

theorem infixEvs_start {p : Bytes} {cm : Nat} {b : UInt8} {rest : Bytes} (hp : p.drop cm = b :: rest) (inode nm es ps) :
    infixEvs inode nm es p cm cm ps = (if b = SLASH then [] else walkInfix inode nm [b] rest es ps) := by
  unfold infixEvs; simp [hp]

/-- what the post-loop analysis finds after an infix catch-all has taken the whole rest -/
theorem tailEvs_infix {p : Bytes} {cm : Nat} {b : UInt8} {rest : Bytes} (hp : p.drop cm = b :: rest)
    (cur pre nm t k'' parent ps) :
    tailEvs p cur (pre ++ [Tok.catchAll nm]) (t :: k'') nm parent cm cm ps =
      if b = SLASH then [] else tsrIf cur.route (!endsWithSlash p && (t :: k'') == [Tok.lit SLASH]) (ps ++ [(nm, b :: rest)]) := by
  unfold tailEvs
  rw [if_neg (List.cons_ne_nil _ _), hp, List.head?_cons]
  by_cases hb : b = SLASH
  · rw [if_pos (congrArg some hb), if_pos hb, postEvs_mid hp]
  · rw [if_neg (fun h => hb (Option.some.inj h)), if_neg hb, ← walk_end_eq_postEvs (List.drop_length), walk_cons_nil]
    unfold midKeyEnd
    rw [pre_catch_ne]
    cases endsWithSlash p <;> cases cur.route <;> cases parentLeafRoute parent <;> rfl

/-- inside the loop the capture did not start on a '/' -/
theorem head_ne_slash {p : Bytes} {startPath cm : Nat} {b : UInt8} {rest : Bytes} (hp : p.drop cm = b :: rest)
    (h0 : 0 < segEnd SLASH (b :: rest))
    (hhead : (p.drop startPath).head? = some SLASH → cm = startPath ∧ p.drop cm ≠ []) :
    ¬ (p.drop startPath).head? = some SLASH := by
  intro hh
  obtain ⟨rfl, _⟩ := hhead hh
  rw [hp] at hh
  exact Nat.ne_of_gt h0 ((segEnd_zero_iff SLASH b rest).mpr (by simpa using hh))

theorem sub_lookup {p' : Bytes} {inode : Node} (hw : wfNode inode = true) (ih : P1 p' inode [] inode.key none 0 0 {}) :
    keyLoop false p' inode [] inode.key none 0 0 {} = pickC none (walk inode [] inode.key none (endsWithSlash p') p' []) := by
  rw [ih (.start hw rfl trivial)]
  simp [stackEvs, parentLeafRoute]

/-- one turn of the catch-all loop on the walk's side: the events of the sub-lookup at the next '/', started with no
    parameters and prefixed with the capture so far, then the loop from behind that '/' -/
theorem infix_turn {p : Bytes} {startPath cm : Nat} (hle : startPath ≤ cm) {b : UInt8} {rest : Bytes}
    (hp : p.drop cm = b :: rest)
    (hidx : 0 < segEnd SLASH (b :: rest) ∧ segEnd SLASH (b :: rest) < (b :: rest).length)
    (hhead : (p.drop startPath).head? = some SLASH → cm = startPath ∧ p.drop cm ≠ [])
    (inode cur pre k' nm parent) (ps : Binds) (S : List Ev) :
    infixEvs inode nm (endsWithSlash p) p startPath cm ps ++ (tailEvs p cur pre k' nm parent startPath cm ps ++ S) =
      (walk inode [] inode.key none (endsWithSlash (p.drop (cm + segEnd SLASH (b :: rest))))
          (p.drop (cm + segEnd SLASH (b :: rest))) []).map
        (Ev.pre (ps ++ [(nm, (p.drop startPath).take (cm + segEnd SLASH (b :: rest) - startPath))]))
      ++ (infixEvs inode nm (endsWithSlash p) p startPath (cm + segEnd SLASH (b :: rest) + 1) ps
        ++ (tailEvs p cur pre k' nm parent startPath (cm + segEnd SLASH (b :: rest) + 1) ps ++ S)) := by
  obtain ⟨r, hd, _, _⟩ := infix_next hle hp hidx.2
  rw [infixEvs_step hle hp hidx, List.append_assoc, walk_prefix, endsWithSlash_drop (hd ▸ List.cons_ne_nil _ _),
    tailEvs_cm_irrel (head_ne_slash hp hidx.1 hhead) cur pre k' nm parent cm (cm + segEnd SLASH (b :: rest) + 1)]

theorem infixLoop_inv_next {p : Bytes} {startPath cm : Nat} (hle : startPath ≤ cm) {b : UInt8} {rest : Bytes}
    (hp : p.drop cm = b :: rest)
    (hidx : 0 < segEnd SLASH (b :: rest) ∧ segEnd SLASH (b :: rest) < (b :: rest).length)
    (hhead : (p.drop startPath).head? = some SLASH → cm = startPath ∧ p.drop cm ≠ []) :
    startPath ≤ cm + segEnd SLASH (b :: rest) + 1 ∧
    (cm + segEnd SLASH (b :: rest) + 1 ≠ startPath →
      ((p.drop startPath).take (cm + segEnd SLASH (b :: rest) + 1 - startPath)).getLast? = some SLASH) ∧
    ((p.drop startPath).head? = some SLASH →
      cm + segEnd SLASH (b :: rest) + 1 = startPath ∧ p.drop (cm + segEnd SLASH (b :: rest) + 1) ≠ []) := by
  obtain ⟨r, _, _, hacc⟩ := infix_next hle hp hidx.2
  exact ⟨Nat.le_succ_of_le (Nat.le_add_right_of_le hle), fun _ => by rw [hacc, List.getLast?_append]; rfl, fun hh => absurd hh (head_ne_slash hp hidx.1 hhead)⟩

/-- every function of the machine computes `pickC` of the events still to be explored -/
theorem machine_refines_all :
    (∀ p cur pre k parent cm pc R, P1 p cur pre k parent cm pc R) ∧
    (∀ p cur pre k' nm parent inode startPath cm R, P2 p cur pre k' nm parent inode startPath cm R) ∧
    (∀ p cur pre k' nm parent startPath cm R, P3 p cur pre k' nm parent startPath cm R) ∧
    (∀ p cur pre k parent cm R, P4 p cur pre k parent cm R) ∧
    (∀ p R, P5 p R) ∧
    (∀ p cur pre parent cm pc b rest R, P6 p cur pre parent cm pc b rest R) := by
  suffices all :
      (∀ lz p cur pre k parent cm pc R, lz = false → P1 p cur pre k parent cm pc R) ∧
      (∀ lz p cur pre k' nm parent inode startPath cm R, lz = false → P2 p cur pre k' nm parent inode startPath cm R) ∧
      (∀ lz p cur pre k' nm parent startPath cm R, lz = false → P3 p cur pre k' nm parent startPath cm R) ∧
      (∀ lz p cur pre k parent cm R, lz = false → P4 p cur pre k parent cm R) ∧
      (∀ lz p R, lz = false → P5 p R) ∧
      (∀ lz p cur pre parent cm pc b rest R, lz = false → P6 p cur pre parent cm pc b rest R) by
    exact ⟨fun _ _ _ _ _ _ _ _ => all.1 false _ _ _ _ _ _ _ _ rfl, fun _ _ _ _ _ _ _ _ _ _ => all.2.1 false _ _ _ _ _ _ _ _ _ _ rfl,
      fun _ _ _ _ _ _ _ _ _ => all.2.2.1 false _ _ _ _ _ _ _ _ _ rfl, fun _ _ _ _ _ _ _ => all.2.2.2.1 false _ _ _ _ _ _ _ rfl,
      fun _ _ => all.2.2.2.2.1 false _ _ rfl, fun _ _ _ _ _ _ _ _ _ => all.2.2.2.2.2 false _ _ _ _ _ _ _ _ _ rfl⟩
  -- the sub-lookups of a catch-all always record, whatever the flag of the lookup they serve: the flag varies in the recursion
  apply keyLoop.mutual_induct
  -- keyLoop: path used up; key used up; literal equal / different; parameter on an empty / non-empty segment;
  -- catch-all last in the key without / with a child; infix catch-all
  · intro lz p cur pre k parent cm pc R hp ih hlz hinv; subst hlz
    rw [keyLoop_end hp, ih rfl hinv.st, hp, walk_end_eq_postEvs hp]
  · intro lz p cur pre parent cm pc R b rest hp ih hlz hinv; subst hlz
    rw [keyLoop_keyEnd hp, ih rfl hinv hp, hp]
  · intro lz p cur pre parent cm pc R b rest hp c k' hc ih hlz hinv; subst hlz
    have hinv' : WalkInv cur (pre ++ [Tok.lit c]) k' (cm + 1) pc R :=
      ⟨hinv.wf, (List.append_assoc pre [Tok.lit c] k').trans hinv.key, fun _ => Nat.succ_pos _, hinv.cnt, hinv.st⟩
    rw [keyLoop_lit hp, if_pos hc, ih rfl hinv', hp, drop_add_of_drop hp 1]
    obtain ⟨rfl, _, _⟩ := hc
    rw [walk_lit_eq]; rfl
  · intro lz p cur pre parent cm pc R b rest hp c k' hc ih hlz hinv; subst hlz
    have hne := keyOk_lit_ne (keyOk_append_right pre _ (hinv.key ▸ (wfNode_key hinv.wf).2))
    have hcb : ¬ c = b := by
      intro h; subst h; exact hc ⟨rfl, hne.2, hne.1⟩
    rw [keyLoop_lit hp, if_neg hc, ih rfl hinv.st, hp, walk_lit_ne _ _ _ _ _ _ _ _ _ hcb,
      postEvs_mid hp]
  · intro lz p cur pre parent cm pc R b rest hp nm k' h0 ih hlz hinv; subst hlz
    rw [keyLoop_param hp, if_pos h0, ih rfl hinv.st, hp, walk_param_zero _ _ _ _ _ _ _ _ _ h0,
      postEvs_mid hp]
  · intro lz p cur pre parent cm pc R b rest hp nm k' h0 ih hlz hinv; subst hlz
    have hinv' : WalkInv cur (pre ++ [Tok.param nm]) k' (cm + segEnd SLASH (b :: rest)) (pc + 1)
        { skipNds := R.skipNds, params := R.params ++ [(nm, List.take (segEnd SLASH (b :: rest)) (b :: rest))], tsr := R.tsr } :=
      ⟨hinv.wf, (List.append_assoc pre [Tok.param nm] k').trans hinv.key, fun _ => Nat.add_pos_right cm (Nat.pos_of_ne_zero h0),
        by rw [hinv.cnt]; exact (List.length_append (bs := [_])).symm, stackOk_append hinv.st _⟩
    rw [keyLoop_param hp, if_neg h0, ih rfl hinv', rec_false, hp, drop_add_of_drop hp, walk_param_step _ _ _ _ _ _ _ _ _ h0]
    dsimp only
    rw [stackEvs_append _ _ _ _ hinv.st]
  · intro lz p cur pre parent cm pc R b rest hp nm hcs hlz _; subst hlz
    rw [keyLoop_catch_leaf hp hcs, hp]
    cases hr : cur.route with
    | some r => rw [walk_catch_leaf_some hcs hr]; rfl
    | none => rw [walk_catch_leaf_none hcs hr]; rfl
  · intro lz p cur pre parent cm pc R b rest hp nm c tail hcs ih hlz hinv; subst hlz
    have hwc : wfNode c = true := wfKids_mem hinv.kids (hcs ▸ List.mem_cons_self)
    rw [keyLoop_catch_child hp hcs,
      ih rfl hwc hinv.st (Nat.le_refl _) (fun h => absurd rfl h) (fun _ => ⟨rfl, hp ▸ List.cons_ne_nil _ _⟩),
      infixEvs_start hp]
    unfold tailEvs
    rw [if_pos rfl, hp]
    cases hr : cur.route with
    | some r => rw [walk_catch_child_some hcs hr, List.append_assoc]; rfl
    | none => rw [walk_catch_child_none hcs hr, List.append_assoc]; rfl
  · intro lz p cur pre parent cm pc R b rest hp nm t k'' ih hlz hinv; subst hlz
    have hwi : wfNode (Node.mk (t :: k'') cur.route cur.children) = true :=
      wfNode_inode hinv.wf (pre := pre ++ [Tok.catchAll nm]) ((List.append_assoc pre [Tok.catchAll nm] (t :: k'')).trans hinv.key)
    rw [keyLoop_catch_infix hp,
      ih rfl hwi hinv.st (Nat.le_refl _) (fun h => absurd rfl h) (fun _ => ⟨rfl, hp ▸ List.cons_ne_nil _ _⟩),
      infixEvs_start hp, hp, walk_catch_infix_eq, tailEvs_infix hp, List.append_assoc]
  -- infixLoop: path used up; a further '/' where the sub-lookup finds nothing / a candidate / a direct match / a node
  -- without route; no further '/'
  · intro lz p cur pre k' nm parent inode startPath cm R hp ih hlz _ hst _ _ _; subst hlz
    rw [infixLoop_end hp, ih rfl hst]
    unfold infixEvs
    rw [hp, walkInfix_nil, ite_self]
    rfl
  · intro lz p cur pre k' nm parent inode startPath cm R b rest hp hidx hres ih1 ih2 hlz hw hst hle _ hhead; subst hlz
    obtain ⟨s1, s2, s3⟩ := infixLoop_inv_next hle hp hidx hhead
    rw [infixLoop_step hp, if_pos hidx, infix_turn hle hp hidx hhead, pickC_block, ← sub_lookup hw (ih1 rfl), hres]
    exact ih2 rfl hw hst s1 s2 s3
  · intro lz p cur pre k' nm parent inode startPath cm R b rest hp hidx r sps hres ih1 ih2 hlz hw hst hle _ hhead; subst hlz
    obtain ⟨s1, s2, s3⟩ := infixLoop_inv_next hle hp hidx hhead
    rw [infixLoop_step hp, if_pos hidx, infix_turn hle hp hidx hhead, pickC_block, ← sub_lookup hw (ih1 rfl), hres]
    dsimp only
    rw [ih2 rfl hw (by rw [setTsr_params, setTsr_skipNds]; exact hst) s1 s2 s3, setTsr_tsr, setTsr_params,
      setTsr_skipNds]
    rfl
  · intro lz p cur pre k' nm parent inode startPath cm R b rest hp hidx r sps hres ih1 hlz hw _ hle _ hhead; subst hlz
    rw [infixLoop_step hp, if_pos hidx, infix_turn hle hp hidx hhead, pickC_block, ← sub_lookup hw (ih1 rfl), hres]
    rfl
  · intro lz p cur pre k' nm parent inode startPath cm R b rest hp hidx hres ih1 hlz hw _ hle _ hhead; subst hlz
    rw [infixLoop_step hp, if_pos hidx, infix_turn hle hp hidx hhead, pickC_block, ← sub_lookup hw (ih1 rfl), hres]
  · intro lz p cur pre k' nm parent inode startPath cm R b rest hp hc ih hlz _ hst _ hlast _; subst hlz
    rw [infixLoop_step hp, if_neg hc, ih rfl hst]
    have : infixEvs inode nm (endsWithSlash p) p startPath cm R.params = [] := by
      by_cases hb : b = SLASH
      · subst hb
        unfold infixEvs
        by_cases hcm : cm = startPath
        · rw [if_pos hcm, hp]; exact if_pos rfl
        · rw [if_neg hcm, hp, walkInfix_slash_stop _ _ _ _ _ _ (hlast hcm)]
      · have h0 : ¬ segEnd SLASH (b :: rest) = 0 := fun h => hb ((segEnd_zero_iff _ _ _).mp h)
        rw [infixEvs_cons hp hb]
        exact walkInfix_noslash _ _ _ _ _ (segEnd_noslash (fun h => hc ⟨Nat.pos_of_ne_zero h0, h⟩)) _
    rw [this]; rfl
  -- infixTail: ending catch-all; infix catch-all on a leading '/'; infix catch-all taking the whole rest
  · intro lz p cur pre nm parent startPath cm R hlz _
    rw [infixTail, if_pos rfl, rec_false]
    unfold tailEvs
    rw [if_pos rfl, pickC_retEvs]
  · intro lz p cur pre k' nm parent startPath cm R hk hh ih hlz hst; subst hlz
    rw [infixTail, if_neg hk, if_pos hh, ih rfl (stackOk_append hst _), rec_false]
    unfold tailEvs
    rw [if_neg hk, if_pos hh]
    dsimp only
    rw [stackEvs_append _ _ _ _ hst]
  · intro lz p cur pre k' nm parent startPath cm R hk hh ih hlz hst; subst hlz
    rw [infixTail, if_neg hk, if_neg hh, ih rfl (stackOk_append hst _), rec_false]
    unfold tailEvs
    rw [if_neg hk, if_neg hh]
    dsimp only
    rw [stackEvs_append _ _ _ _ hst]
  -- afterLoop: exact match; otherwise
  · intro lz p cur pre k parent cm R h hlz _
    rw [afterLoop, if_pos h]
    unfold postEvs
    rw [if_pos h, pickC_retEvs]
  · intro lz p cur pre k parent cm R h ih hlz hst; subst hlz
    rw [afterLoop, if_neg h, ih rfl (by rw [postTsr_params, postTsr_skipNds]; exact hst)]
    unfold postEvs
    rw [if_neg h, pickC_candEvs]
    simp [postTsr]
  -- backtrack: empty stack with / without a candidate; pop
  · intro lz p R h r ps ht hlz _
    rw [backtrack_nil h, h]; rfl
  · intro lz p R h _ hlz _
    rw [backtrack_nil h, h]; rfl
  · intro lz p R f st h ih hlz hst; subst hlz
    rw [h] at hst
    obtain ⟨hlen, hst'⟩ := stackOk_pop hst
    rw [backtrack_cons h, ih rfl (.start hst.2.1 hlen hst'), h]
    rfl
  -- nodeEnd: no static child: param child / catch-all child / none; static child
  · intro lz p cur pre parent cm pc b rest R; dsimp only; intro hs wc hpc ih hlz hinv hp; subst hlz
    rw [nodeEnd_eq, hs, hpc]
    dsimp only
    rw [enter_child hinv hp hpc (stackOk_pushWild hinv.kids cm pc (hinv.stack b rest)) (ih rfl), pickC_nodeEnd hinv, hs, hpc,
      earlyTsr_skipNds, hinv.cnt, stackEvs_pushWild, hp]
    rfl
  · intro lz p cur pre parent cm pc b rest R; dsimp only; intro hs hpc wc hwc ih hlz hinv hp; subst hlz
    rw [nodeEnd_eq, hs, hpc, hwc]
    dsimp only
    rw [enter_child hinv hp hwc (hinv.stack b rest) (ih rfl), pickC_nodeEnd hinv, hs, hpc, hwc, earlyTsr_skipNds]
    rfl
  · intro lz p cur pre parent cm pc b rest R; dsimp only; intro hs hpc hwc ih hlz hinv hp; subst hlz
    rw [nodeEnd_eq, hs, hpc, hwc]
    dsimp only
    rw [ih rfl (by rw [earlyTsr_params, earlyTsr_skipNds]; exact hinv.st), postEvs_early hp (hinv.cm_pos),
      pickC_nodeEnd hinv, hs, hpc, hwc, earlyTsr_params, earlyTsr_skipNds]
    -- nothing to descend into: the candidate of the early site is found again by the late one
    exact ((pickC_candEvs R _ _ _).symm.trans (pickC_dup _ _ _)).trans (pickC_candEvs R _ _ _)
  · intro lz p cur pre parent cm pc b rest R; dsimp only; intro sc hs ih hlz hinv hp; subst hlz
    rw [nodeEnd_eq, hs]
    dsimp only
    rw [enter_child hinv hp (staticChild_find hs)
        (stackOk_pushParam hinv.kids cm pc (stackOk_pushWild hinv.kids cm pc (hinv.stack b rest))) (ih rfl),
      pickC_nodeEnd hinv, hs, earlyTsr_skipNds, hinv.cnt, stackEvs_pushParam, stackEvs_pushWild, hp]

/-- **lookupByPath as the Go code runs it = `pick` of the enumerating walk**: on a well-formed node, for every path and
    every initial parameter list, the state machine (skipped-node stack, parameter buffer truncated on backtracking,
    first trailing-slash candidate kept, early return on a direct match, recursive sub-lookups of catch-alls) returns
    exactly what `pick (pathEvents …)` returns, which is what the routing theorems of C01 / C08 / C09 are about. -/
theorem lookupByPath_eq_pick {target : Node} (hw : wfNode target = true) (path : Bytes) (ps0 : Binds) :
    Machine.lookupByPath target path ps0 = pick (pathEvents target path ps0) := by
  unfold Machine.lookupByPath pathEvents
  rw [machine_refines_all.1 path target [] target.key none 0 ps0.length { params := ps0 } (.start hw rfl trivial),
    ← pickC_none_eq_pick]
  simp [stackEvs, parentLeafRoute]

end Fox.Model
