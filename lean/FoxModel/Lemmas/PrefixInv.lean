import FoxModel.Lemmas.Tree.Sufs
/-
  FoxModel.Lemmas.PrefixInv — the byte-wise search `searchNode / searchKids / searchRoot` (Go: `roots.search`)
  followed by the raw iterator (`routesNode`) is the *filter* of the routes held below the searched node by
  "the rendered pattern suffix starts with the searched byte string", in iteration order.

  The only facts about the tree that are needed are part of the representation invariant `wfNode` / `wfRoot`:
  keys below the root are non-empty, their literal tokens are neither '{' nor '*' (`keyOk`, so that the first
  byte of a rendered key determines the kind of its first token), and the children of a node have pairwise
  distinct kinds. No new invariant is introduced.
-/
namespace Fox.Model
open Fox

/-! ### the search, by how the searched string and the rendered key compare -/

variable {key : List Tok} {route : Option Route} {cs : List Node} {p : Bytes}

theorem searchNode_of_prefix (h : p <+: render key) :
    searchNode (.mk key route cs) p = some (.mk key route cs) := by
  simp only [searchNode, h.length_le, if_true, ← List.prefix_iff_eq_take.mp h]

theorem searchNode_append (b : UInt8) (q : Bytes) :
    searchNode (.mk key route cs) (render key ++ b :: q) = searchKids cs (b :: q) := by
  have hlen : ¬ (render key ++ b :: q).length ≤ (render key).length := by
    rw [List.length_append, List.length_cons]
    omega
  simp only [searchNode, hlen, if_false, List.take_left', List.drop_left', if_true]

theorem searchNode_none (h1 : ¬ p <+: render key) (h2 : ¬ render key <+: p) :
    searchNode (.mk key route cs) p = none := by
  have e1 : ¬ (render key).take p.length = p := fun e => h1 (e ▸ List.take_prefix ..)
  have e2 : ¬ p.take (render key).length = render key := fun e => h2 (e ▸ List.take_prefix ..)
  simp only [searchNode, e1, e2, if_false, ite_self]

theorem searchKids_cons (c : Node) (cs : List Node) (b : UInt8) (q : Bytes) :
    searchKids (c :: cs) (b :: q) = if firstByte c.key = b then searchNode c (b :: q) else searchKids cs (b :: q) := by
  simp only [searchKids, List.head?_cons, Option.some.injEq]

/-! ### the filter -/

/-- the byte string `p` is a prefix of the rendered pattern suffix -/
def hitsP (p : Bytes) (sr : List Tok × Route) : Bool := p.isPrefixOf (render sr.1)

/-- what `Iter.Prefix` yields from the node `roots.search` returned -/
def foundRoutes : Option Node → List Route
  | some n => routesNode n
  | none => []

theorem hitsP_iff {p : Bytes} {sr : List Tok × Route} : hitsP p sr = true ↔ p <+: render sr.1 :=
  List.isPrefixOf_iff_prefix

theorem hitsP_below {sr : List Tok × Route} (hsr : sr ∈ sufsNode (.mk key route cs)) :
    ∃ s, hitsP p sr = true ↔ p <+: render key ++ s := by
  obtain ⟨s, hs⟩ := sufsNode_key key route cs sr hsr
  exact ⟨render s, by rw [hitsP_iff, hs, render_append]⟩

/-- a non-empty byte string that is a prefix of something held below a (non-root) node starts with the byte
    `getEdge` indexes that node by -/
theorem hits_firstByte {c : Node} (hwf : wfNode c = true) {b : UInt8} {p : Bytes} {sr : List Tok × Route}
    (hsr : sr ∈ sufsNode c) (hh : hitsP (b :: p) sr = true) : firstByte c.key = b := by
  obtain ⟨k, r, cs⟩ := c
  obtain ⟨s, hs⟩ := hitsP_below hsr
  obtain ⟨t, ts, rfl⟩ := List.exists_cons_of_ne_nil ((wfNode_iff ..).mp hwf).1
  obtain ⟨rest, hr⟩ := render_head t ts
  rw [hs, hr, List.cons_append, List.prefix_cons_iff] at hh
  obtain ⟨_, e, _⟩ := hh.resolve_left (List.cons_ne_nil _ _)
  exact (List.cons.inj e).1.symm

theorem filter_miss_node {c : Node} (hwf : wfNode c = true) {b : UInt8} {p : Bytes} (hne : firstByte c.key ≠ b) :
    (sufsNode c).filter (hitsP (b :: p)) = [] :=
  List.filter_eq_nil_iff.mpr fun _ hsr hh => hne (hits_firstByte hwf hsr hh)

theorem filter_miss_kids {b : UInt8} {p : Bytes} {cs : List Node} (hwf : ∀ c ∈ cs, wfNode c = true)
    (hne : ∀ c ∈ cs, firstByte c.key ≠ b) : (sufsKids cs).filter (hitsP (b :: p)) = [] := by
  rw [sufsKids_eq_flatMap, List.filter_flatMap, List.flatMap_eq_nil_iff]
  exact fun c hc => filter_miss_node (hwf c hc) (hne c hc)

/-- `searchKids` = `getEdge` followed by the search in the selected child: at most one child can hold a match,
    since well-formed siblings of distinct kinds are indexed by distinct bytes -/
theorem search_filter_kids (b : UInt8) (p : Bytes) (cs : List Node) (hwf : wfKids cs = true)
    (hnd : (kindsOf cs).Nodup)
    (ih : ∀ c ∈ cs, ∀ q, foundRoutes (searchNode c q) = ((sufsNode c).filter (hitsP q)).map (·.2)) :
    foundRoutes (searchKids cs (b :: p)) = ((sufsKids cs).filter (hitsP (b :: p))).map (·.2) := by
  induction cs with
  | nil => rfl
  | cons c cs rec =>
    rw [wfKids, Bool.and_eq_true] at hwf
    rw [kindsOf_eq_map, List.map_cons, List.nodup_cons] at hnd
    rw [List.forall_mem_cons] at ih
    rw [searchKids_cons, sufsKids_cons, List.filter_append, List.map_append]
    split
    · rename_i hb
      have hrest : ∀ d ∈ cs, firstByte d.key ≠ b := fun d hd e =>
        have wd := wfNode_key (wfKids_mem hwf.2 hd)
        hnd.1 (List.mem_map.mpr ⟨d, hd, ((firstByte_eq_iff_wf hwf.1 wd.1 wd.2).mp (hb.trans e.symm)).symm⟩)
      rw [ih.1, filter_miss_kids (fun _ => wfKids_mem hwf.2) hrest, List.map_nil, List.append_nil]
    · rename_i hb
      rw [filter_miss_node hwf.1 hb, List.map_nil, List.nil_append]
      exact rec hwf.2 (kindsOf_eq_map cs ▸ hnd.2) ih.2

theorem filter_map_addKey (k : List Tok) (q : Bytes) (S : Spec.SufSet) :
    (S.map (addKey k)).filter (hitsP (render k ++ q)) = (S.filter (hitsP q)).map (addKey k) := by
  rw [List.filter_map]
  congr 1
  apply List.filter_congr
  intro sr _
  rw [Bool.eq_iff_iff, Function.comp, hitsP_iff, hitsP_iff, addKey, render_append]
  exact List.prefix_append_right_inj _

theorem mem_own {k : List Tok} {r : Option Route} {sr : List Tok × Route} (h : sr ∈ own k r) : sr.1 = k := by
  cases r with
  | none => cases h
  | some x => rw [List.mem_singleton.mp h]

/-- **search = filter, one node.** Searching the byte string `p` from a node with well-formed children of distinct
    kinds and iterating the node found yields, in order, the routes below the node whose rendered pattern suffix
    starts with `p`; the search fails exactly when there is none. Covers `p` ending exactly at a key end, in the
    middle of a key (also in the middle of the rendering `{name}` of a wildcard token), and `p` leaving the key.
    Nothing is asked of the key itself, so that method roots (empty key) are covered. -/
theorem search_filter_below (n : Node) : ∀ p : Bytes, wfKids n.children = true → (kindsOf n.children).Nodup →
    foundRoutes (searchNode n p) = ((sufsNode n).filter (hitsP p)).map (·.2) := by
  induction n using Node.ind with
  | h key route cs ih =>
    intro p hkids hnd
    by_cases h1 : p <+: render key
    · -- `p` ends inside the key: everything below is hit
      rw [searchNode_of_prefix h1, foundRoutes, routesNode_eq, List.filter_eq_self.mpr]
      intro sr hsr
      obtain ⟨s, hs⟩ := hitsP_below hsr
      exact hs.mpr (List.prefix_append_of_prefix h1)
    · by_cases h2 : render key <+: p
      · -- `p` passes the key: the node's own route is too short, the children are searched for the rest
        obtain ⟨q, rfl⟩ := h2
        have hown : (own key route).filter (hitsP (render key ++ q)) = [] :=
          List.filter_eq_nil_iff.mpr fun sr hsr hh => h1 (mem_own hsr ▸ (hitsP_iff.mp hh : _ <+: render sr.1))
        rw [sufsNode_own, List.filter_append, hown, List.nil_append, filter_map_addKey, List.map_map]
        cases q with
        | nil => exact absurd (List.append_nil _ ▸ List.prefix_rfl) h1
        | cons b q =>
          rw [searchNode_append]
          refine search_filter_kids b q cs hkids hnd fun c hc r => ?_
          obtain ⟨k', r', cs'⟩ := c
          have hw := (wfNode_iff ..).mp (wfKids_mem hkids hc)
          exact ih _ hc r hw.2.2.2.2 hw.2.2.1
      · -- `p` and the key part ways: two prefixes of one string would be comparable
        rw [searchNode_none h1 h2, foundRoutes, List.filter_eq_nil_iff.mpr]
        · rfl
        · intro sr hsr hh
          obtain ⟨s, hs⟩ := hitsP_below hsr
          exact (List.prefix_or_prefix_of_prefix (hs.mp hh) (List.prefix_append ..)).elim h1 h2

/-- `search_filter_below` at an inner node: `wfNode` holds the two facts it asks for -/
theorem search_filter_node (n : Node) : ∀ p : Bytes, wfNode n = true →
    foundRoutes (searchNode n p) = ((sufsNode n).filter (hitsP p)).map (·.2) := by
  obtain ⟨k, r, cs⟩ := n
  intro p hwf
  obtain ⟨-, -, hnd, -, hkids⟩ := (wfNode_iff ..).mp hwf
  exact search_filter_below _ p hkids hnd

/-- **search = filter, from a method root** (whose own key, the method name, is not part of the pattern). -/
theorem search_filter_root {root : Node} (hwf : wfRoot root = true) (p : Bytes) :
    foundRoutes (searchRoot root p) = ((sufsNode root).filter (hitsP p)).map (·.2) := by
  obtain ⟨key, route, cs⟩ := root
  obtain ⟨rfl, _, hnd, hwk⟩ := (wfRoot_iff ..).mp hwf
  rw [searchRoot_eq]
  exact search_filter_below _ p hwk hnd

end Fox.Model
