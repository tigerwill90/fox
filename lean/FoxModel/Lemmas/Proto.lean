import FoxModel.Model.Proto
/-
  FoxModel.Lemmas.Proto — the inductive invariant of the protocol model (used by C04, C05, C06).

  The invariant has a part for each thread, relating its locals to the shared variables and the commit log (`ThrOk`), and
  a part about the shared variables alone. A step of thread `i` re-establishes `ThrOk` for `i` from the table of
  canonical programs (`suf_step`); for every other thread it is one of three frame facts: nothing it depends on
  changed, the mutex passed between other threads (`ThrOk.of_mu`), or the holder stored (`ThrOk.of_store`).
-/
namespace Fox.Model.Proto
variable {σ : Type}

/-- every suffix of a canonical program -/
def suffixes : List (List Act) :=
  [[], [.ret], [.load, .ret], [.unlock, .ret], [.store, .unlock, .ret], [.localOps, .store, .unlock, .ret],
   [.load, .localOps, .store, .unlock, .ret], [.lock, .load, .localOps, .store, .unlock, .ret],
   [.localOps, .unlock, .ret], [.load, .localOps, .unlock, .ret], [.lock, .load, .localOps, .unlock, .ret]]

/-- `lock` enters the critical section, `unlock` leaves it, nothing else does either -/
def critAfter (a : Act) (c : Bool) : Bool :=
  match a with
  | .lock => true
  | .unlock => false
  | _ => c

/-- the table read as an automaton: after its action `a` a thread is again on a canonical program, it is inside the critical
    section as `critAfter` says, and it comes to `localOps` only from `load` and to `store` only from `localOps` -/
theorem suf_step {a : Act} {r : List Act} (h : a :: r ∈ suffixes) :
    r ∈ suffixes ∧ inCrit r = critAfter a (inCrit (a :: r)) ∧
    (r.head? = some .localOps → a = .load) ∧ (r.head? = some .store → a = .localOps) :=
  (by decide +kernel : ∀ p ∈ suffixes, ∀ a ∈ p.head?, p.tail ∈ suffixes ∧ inCrit p.tail = critAfter a (inCrit p) ∧
    (p.tail.head? = some .localOps → a = .load) ∧ (p.tail.head? = some .store → a = .localOps)) _ h a rfl

theorem isProg_spec {p : List Act} (h : IsProg p) :
    p ∈ suffixes ∧ inCrit p = false ∧ p.head? ≠ some .localOps ∧ p.head? ≠ some .store := by
  rcases h with rfl | rfl | rfl <;> decide

/-- what the invariant says of thread `i` with locals `l`, given the shared variables and the commit log `cs` -/
structure ThrOk (v0 : σ) (pub : Nat × σ) (mu : Option Tid) (cs : List (σ → σ)) (i : Tid) (l : Local σ) : Prop where
  wf : l.pc ∈ suffixes
  mutex : inCrit l.pc = true ↔ mu = some i
  sees : l.pc.head? = some .localOps → l.seen = some pub
  works : l.pc.head? = some .store → l.work = some (l.f pub.2)
  seenOk : ∀ ver v, l.seen = some (ver, v) → ∃ k, ver = (cs.drop k).length ∧ v = replay v0 (cs.drop k)

/-- the inductive invariant. `loadsLe` is there to carry `loadsMono` over a `load`: the version loaded now is the published
    one, which bounds all earlier loads -/
structure Inv (v0 : σ) (s : State σ) : Prop where
  thr : ∀ i, ThrOk v0 s.pub s.mu (commits s) i (s.thr i)
  pubLog : s.pub = ((commits s).length, replay v0 (commits s))
  loadsLe : ∀ v ∈ loadVers s, v ≤ s.pub.1
  loadsMono : (loadVers s).Pairwise (· ≥ ·)

namespace ThrOk
variable {v0 : σ} {pub : Nat × σ} {mu : Option Tid} {cs : List (σ → σ)} {j : Tid} {l : Local σ}

/-- a thread whose next action is `store`, `unlock` or `localOps` holds the mutex -/
theorem holder (h : ThrOk v0 pub mu cs j l)
    (hh : l.pc.head? = some .store ∨ l.pc.head? = some .unlock ∨ l.pc.head? = some .localOps) : mu = some j :=
  -- in the table these three actions occur inside the critical section only
  h.mutex.1 ((by decide +kernel : ∀ p ∈ suffixes, p.head? = some .store ∨ p.head? = some .unlock ∨ p.head? = some .localOps →
    inCrit p = true) _ h.wf hh)

/-- a thread that holds the mutex neither before nor after is not concerned when it changes hands -/
theorem of_mu (h : ThrOk v0 pub mu cs j l) {mu' : Option Tid} (hm : mu ≠ some j) (hm' : mu' ≠ some j) :
    ThrOk v0 pub mu' cs j l :=
  { h with mutex := iff_of_false (fun hc => hm (h.mutex.1 hc)) hm' }

/-- a thread that does not hold the mutex is at no action that looks at the published value, and what it has loaded is
    one commit older after a store -/
theorem of_store (h : ThrOk v0 pub mu cs j l) (hm : mu ≠ some j) (pub' : Nat × σ) (f : σ → σ) :
    ThrOk v0 pub' mu (f :: cs) j l :=
  { h with
    sees := fun hh => absurd (h.holder (.inr (.inr hh))) hm
    works := fun hh => absurd (h.holder (.inl hh)) hm
    seenOk := fun ver v hh => let ⟨k, e1, e2⟩ := h.seenOk ver v hh; ⟨k + 1, e1, e2⟩ }

end ThrOk

theorem some_ne_of_ne {i j : Tid} (hj : j ≠ i) : some i ≠ some j := fun e => hj (Option.some.inj e).symm

theorem setThr_same (s : State σ) (i : Tid) (l : Local σ) : s.setThr i l i = l := if_pos rfl
theorem setThr_other (s : State σ) {i j : Tid} (l : Local σ) (h : j ≠ i) : s.setThr i l j = s.thr j := if_neg h

theorem thrOk_setThr {v0 : σ} {pub : Nat × σ} {mu : Option Tid} {cs : List (σ → σ)} (s : State σ) {i : Tid}
    {l : Local σ} (hi : ThrOk v0 pub mu cs i l) (ho : ∀ j, j ≠ i → ThrOk v0 pub mu cs j (s.thr j)) :
    ∀ j, ThrOk v0 pub mu cs j (s.setThr i l j) := by
  intro j
  by_cases hj : j = i
  · rw [hj, setThr_same]; exact hi
  · rw [setThr_other _ _ hj]; exact ho j hj

theorem invoke_thr_other (s : State σ) {i j : Tid} (p : List Act) (f : σ → σ) (h : j ≠ i) :
    (invoke s i p f).thr j = s.thr j := setThr_other s _ h

theorem inv_init (v0 : σ) : Inv v0 (init v0) :=
  ⟨fun _ => ⟨List.mem_cons_self .., ⟨nofun, nofun⟩, nofun, nofun, nofun⟩, rfl, nofun, .nil⟩

theorem inv_call {v0 : σ} {s : State σ} (h : Inv v0 s) (i : Tid) (p : List Act) (f : σ → σ)
    (hidle : (s.thr i).pc = []) (hp : IsProg p) : Inv v0 (invoke s i p f) := by
  obtain ⟨hw, hc, hl, hs⟩ := isProg_spec hp
  have hmu : s.mu ≠ some i := fun e => by have := (h.thr i).mutex.2 e; rw [hidle] at this; cases this
  exact { h with
    thr := thrOk_setThr s ⟨hw, hc ▸ iff_of_false Bool.false_ne_true hmu, (absurd · hl), (absurd · hs), nofun⟩ fun j _ => h.thr j }

theorem exec_lock {s : State σ} {i : Tid} {r : List Act} (h : (s.thr i).pc = .lock :: r) :
    exec s i = { s with mu := some i, thr := s.setThr i { s.thr i with pc := r } } := by
  simp only [exec, h]

theorem exec_load {s : State σ} {i : Tid} {r : List Act} (h : (s.thr i).pc = .load :: r) :
    exec s i = { s with thr := s.setThr i { s.thr i with pc := r, seen := some s.pub },
                        hist := .loaded i s.pub.1 :: s.hist } := by
  simp only [exec, h]

theorem exec_localOps {s : State σ} {i : Tid} {r : List Act} (h : (s.thr i).pc = .localOps :: r) :
    exec s i = { s with thr := s.setThr i { s.thr i with pc := r, work := (s.thr i).seen.map fun p => (s.thr i).f p.2 } } := by
  simp only [exec, h]

theorem exec_store {s : State σ} {i : Tid} {r : List Act} {v : σ} (h : (s.thr i).pc = .store :: r)
    (hwk : (s.thr i).work = some v) :
    exec s i = { s with pub := (s.pub.1 + 1, v), thr := s.setThr i { s.thr i with pc := r },
                        hist := .stored i (s.pub.1 + 1) (s.thr i).f :: s.hist } := by
  simp only [exec, h, hwk]

theorem exec_unlock {s : State σ} {i : Tid} {r : List Act} (h : (s.thr i).pc = .unlock :: r) :
    exec s i = { s with mu := none, thr := s.setThr i { s.thr i with pc := r } } := by
  simp only [exec, h]

theorem exec_ret {s : State σ} {i : Tid} {r : List Act} (h : (s.thr i).pc = .ret :: r) :
    exec s i = { s with thr := s.setThr i { s.thr i with pc := r },
                        hist := .returned i ((s.thr i).seen.map (·.1)) :: s.hist } := by
  simp only [exec, h]

/-- every action leaves the version alone, except a `store` of finished work, which adds one -/
theorem exec_ver_le (s : State σ) (i : Tid) : s.pub.1 ≤ (exec s i).pub.1 := by
  unfold exec
  split <;> try split
  all_goals first | exact Nat.le_refl _ | exact Nat.le_succ _

theorem exec_pc {s : State σ} {i : Tid} {a : Act} {r : List Act} (h : (s.thr i).pc = a :: r) :
    ((exec s i).thr i).pc = r := by
  cases a <;> simp only [exec, h, setThr_same]
  -- `store` with and without finished work
  split <;> simp only [setThr_same]

theorem exec_thr_other (s : State σ) {i j : Tid} (h : j ≠ i) : (exec s i).thr j = s.thr j := by
  unfold exec
  split
  · rfl
  all_goals ((try split) <;> simp [setThr_other _ _ h])

theorem inv_act {v0 : σ} {s : State σ} (h : Inv v0 s) (i : Tid) (he : enabled s i = true) : Inv v0 (exec s i) := by
  have hi := h.thr i
  cases hpc : (s.thr i).pc with
  | nil => simp [enabled, hpc] at he
  | cons a r =>
    have hm := hi.mutex
    have hw := hi.wf
    rw [hpc] at hm hw
    obtain ⟨hr, hc, hl, hs⟩ := suf_step hw
    have hh : (s.thr i).pc.head? = some a := congrArg List.head? hpc
    cases a with
    | lock =>
      have hmu : s.mu = none := by simpa [enabled, hpc] using he
      rw [exec_lock hpc]
      exact { h with
        thr := thrOk_setThr s
          { wf := hr, mutex := hc ▸ iff_of_true rfl rfl, sees := (nomatch hl ·), works := (nomatch hs ·), seenOk := hi.seenOk }
          fun j hj => (h.thr j).of_mu (by rw [hmu]; nofun) (some_ne_of_ne hj) }
    | load =>
      rw [exec_load hpc]
      -- what is loaded is the whole commit log replayed
      have seenOk : ∀ ver v, some s.pub = some (ver, v) →
          ∃ k, ver = ((commits s).drop k).length ∧ v = replay v0 ((commits s).drop k) := fun ver v hh =>
        have e := (Option.some.inj hh).symm.trans h.pubLog
        ⟨0, congrArg Prod.fst e, congrArg Prod.snd e⟩
      exact ⟨thrOk_setThr s
          { wf := hr, mutex := hc ▸ hm, sees := fun _ => rfl, works := (nomatch hs ·), seenOk := seenOk }
          fun j _ => h.thr j,
        h.pubLog, List.forall_mem_cons.2 ⟨Nat.le_refl _, h.loadsLe⟩, .cons h.loadsLe h.loadsMono⟩
    | localOps =>
      rw [exec_localOps hpc]
      have hsee := hi.sees hh
      exact { h with
        thr := thrOk_setThr s
          { wf := hr, mutex := hc ▸ hm, sees := (nomatch hl ·), works := fun _ => by rw [hsee]; rfl, seenOk := hi.seenOk }
          fun j _ => h.thr j }
    | store =>
      rw [exec_store hpc (hi.works hh)]
      have hmu : s.mu = some i := hi.holder (.inl hh)
      exact ⟨thrOk_setThr s
          { wf := hr, mutex := hc ▸ hm, sees := (nomatch hl ·), works := (nomatch hs ·)
            seenOk := fun ver v hh => let ⟨k, e1, e2⟩ := hi.seenOk ver v hh; ⟨k + 1, e1, e2⟩ }
          fun j hj => (h.thr j).of_store (hmu ▸ some_ne_of_ne hj) _ _,
        Prod.ext (congrArg (· + 1) (congrArg Prod.fst h.pubLog)) (congrArg (s.thr i).f (congrArg Prod.snd h.pubLog)),
        fun v hv => Nat.le_succ_of_le (h.loadsLe v hv), h.loadsMono⟩
    | unlock =>
      have hmu : s.mu = some i := hi.holder (.inr (.inl hh))
      rw [exec_unlock hpc]
      exact { h with
        thr := thrOk_setThr s
          { wf := hr, mutex := hc ▸ iff_of_false Bool.false_ne_true nofun, sees := (nomatch hl ·), works := (nomatch hs ·),
            seenOk := hi.seenOk }
          fun j hj => (h.thr j).of_mu (hmu ▸ some_ne_of_ne hj) nofun }
    | ret =>
      rw [exec_ret hpc]
      exact { h with
        thr := thrOk_setThr s
          { wf := hr, mutex := hc ▸ hm, sees := (nomatch hl ·), works := (nomatch hs ·), seenOk := hi.seenOk }
          fun j _ => h.thr j }

theorem inv_reach {v0 : σ} {s : State σ} (h : Reach v0 s) : Inv v0 s := by
  induction h with
  | init => exact inv_init v0
  | act i _ he ih => exact inv_act ih i he
  | call i p f _ hidle hp ih => exact inv_call ih i p f hidle hp

/-- what a thread has loaded is the replay of the commit log as it was `k` commits ago (the log is newest first) -/
theorem seen_committed {v0 : σ} {s : State σ} (h : Reach v0 s) {i : Tid} {ver : Nat} {v : σ}
    (hs : (s.thr i).seen = some (ver, v)) :
    ∃ k, ver = ((commits s).drop k).length ∧ v = replay v0 ((commits s).drop k) :=
  ((inv_reach h).thr i).seenOk ver v hs

end Fox.Model.Proto
