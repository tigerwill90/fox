import FoxModel.Lemmas.Spec.Traced
import FoxModel.Lemmas.Spec.Filter
/-
  FoxModel.Lemmas.SpecMeaning — the executable routing specification (`Spec/Route.lean`) means what the declarative
  relation (`Spec/Match.lean`) says: soundness, completeness, priority order, irrelevance of members that do not match.
  `Enum` packages the four. The path search has them from its traced copy (`Spec/Traced`) and from `Spec/Filter`; the
  hostname search by induction on the host, one byte or one label at a time, down to the path search. Core Lean only.
-/
namespace Fox.Spec
open Fox

/-! ### the two searches through one interface -/

/-- What staging, priority and irrelevance need of a search `run` for a match relation `M`: it reports exactly the
    `M`-matches of the members; on a coherent set the first report has the smallest choice trace, and members
    without a match can be dropped. -/
structure Enum (run : SufSet → Binds → Res) (M : List Tok → Binds → Prop) : Prop where
  sound {S ps r bs} : (r, bs) ∈ run S ps → ∃ s bs', (s, r) ∈ S ∧ bs = ps ++ bs' ∧ M s bs'
  complete {S ps s r bs'} : (s, r) ∈ S → M s bs' → (r, ps ++ bs') ∈ run S ps
  head_best {S ps r bs tl} : Coherent S → run S ps = (r, bs) :: tl →
    ∃ s bs0, (s, r) ∈ S ∧ bs = ps ++ bs0 ∧ M s bs0 ∧
      ∀ s' r' bs', (s', r') ∈ S → M s' bs' → traceLe (trace s bs0) (trace s' bs')
  filter {S ps} (q : List Tok × Route → Bool) : (∀ x ∈ S, q x = false → ¬ ∃ bs, M x.1 bs) → Coherent S →
    run S ps = run (S.filter q) ps

theorem mem_untag {l : ResT} {r : Route} {bs : Binds} : (r, bs) ∈ untag l ↔ ∃ tr, (r, bs, tr) ∈ l := by
  simp only [untag, List.mem_map]
  constructor
  · rintro ⟨⟨r', bs', tr⟩, hm, he⟩; simp at he; obtain ⟨rfl, rfl⟩ := he; exact ⟨tr, hm⟩
  · rintro ⟨tr, hm⟩; exact ⟨_, hm, rfl⟩

theorem head_le_of_sorted {x : Route × Binds × List Choice} {tl : ResT} (h : SortedT (x :: tl))
    {y : Route × Binds × List Choice} (hy : y ∈ x :: tl) : traceLe x.2.2 y.2.2 := by
  rcases List.mem_cons.1 hy with rfl | hy
  · exact traceLe_refl _
  · exact (List.pairwise_cons.1 h).1 y hy

theorem untag_eq_cons {l : ResT} {r : Route} {bs : Binds} {tl : Res} (h : untag l = (r, bs) :: tl) :
    ∃ tr tlT, l = (r, bs, tr) :: tlT := by
  cases l with
  | nil => simp [untag] at h
  | cons x xs =>
    obtain ⟨r', bs', tr⟩ := x
    simp [untag] at h
    obtain ⟨⟨rfl, rfl⟩, _⟩ := h
    exact ⟨tr, xs, rfl⟩

/-- from the trace-instrumented copy: it is sound and complete with the trace of the match as tag, and sorted -/
theorem enumPath (path : Bytes) : Enum (specAll · path ·) (Match SLASH · path ·) where
  sound {S ps r bs} h := by
    rw [← untag_specAllT, mem_untag] at h
    obtain ⟨tr, h⟩ := h
    obtain ⟨s, bs', h1, h2, h3, _⟩ := specAllT_sound path S ps r bs tr h
    exact ⟨s, bs', h1, h2, h3⟩
  complete {S ps s r bs'} hm hM := by
    rw [← untag_specAllT, mem_untag]; exact ⟨_, specAllT_complete path S ps s r bs' hm hM⟩
  head_best {S ps r bs tl} hS h := by
    rw [← untag_specAllT] at h
    obtain ⟨tr, tlT, hT⟩ := untag_eq_cons h
    obtain ⟨s, bs0, hm, hbs, hM, rfl⟩ := specAllT_sound path S ps r bs _ (by rw [hT]; exact List.mem_cons_self ..)
    refine ⟨s, bs0, hm, hbs, hM, fun s' r' bs' hm' hM' => ?_⟩
    have hmem := specAllT_complete path S ps s' r' bs' hm' hM'
    have hsorted := specAllT_sorted path S ps hS
    rw [hT] at hmem hsorted
    exact head_le_of_sorted hsorted hmem
  filter {S ps} := specAll_filter path S ps

theorem specAll_sound {S : SufSet} {path : Bytes} {ps : Binds} {r : Route} {bs : Binds}
    (h : (r, bs) ∈ specAll S path ps) :
    ∃ s bs', (s, r) ∈ S ∧ bs = ps ++ bs' ∧ Match SLASH s path bs' := (enumPath path).sound h

/-! the hostname search: one byte or one label of the host at a time, then the path search -/

theorem specHost_sound {S : SufSet} {host path : Bytes} {ps : Binds} {r : Route} {bs : Binds}
    (h : (r, bs) ∈ specHost S host path ps) :
    ∃ s bs', (s, r) ∈ S ∧ bs = ps ++ bs' ∧ MatchHP s host path bs' := by
  induction S, host, ps using specHost.induct with
  | case1 S ps =>
    rw [specHost_nil_host] at h
    obtain ⟨s, bs', hm, rfl, hM⟩ := specAll_sound h
    obtain ⟨hm, hh⟩ := mem_filter_headSlash.1 hm
    exact ⟨s, bs', hm, rfl, MatchHP.nil_host.2 ⟨hh, hM⟩⟩
  | case2 S ps b rest ih1 ih2 =>
    rw [specHost_cons, List.mem_append] at h
    rcases h with h | h
    · obtain ⟨s', bs', hm, rfl, hM⟩ := ih1 h
      exact ⟨.lit b :: s', bs', mem_advLit.1 hm, rfl, hM.lit⟩
    · unfold hostParamPart at h
      split at h
      · cases h
      · rename_i he
        obtain ⟨n, _, hn⟩ := List.mem_flatMap.1 h
        obtain ⟨s', bs', hm, rfl, hM⟩ := ih2 he n hn
        exact ⟨.param n :: s', _ :: bs', mem_advParamNamed.1 hm, List.append_assoc .., hM.param_seg he⟩

theorem specHost_complete {S : SufSet} {host path : Bytes} {ps : Binds} {s : List Tok} {r : Route} {bs' : Binds}
    (hm : (s, r) ∈ S) (hM : MatchHP s host path bs') : (r, ps ++ bs') ∈ specHost S host path ps := by
  induction S, host, ps using specHost.induct generalizing s bs' with
  | case1 S ps =>
    obtain ⟨hh, hM⟩ := MatchHP.nil_host.1 hM
    rw [specHost_nil_host]
    exact (enumPath path).complete (mem_filter_headSlash.2 ⟨hm, hh⟩) hM
  | case2 S ps b rest ih1 ih2 =>
    rw [specHost_cons, List.mem_append]
    rcases hM.cons_inv with ⟨s', rfl, hM'⟩ | ⟨n, s', bs0, rfl, he, rfl, hM'⟩
    · exact Or.inl (ih1 (mem_advLit.2 hm) hM')
    · refine Or.inr ?_
      unfold hostParamPart
      rw [if_neg he, List.append_cons ps _ bs0]
      exact List.mem_flatMap.2 ⟨n, mem_paramNames.2 ⟨s', r, hm⟩, ih2 he n (mem_advParamNamed.2 hm) hM'⟩

theorem specHost_head_best {S : SufSet} {host path : Bytes} {ps : Binds} {r : Route} {bs : Binds} {tl : Res}
    (hS : Coherent S) (h : specHost S host path ps = (r, bs) :: tl) :
    ∃ s bs0, (s, r) ∈ S ∧ bs = ps ++ bs0 ∧ MatchHP s host path bs0 ∧
      ∀ s' r' bs', (s', r') ∈ S → MatchHP s' host path bs' → traceLe (trace s bs0) (trace s' bs') := by
  induction S, host, ps using specHost.induct generalizing tl with
  | case1 S ps =>
    rw [specHost_nil_host] at h
    obtain ⟨s, bs0, hm, hbs, hM, hmin⟩ := (enumPath path).head_best (hS.filter _) h
    obtain ⟨hm, hh⟩ := mem_filter_headSlash.1 hm
    exact ⟨s, bs0, hm, hbs, MatchHP.nil_host.2 ⟨hh, hM⟩, fun s' r' bs' hm' hM' =>
      hmin s' r' bs' (mem_filter_headSlash.2 ⟨hm', (MatchHP.nil_host.1 hM').1⟩) (MatchHP.nil_host.1 hM').2⟩
  | case2 S ps b rest ih1 ih2 =>
    rw [specHost_cons] at h
    cases hL : specHost (advLit b S) rest path ps with
    | cons x tlL =>
      -- the first report is static; so are its rivals, or they rank behind it
      rw [hL] at h
      obtain ⟨rfl, -⟩ := List.cons.inj h
      obtain ⟨s0, bs0, hm, hbs, hM, hmin⟩ := ih1 (hS.advLit b) hL
      refine ⟨.lit b :: s0, bs0, mem_advLit.1 hm, hbs, hM.lit, fun s' r' bs' hm' hM' => ?_⟩
      rcases hM'.cons_inv with ⟨s1, rfl, h1⟩ | ⟨n, s1, bs1, rfl, _, rfl, _⟩
      · exact (traceLe_cons_cons ..).2 (hmin s1 r' bs' (mem_advLit.2 hm') h1)
      · exact Or.inl (Or.inl Nat.zero_lt_one)
    | nil =>
      -- no static match (completeness); coherence leaves one name, whose search reports first
      rw [hL, List.nil_append] at h
      unfold hostParamPart at h
      split at h
      · cases h
      · rename_i he
        rcases hS.paramNames with hn | ⟨n, hn⟩
        · rw [hn] at h; cases h
        · rw [hn, List.flatMap_cons, List.flatMap_nil, List.append_nil] at h
          obtain ⟨s0, bs0, hm, hbs, hM, hmin⟩ := ih2 he n (hS.advParamNamed n) h
          refine ⟨.param n :: s0, _ :: bs0, mem_advParamNamed.1 hm, hbs.trans (List.append_assoc ..),
            hM.param_seg he, fun s' r' bs' hm' hM' => ?_⟩
          rcases hM'.cons_inv with ⟨s1, rfl, h1⟩ | ⟨n', s1, bs1, rfl, _, rfl, h1⟩
          · have := specHost_complete (ps := ps) (mem_advLit.2 hm') h1
            rw [hL] at this; cases this
          · obtain rfl : n' = n := by
              have := mem_paramNames.2 ⟨s1, r', hm'⟩
              rw [hn] at this; exact List.mem_singleton.1 this
            exact (traceLe_cons_cons ..).2 (hmin s1 r' bs1 (mem_advParamNamed.2 hm') h1)

theorem filter_headSlash_filter (q : List Tok × Route → Bool) (S : SufSet) :
    (S.filter q).filter headSlash = (S.filter headSlash).filter q := by
  rw [List.filter_filter, List.filter_filter]
  congr 1; funext x; exact Bool.and_comm _ _

theorem specHost_filter (S : SufSet) (host path : Bytes) (ps : Binds) :
    ∀ q : List Tok × Route → Bool, (∀ x ∈ S, q x = false → ¬ ∃ bs, MatchHP x.1 host path bs) → Coherent S →
      specHost S host path ps = specHost (S.filter q) host path ps := by
  induction S, host, ps using specHost.induct with
  | case1 S ps =>
    intro q hq hS
    rw [specHost_nil_host, specHost_nil_host, filter_headSlash_filter]
    refine specAll_filter _ _ _ q (fun x hx hqx ⟨bs, hM⟩ => ?_) (hS.filter _)
    obtain ⟨hx, hh⟩ := mem_filter_headSlash.1 (show (x.1, x.2) ∈ S.filter headSlash from hx)
    exact hq _ hx hqx ⟨bs, MatchHP.nil_host.2 ⟨hh, hM⟩⟩
  | case2 S ps b rest ih1 ih2 =>
    intro q hq hS
    rw [specHost_cons S, specHost_cons (S.filter q)]
    unfold hostParamPart
    refine append_congr ?_ ?_
    · rw [advLit_filter]
      exact ih1 _ (fun x hx hqx ⟨bs, hM⟩ => hq _ (mem_advLit.1 hx) hqx ⟨bs, hM.lit⟩) (hS.advLit b)
    · split
      · rfl
      · rename_i he
        refine flatMap_names_filter hS.paramNames (hS.filter q).paramNames paramNames_filter_sub (fun n => ?_)
          fun m hm' => by rw [advParamNamed_nil_of_not_mem hm', specHost_nil]
        rw [advParamNamed_filter]
        exact ih2 he n _ (fun x hx hqx ⟨bs, hM⟩ => hq _ (mem_advParamNamed.1 hx) hqx ⟨_, hM.param_seg he⟩)
          (hS.advParamNamed n)

theorem enumHost (host path : Bytes) : Enum (specHost · host path ·) (MatchHP · host path ·) :=
  ⟨specHost_sound, specHost_complete, specHost_head_best, fun q => specHost_filter _ host path _ q⟩

section
variable {run : SufSet → Binds → Res} {M : List Tok → Binds → Prop} (E : Enum run M)
include E

theorem Enum.head_hit {R : List Route} {r : Route} {bs : Binds} {tl : Res} (h : run (sufsOf R) [] = (r, bs) :: tl) :
    r ∈ R ∧ M r.pattern bs := by
  obtain ⟨s, bs', hs, hb, hM⟩ := E.sound (show (r, bs) ∈ run (sufsOf R) [] by rw [h]; exact List.mem_cons_self ..)
  obtain ⟨hr, rfl⟩ := mem_sufsOf.1 hs
  rw [List.nil_append] at hb; subst hb
  exact ⟨hr, hM⟩

theorem Enum.nil_iff {R : List Route} : run (sufsOf R) [] = [] ↔ ∀ r ∈ R, ∀ bs, ¬ M r.pattern bs := by
  constructor
  · intro h r hr bs hM
    have := E.complete (ps := []) (mem_sufsOf.2 ⟨hr, rfl⟩) hM
    rw [h] at this; cases this
  · intro h
    refine List.eq_nil_iff_forall_not_mem.2 fun ⟨r, bs⟩ hm => ?_
    obtain ⟨s, bs', hs, _, hM⟩ := E.sound hm
    obtain ⟨hr, rfl⟩ := mem_sufsOf.1 hs
    exact h r hr bs' hM

/-- over a name-coherent route list the first report is a highest-priority match (`IsBest`, `IsBestHP`) -/
theorem Enum.head_isBest {R : List Route} (hR : CoherentRoutes R) {r : Route} {bs : Binds} {tl : Res}
    (h : run (sufsOf R) [] = (r, bs) :: tl) :
    r ∈ R ∧ M r.pattern bs ∧
      ∀ r' ∈ R, ∀ bs', M r'.pattern bs' → traceLe (trace r.pattern bs) (trace r'.pattern bs') := by
  obtain ⟨s, bs0, hm, hbs, hM, hmin⟩ := E.head_best (coherent_sufsOf hR) h
  obtain ⟨hr, rfl⟩ := mem_sufsOf.1 hm
  rw [List.nil_append] at hbs; subst hbs
  exact ⟨hr, hM, fun r' hr' bs' hM' => hmin _ r' bs' (mem_sufsOf.2 ⟨hr', rfl⟩) hM'⟩

theorem Enum.irrelevant {R1 R2 : List Route} {r : Route} (hc : CoherentRoutes (R1 ++ r :: R2))
    (hdead : ∀ bs, ¬ M r.pattern bs) : run (sufsOf (R1 ++ r :: R2)) [] = run (sufsOf (R1 ++ R2)) [] := by
  have hq : ∀ S : SufSet, ∀ x ∈ S, decide (x ≠ (r.pattern, r)) = false → ¬ ∃ bs, M x.1 bs := by
    intro S x _ hx
    rw [decide_eq_false_iff_not, Decidable.not_not] at hx; subst hx
    exact fun ⟨bs, hM⟩ => hdead bs hM
  rw [E.filter _ (hq _) (coherent_sufsOf hc),
    E.filter (S := sufsOf (R1 ++ R2)) _ (hq _) (coherent_sufsOf (CoherentRoutes.remove hc)), sufsOf_filter_ne]

end

end Fox.Spec
