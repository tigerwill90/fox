import FoxModel.Lemmas.TsrRemove
/-
  Trailing-slash candidates, "add the slash" direction: for a request path `q` (not ending in '/', no empty segment)
  that no route matches directly, the candidates recorded by the walk and the direct matches of `q ++ "/"` among the routes
  whose pattern ends with a literal '/' are empty together and have the same first element (`Sim`).
-/
namespace Fox.Model
open Fox Fox.Spec

/-- routes whose pattern ends with a literal '/' -/
abbrev F (S : SufSet) : SufSet := flt endsWithLitSlash S

/-- every non-empty suffix stored in the set ends like the pattern of its route -/
def LastOK (S : SufSet) : Prop := ∀ sr ∈ S, sr.1 ≠ [] → sr.1.getLast? = sr.2.pattern.getLast?

theorem LastOK.append_left {S T : SufSet} (h : LastOK (S ++ T)) : LastOK S :=
  fun sr hsr => h sr (List.mem_append_left _ hsr)
theorem LastOK.append_right {S T : SufSet} (h : LastOK (S ++ T)) : LastOK T :=
  fun sr hsr => h sr (List.mem_append_right _ hsr)

theorem getLast?_append_ne {k s : List Tok} (hs : s ≠ []) : (k ++ s).getLast? = s.getLast? := by
  rw [List.getLast?_append, List.getLast?_eq_some_getLast hs]
  rfl

theorem LastOK.tails {S : SufSet} (h : LastOK S) : LastOK (tails S) := by
  intro sr hsr hne
  obtain ⟨x, hx, rfl⟩ := List.mem_map.mp hsr
  cases hx' : x.1 with
  | nil => rw [hx'] at hne; exact absurd rfl hne
  | cons t s' =>
    have := h x hx (by rw [hx']; exact List.cons_ne_nil _ _)
    rw [hx'] at this hne
    rw [← this]
    exact (getLast?_append_ne (k := [t]) hne).symm

theorem LastOK.of_map_prefix {S : SufSet} {k : List Tok} (h : LastOK (S.map fun sr => (k ++ sr.1, sr.2))) :
    LastOK S := by
  intro sr hsr hn
  rw [← getLast?_append_ne (k := k) hn]
  exact h (k ++ sr.1, sr.2) (List.mem_map_of_mem hsr) (by simp [hn])

theorem LastOK.kids {n : Node} {k : List Tok} (h : LastOK (sufsFrom n k)) : LastOK (sufsKids n.children) := by
  rw [sufsFrom_eq] at h
  exact h.append_right.of_map_prefix

theorem LastOK.child {cs : List Node} (h : LastOK (sufsKids cs)) {c : Node} (hc : c ∈ cs) : LastOK (sufsNode c) :=
  fun sr hsr => h sr (mem_sufsKids.mpr ⟨c, hc, hsr⟩)

theorem LastOK.step {n : Node} {t : Tok} {k : List Tok} (h : LastOK (sufsFrom n (t :: k))) : LastOK (sufsFrom n k) := by
  have := h.tails
  rwa [tails_sufsFrom] at this

/-- a suffix catch-all route is never among the routes ending in a literal '/' -/
theorem suffixCatch_F {S : SufSet} (h : LastOK S) (p ps) : suffixCatch (F S) p ps = [] := by
  unfold suffixCatch
  rw [List.filterMap_eq_nil_iff]
  intro sr hsr
  have hmem := (List.mem_filter.mp hsr)
  have hS : sr ∈ S := hmem.1
  have hp : endsWithLitSlash sr.2 = true := hmem.2
  split
  · rename_i n heq
    exfalso
    have := h sr hS (by rw [heq]; simp)
    rw [heq] at this
    simp only [List.getLast?_singleton] at this
    unfold endsWithLitSlash at hp
    rw [← this] at hp
    simp at hp
  · rfl

/-- the value of "exactly '/' of the key is left and the node is a leaf" -/
def slashLeaf (n : Node) (k : List Tok) (ps : Binds) : Res :=
  if k = [Tok.lit SLASH] then (match n.route with | some r => [(r, ps)] | none => []) else []

/-- with exactly "/" of the path left inside a node's key, the filtered specification finds the node's own route
    iff exactly "/" of the key is left -/
theorem spec_slash_key (n : Node) (t : Tok) (k' : List Tok) (ps : Binds)
    (hw : wfKids n.children = true) (hL : LastOK (sufsFrom n (t :: k'))) :
    specAll (F (sufsFrom n (t :: k'))) [SLASH] ps = slashLeaf n (t :: k') ps := by
  have hh : AllHead t (F (sufsFrom n (t :: k'))) := (allHead_sufsFrom n t k').flt _
  unfold slashLeaf
  cases t with
  | lit c =>
    rw [specAll_lit hh, tails_flt_sufsFrom]
    by_cases hc : c = SLASH
    · subst hc
      simp only [if_true]
      cases k' with
      | nil =>
        -- the route's own (empty) suffix is left, and the route ends with '/'
        rw [if_pos rfl, specAll_sufsFrom_nil_nil_f _ n ps hw]
        cases hr : n.route with
        | none => rfl
        | some r =>
          have hin : ([Tok.lit SLASH], r) ∈ sufsFrom n [Tok.lit SLASH] := by
            rw [sufsFrom_eq, hr]; simp [routeSuf]
          have hp : endsWithLitSlash r = true := by
            unfold endsWithLitSlash
            rw [← hL _ hin (by simp)]; rfl
          simp only [hp, if_true]
      | cons u k'' =>
        have : ¬ (Tok.lit SLASH :: u :: k'' = [Tok.lit SLASH]) := by simp
        simp only [this, if_false]
        exact specAll_head_nil ((allHead_sufsFrom n u k'').flt _) ps
    · have : ¬ (Tok.lit c :: k' = [Tok.lit SLASH]) := by
        intro h; injection h with h1 _; injection h1 with h1; exact hc h1
      simp [hc, this]
  | param nm =>
    rw [specAll_param hh]
    simp [segEnd]
  | catchAll nm =>
    rw [specAll_eq_catchPart hh, suffixCatch_F hL]
    simp [infixPart]

theorem spec_slash_node {c : Node} (hwc : wfNode c = true) (hL : LastOK (sufsNode c)) (ps : Binds) :
    specAll (F (sufsNode c)) [SLASH] ps = slashLeaf c c.key ps := by
  obtain ⟨t, k', hk, _⟩ := wfNode_head hwc
  rw [sufsNode_eq] at hL ⊢
  rw [hk] at hL ⊢
  exact spec_slash_key c t k' ps (wfNode_leafcond hwc).1 hL

/-- with exactly "/" left at the end of a node's key: only the leaf child "/" can match -/
theorem spec_kids_slash {cs : List Node} (hw : wfKids cs = true) (hd : nodupB (kindsOf cs) = true)
    (hL : LastOK (sufsKids cs)) (ps : Binds) :
    specAll (F (sufsKids cs)) [SLASH] ps =
      (match cs.find? (fun c => startsWithSlash c.key) with
       | some c => slashLeaf c c.key ps
       | none => []) := by
  -- a child of another kind has a key other than "/"
  have hother : ∀ sel : Sel, sel.matches [Tok.lit SLASH] = false →
      (cs.filter (fun c => sel.matches c.key)).flatMap (fun c => specAll (F (sufsNode c)) [SLASH] ps) = [] := by
    intro sel hsel
    rcases filter_kind hd sel with h | ⟨c, hc, hm, h⟩
    · rw [h]; rfl
    · rw [h, List.flatMap_singleton, spec_slash_node (wfKids_mem hw hc) (hL.child hc), slashLeaf, if_neg]
      intro hk
      rw [hk, hsel] at hm
      cases hm
  rw [specAll_kids_f hw hd, hother .param rfl, hother .catchAll rfl, List.append_nil, List.append_nil,
    find_slash_eq]
  rcases filter_kind hd (.static SLASH) with h | ⟨c, hc, _, h⟩
  · rw [h]; rfl
  · rw [h, List.flatMap_singleton, spec_slash_node (wfKids_mem hw hc) (hL.child hc)]; rfl

/-- no two consecutive slashes (no empty segment inside the path) -/
def noDbl : Bytes → Bool
  | a :: b :: rest => !(a == SLASH && b == SLASH) && noDbl (b :: rest)
  | _ => true

theorem noDbl_tail {a : UInt8} {q : Bytes} (h : noDbl (a :: q) = true) : noDbl q = true := by
  cases q with
  | nil => rfl
  | cons b rest => simp only [noDbl, Bool.and_eq_true] at h; exact h.2

theorem noDbl_drop {q : Bytes} (h : noDbl q = true) (e : Nat) : noDbl (q.drop e) = true := by
  induction e generalizing q with
  | zero => simpa using h
  | succ e ih =>
    cases q with
    | nil => rfl
    | cons a q' => simp only [List.drop_succ_cons]; exact ih (noDbl_tail h)

theorem noDbl_append_right {a q : Bytes} (h : noDbl (a ++ q) = true) : noDbl q = true := by
  have := noDbl_drop h a.length
  simpa using this

theorem noDbl_slash_slash {acc rest : Bytes} (ha : acc.getLast? = some SLASH) (h : noDbl (acc ++ SLASH :: rest) = true) : False := by
  obtain ⟨ys, rfl⟩ := List.getLast?_eq_some_iff.mp ha
  rw [List.append_assoc] at h
  cases noDbl_append_right h

theorem getLast?_drop_ne {q : Bytes} (h : q.getLast? ≠ some SLASH) (e : Nat) : (q.drop e).getLast? ≠ some SLASH := by
  rw [List.getLast?_drop]
  split
  · nofun
  · exact h

theorem length_one_eq {k : List Tok} (hs : startsWithSlash k = true) : (k.length == 1) = (k == [Tok.lit SLASH]) := by
  obtain ⟨k', rfl⟩ := startsWithSlash_iff_cons.mp hs
  cases k' <;> simp

theorem tsrs_tsrIf_slash (n : Node) (k ps) : tsrs (tsrIf n.route (k == [Tok.lit SLASH]) ps) = slashLeaf n k ps := by
  unfold slashLeaf
  cases n.route with
  | none => split <;> rfl
  | some r =>
    by_cases hk : k = [Tok.lit SLASH]
    · rw [hk]; rfl
    · rw [if_neg hk, show (k == [Tok.lit SLASH]) = false from by simpa using hk]; rfl

/-- the path ends at the end of a non-leaf's key: the leaf child "/" is the add-a-slash candidate -/
theorem tsrs_walk_nil_nil_false {n : Node} (hr : n.route = none) (pre pr ps) :
    tsrs (walk n pre [] pr false [] ps) =
      (match n.children.find? (fun c => startsWithSlash c.key) with
       | some c => slashLeaf c c.key ps
       | none => []) := by
  rw [walk_nil_nil, hr]
  simp only [Bool.false_eq_true, if_false]
  cases hc : n.children.find? (fun c => startsWithSlash c.key) with
  | none => rfl
  | some c =>
    have hs : startsWithSlash c.key = true := by simpa using List.find?_some hc
    simp only [length_one_eq hs]
    exact tsrs_tsrIf_slash c c.key ps

/-- the candidate produced when an infix catch-all has swallowed the whole rest and exactly "/" of the key is left -/
def FT (inode : Node) (nm acc rest : Bytes) (ps : Binds) : Res :=
  if (acc ++ rest).getLast? = some SLASH then []
  else specAll (F (sufsNode inode)) [SLASH] (ps ++ [(nm, acc ++ rest)])

theorem FT_step (inode : Node) (nm acc : Bytes) (c : UInt8) (rest : Bytes) (ps : Binds) :
    FT inode nm (acc ++ [c]) rest ps = FT inode nm acc (c :: rest) ps := by
  unfold FT; rw [List.append_assoc]; rfl

/-! Motives: `A1` for `walk`, `A2` for `walkInfix`, `A3` for `walkKids`. `walkInfix` only lists the continuations at the
  slashes of `rest`; the candidate for the capture of the whole rest is appended by `walk` after it, whereas `specInfix` on
  `rest ++ "/"` finds that match itself, at the final slash. `A2` therefore compares with `FT` appended (`FT_step`: it does
  not change along the recursion), and the `catch_infix` case shows that `FT` is the candidate `walk` appends. -/

def A1 (n : Node) (pre k : List Tok) (pr : Option Route) (q : Bytes) (ps : Binds) : Prop :=
  wfKids n.children = true → nodupB (kindsOf n.children) = true →
  (endsWithCatchAll k = true → n.route.isSome = true ∧ allSlash n.children = true) →
  LastOK (sufsFrom n k) → q.getLast? ≠ some SLASH → noDbl q = true →
  directs (walk n pre k pr false q ps) = [] →
  Sim (tsrs (walk n pre k pr false q ps)) (specAll (F (sufsFrom n k)) (q ++ [SLASH]) ps)

def A2 (inode : Node) (nm acc rest : Bytes) (ps : Binds) : Prop :=
  wfKids inode.children = true → nodupB (kindsOf inode.children) = true → inode.key ≠ [] →
  (endsWithCatchAll inode.key = true → inode.route.isSome = true ∧ allSlash inode.children = true) →
  LastOK (sufsNode inode) → (acc ++ rest).getLast? ≠ some SLASH → noDbl (acc ++ rest) = true → acc ≠ [] →
  directs (walkInfix inode nm acc rest false ps) = [] →
  Sim (tsrs (walkInfix inode nm acc rest false ps) ++ FT inode nm acc rest ps)
      (specInfix (F (sufsNode inode)) nm acc (rest ++ [SLASH]) ps)

def A3 (sel : Sel) (cs : List Node) (pr : Option Route) (q : Bytes) (ps : Binds) : Prop :=
  wfKids cs = true → LastOK (sufsKids cs) → q ≠ [] → q.getLast? ≠ some SLASH → noDbl q = true →
  directs (walkKids sel cs pr false q ps) = [] →
  Sim (tsrs (walkKids sel cs pr false q ps))
      ((cs.filter (fun c => sel.matches c.key)).flatMap (fun c => specAll (F (sufsNode c)) (q ++ [SLASH]) ps))

theorem tsr_add_all :
    (∀ n pre k pr q ps, A1 n pre k pr q ps) ∧
    (∀ inode nm acc rest ps, A2 inode nm acc rest ps) ∧
    (∀ sel cs pr q ps, A3 sel cs pr q ps) := by
  apply walk_induct (P1 := A1) (P2 := A2) (P3 := A3)
  case nil_nil =>
    intro n pre pr ps hw hd _ hL _ _ hX
    rw [directs_walk_nil_nil] at hX
    cases hr : n.route with
    | some p => rw [hr] at hX; cases hX
    | none =>
      rw [tsrs_walk_nil_nil_false hr, List.nil_append, specAll_sufsFrom_nil_cons_f, spec_kids_slash hw hd hL.kids]
      exact Sim.refl _
  case nil_cons =>
    intro n pre pr ps b rest ih1 ih2 ih3 hw hd _ hL hq hn hX
    have hLk := hL.kids
    rw [List.cons_append]
    rw [directs_walk_nil_cons] at hX
    simp only [List.append_eq_nil_iff] at hX
    have h0 : (rest == [] && b == SLASH) = false := by
      cases h : (rest == [] && b == SLASH) with
      | false => rfl
      | true =>
        simp only [Bool.and_eq_true, beq_iff_eq] at h
        rw [h.1, h.2] at hq; exact absurd rfl hq
    rw [tsrs_walk_nil_cons_of _ _ _ _ _ h0, specAll_sufsFrom_nil_cons_f, specAll_kids_f hw hd]
    refine Sim.append (Sim.append ?_ (ih2 hw hLk (List.cons_ne_nil _ _) hq hn hX.1.2))
      (ih3 hw hLk (List.cons_ne_nil _ _) hq hn hX.2)
    by_cases hb : (b == STAR) = true
    · have hbe : b = STAR := by simpa using hb
      subst hbe
      rw [if_pos hb, filter_none (kids_no_star hw)]
      exact Sim.nil
    · rw [if_neg hb] at hX ⊢
      exact ih1 hw hLk (List.cons_ne_nil _ _) hq hn hX.1.1
  case cons_nil =>
    intro n pre t k pr ps hw _ _ hL _ _ _
    rw [walk_cons_nil, midKeyEnd_eq, if_neg (by decide), tsrs_tsrIf_slash, List.nil_append, spec_slash_key n _ _ ps hw hL]
    exact Sim.refl _
  case lit_eq =>
    intro n pre pr ps k' b rest ih hw hd hc hL hq hn
    rw [List.cons_append, walk_lit_eq, specAll_lit ((allHead_sufsFrom n _ _).flt _), tails_flt_sufsFrom, if_pos rfl]
    exact ih hw hd (of_catchAll_tail hc) hL.step (getLast?_drop_ne hq 1) (noDbl_tail hn)
  case lit_ne =>
    intro n pre pr ps c k' b rest hcb _ _ _ _ _ _ _
    simp only [List.cons_append]
    rw [walk_lit_ne (h := hcb), specAll_lit ((allHead_sufsFrom n _ _).flt _), if_neg hcb]
    exact Sim.nil
  case param_zero =>
    intro n pre pr ps nm k' b rest he _ _ _ _ _ _ _
    simp only [List.cons_append]
    rw [walk_param_zero (h := he), specAll_param ((allHead_sufsFrom n _ _).flt _),
      if_pos ((segEnd_cons_append_slash b rest).trans he)]
    exact Sim.nil
  case param_step =>
    intro n pre pr ps nm k' b rest he ih hw hd hc hL hq hn
    rw [List.cons_append, walk_param_step (h := he), specAll_param ((allHead_sufsFrom n _ _).flt _), tails_flt_sufsFrom,
      segEnd_cons_append_slash, drop_append_slash, take_append_slash, if_neg he]
    exact ih hw hd (of_catchAll_tail hc) hL.step (getLast?_drop_ne hq _) (noDbl_drop hn _)
  case catch_leaf =>
    -- a key ending in a catch-all belongs to a leaf, which matches the rest directly
    intro n pre pr ps nm b rest hcs _ _ hc _ _ _ hX
    obtain ⟨r, hr⟩ := Option.isSome_iff_exists.mp (hc rfl).1
    rw [walk_catch_leaf_some hcs hr] at hX
    cases hX
  case catch_child =>
    intro n pre pr ps nm b rest c tail hcs _ _ _ hc _ _ _ hX
    obtain ⟨r, hr⟩ := Option.isSome_iff_exists.mp (hc rfl).1
    rw [walk_catch_child_some hcs hr, directs_append] at hX
    simp at hX
  case catch_infix =>
    intro n pre pr ps nm b rest t k'' ih hw hd hc hL hq hn hX
    simp only [List.cons_append]
    rw [specAll_infix ((allInfix_sufsFrom n nm t k'').flt _), tails_flt_sufsFrom]
    by_cases hb : b = SLASH
    · subst hb
      rw [walk_catch_infix_slash, if_pos rfl]; exact Sim.nil
    · rw [walk_catch_infix (hb := hb), if_neg (by decide)] at hX ⊢
      rw [directs_append, directs_tsrIf, List.append_nil] at hX
      rw [if_neg hb, tsrs_append, tsrs_tsrIf_slash]
      have hLi : LastOK (sufsNode (Node.mk (t :: k'') n.route n.children)) := by
        rw [sufsNode_infix]; exact hL.step
      have := ih hw hd (List.cons_ne_nil _ _) (of_catchAll_tail hc) hLi
        (by simpa using hq) (by simpa using hn) (by simp) hX
      -- the fall-through candidate is the one the specification finds at the final slash
      have hFT : FT (Node.mk (t :: k'') n.route n.children) nm [b] rest ps =
          slashLeaf n (t :: k'') (ps ++ [(nm, b :: rest)]) := by
        unfold FT
        rw [if_neg (by simpa using hq), sufsNode_infix, spec_slash_key n t k'' _ hw hL.step]
        rfl
      rw [hFT, sufsNode_infix] at this
      exact this
  case infix_nil =>
    intro inode nm acc ps _ _ _ _ _ _ _ _ _
    rw [List.nil_append, walkInfix_nil, tsrs_nil, List.nil_append, specInfix, if_pos rfl, specInfix, List.append_nil]
    unfold FT
    rw [List.append_nil]
    exact Sim.refl _
  case infix_stop =>
    intro inode nm acc ps rest hacc _ _ _ _ _ _ hn _ _
    exact absurd (noDbl_slash_slash hacc hn) id
  case infix_go =>
    intro inode nm acc ps rest hacc ih1 ih2 hw hd hk hc hL hq hn _ hX
    rw [List.cons_append]
    rw [walkInfix_slash_go (h := hacc)] at hX ⊢
    rw [directs_append_nil] at hX
    rw [specInfix, if_pos rfl, if_neg hacc, tsrs_append, List.append_assoc]
    have h1 := ih1 hw hd hc (by rw [← sufsNode_eq]; exact hL)
      (by simpa using getLast?_drop_ne hq acc.length) (noDbl_append_right hn) hX.1
    rw [← sufsNode_eq] at h1
    have h2 := ih2 hw hd hk hc hL (by rwa [← List.append_cons]) (by rwa [← List.append_cons]) (by simp) hX.2
    rw [FT_step] at h2
    exact Sim.append h1 h2
  case infix_other =>
    intro inode nm acc ps b rest hb ih hw hd hk hc hL hq hn _ hX
    simp only [List.cons_append]
    rw [walkInfix_other (hb := hb)] at hX ⊢
    rw [specInfix, if_neg hb]
    have h2 := ih hw hd hk hc hL (by rwa [← List.append_cons]) (by rwa [← List.append_cons]) (by simp) hX
    rw [FT_step] at h2
    exact h2
  case kids_nil =>
    intro sel pr path ps _ _ _ _ _ _
    rw [walkKids_nil]; exact Sim.nil
  case kids_cons =>
    intro sel pr path ps c cs ih1 ih3 hw hL hq0 hq hn
    have hw' := wfKids_cons.mp hw
    rw [sufsKids_cons] at hL
    rw [walkKids_cons, List.filter_cons]
    have hf := wfNode_parts hw'.1
    by_cases hm : sel.matches c.key = true
    · rw [if_pos hm, if_pos hm, List.flatMap_cons]
      refine SimTo.append ?_ (ih3 hw'.2 hL.append_right hq0 hq hn)
      have := ih1 hf.1 hf.2.1 hf.2.2 (by rw [← sufsNode_eq]; exact hL.append_left) hq hn
      rw [← sufsNode_eq] at this
      exact this
    · rw [if_neg hm, if_neg hm, List.nil_append]
      exact ih3 hw'.2 hL.append_right hq0 hq hn

end Fox.Model
