import FoxModel.Lemmas.HistoryComplete
/-
  FoxModel.Lemmas.HistoryExact — the exact checker `checkLin` decides linearizability, for overlapping calls too.

  Linearizable ⇒ accepted (`checkLin_of_linearizable`): the versions at which the calls take effect in a linearization are
  an assignment the greedy one stays below, call by call, so the greedy assignment never gets stuck.
  Accepted ⇒ linearizable (`linearizable_of_checkLin`): sorting the calls by (assigned version, writes first, call stamp) is
  a legal sequential execution that respects real time.
-/
namespace Fox.Spec.History
variable {σ W Q : Type} (S : Sem σ W Q)

theorem leastFrom_eq_min? (lb : Nat) (l : List Nat) : leastFrom lb l = (l.filter fun x => decide (lb ≤ x)).min? := by
  induction l with
  | nil => rfl
  | cons x xs ih =>
    rw [leastFrom, ih, List.filter_cons]
    by_cases hx : lb ≤ x
    · rw [decide_eq_true hx, if_pos rfl, List.min?_cons]
      cases (xs.filter fun x => decide (lb ≤ x)).min? with
      | none => exact if_pos hx
      | some y =>
        by_cases hy : x ≤ y
        · exact (if_pos ⟨hx, hy⟩).trans (congrArg some (Nat.min_eq_left hy).symm)
        · exact (if_neg fun h => hy h.2).trans (congrArg some (Nat.min_eq_right (Nat.le_of_not_le hy)).symm)
    · rw [decide_eq_false hx, if_neg Bool.false_ne_true]
      cases (xs.filter fun x => decide (lb ≤ x)).min? with
      | none => exact if_neg hx
      | some y => exact if_neg fun h => hx h.1

theorem leastFrom_eq_some {lb : Nat} {l : List Nat} {v : Nat} :
    leastFrom lb l = some v ↔ (v ∈ l ∧ lb ≤ v) ∧ ∀ u ∈ l, lb ≤ u → v ≤ u := by
  rw [leastFrom_eq_min?, List.min?_eq_some_iff]
  simp only [List.mem_filter, decide_eq_true_eq, and_imp]

theorem leastFrom_le {lb : Nat} {l : List Nat} {u : Nat} (hu : u ∈ l) (hl : lb ≤ u) :
    ∃ v, leastFrom lb l = some v ∧ v ≤ u := by
  have hu' : u ∈ l.filter fun x => decide (lb ≤ x) := List.mem_filter.2 ⟨hu, decide_eq_true hl⟩
  obtain ⟨v, hv⟩ := Option.isSome_iff_exists.1 (List.isSome_min?_of_mem hu')
  exact ⟨v, (leastFrom_eq_min? lb l).trans hv, (List.min?_eq_some_iff.1 hv).2 u hu'⟩

theorem foldl_max_le {α : Type} (P : α → Prop) [DecidablePred P] (g : α → Nat) (l : List α) (m0 B : Nat) :
    l.foldl (fun m p => if P p then max m (g p) else m) m0 ≤ B ↔ m0 ≤ B ∧ ∀ p ∈ l, P p → g p ≤ B := by
  induction l generalizing m0 with
  | nil => exact ⟨fun h => ⟨h, List.forall_mem_nil _⟩, fun h => h.1⟩
  | cons q qs ih =>
    rw [List.foldl_cons, ih, List.forall_mem_cons]
    by_cases hq : P q
    · rw [if_pos hq, Nat.max_le]
      exact ⟨fun ⟨⟨h0, h1⟩, h2⟩ => ⟨h0, fun _ => h1, h2⟩, fun ⟨h0, h1, h2⟩ => ⟨⟨h0, h1 hq⟩, h2⟩⟩
    · rw [if_neg hq]
      exact ⟨fun ⟨h0, h2⟩ => ⟨h0, fun h => absurd h hq, h2⟩, fun ⟨h0, _, h2⟩ => ⟨h0, h2⟩⟩

theorem lowerBound_le_iff {acc : List (Call W Q × Nat)} {c : Call W Q} {B : Nat} :
    lowerBound acc c ≤ B ↔ ∀ p ∈ acc, p.1.ret < c.call → p.2 ≤ B :=
  (foldl_max_le (fun p : Call W Q × Nat => p.1.ret < c.call) Prod.snd acc 0 B).trans (and_iff_right (Nat.zero_le _))

theorem lbP_le_iff {done : Nat} {pend : List (Nat × Nat)} {call B : Nat} :
    lbP done pend call ≤ B ↔ done ≤ B ∧ ∀ q ∈ pend, q.1 < call → q.2 ≤ B :=
  foldl_max_le (fun q : Nat × Nat => q.1 < call) Prod.snd pend done B

theorem mem_allowed {segs : List (Seg σ W Q)} {c : Call W Q} {v : Nat} :
    v ∈ allowed S segs c ↔ ∃ g ∈ segs, g.ver = v ∧ explains S c g = true := by
  simp only [allowed, List.mem_map, List.mem_filter, and_assoc]
  exact exists_congr fun _ => and_congr_right fun _ => and_comm

/-- a call that returned before another was called has no greater version -/
def Mono (A : List (Call W Q × Nat)) : Prop := ∀ p ∈ A, ∀ q ∈ A, p.1.ret < q.1.call → p.2 ≤ q.2

/-- the calls are placed in an order that respects real time, so a call still to be placed never returned before a placed
    one was called (third hypothesis): a new pair can only break `Mono` with the new call second, and there its lower
    bound speaks -/
theorem assign_spec {segs : List (Seg σ W Q)} (cs : List (Call W Q)) :
    ∀ (acc A : List (Call W Q × Nat)), assign S segs acc cs = some A → RT cs →
      (∀ p ∈ acc, ∀ c ∈ cs, ¬ c.ret < p.1.call) → Mono acc →
      Mono A ∧ (A.map Prod.fst).Perm (cs ++ acc.map Prod.fst) ∧ (∀ p ∈ A, p ∈ acc ∨ p.2 ∈ allowed S segs p.1) := by
  induction cs with
  | nil =>
    intro acc A h _ _ hm
    cases h
    exact ⟨hm, .refl _, fun p hp => .inl hp⟩
  | cons c cs ih =>
    intro acc A h hrt hlate hm
    rw [assign] at h
    cases hl : leastFrom (lowerBound acc c) (allowed S segs c) with
    | none => rw [hl] at h; cases h
    | some v =>
      rw [hl] at h
      obtain ⟨hc, hrt'⟩ := List.pairwise_cons.1 hrt
      obtain ⟨⟨hv1, hv2⟩, _⟩ := leastFrom_eq_some.1 hl
      have hm' : Mono ((c, v) :: acc) := by
        intro p hp q hq hlt
        rcases List.mem_cons.1 hp with rfl | hp' <;> rcases List.mem_cons.1 hq with rfl | hq'
        · exact Nat.le_refl _
        · exact absurd hlt (hlate q hq' c (List.mem_cons_self ..))
        · exact lowerBound_le_iff.1 hv2 p hp' hlt
        · exact hm p hp' q hq' hlt
      have hlate' : ∀ p ∈ (c, v) :: acc, ∀ d ∈ cs, ¬ d.ret < p.1.call :=
        List.forall_mem_cons.2 ⟨hc, fun p hp d hd => hlate p hp d (List.mem_cons_of_mem _ hd)⟩
      obtain ⟨r1, r2, r3⟩ := ih ((c, v) :: acc) A h hrt' hlate' hm'
      refine ⟨r1, r2.trans List.perm_middle, fun p hp => ?_⟩
      rcases r3 p hp with h' | h'
      · rcases List.mem_cons.1 h' with rfl | h''
        · exact .inr hv1
        · exact .inl h''
      · exact .inr h'

/-! ### linearizable ⇒ accepted: a linearization bounds the greedy assignment from above -/

/-- the greedy assignment is the least one: if some choice `B` of versions for the calls does not decrease along real time
    and is explained by the segments, then placing the calls one by one never gets stuck and stays below `B` -/
theorem assign_least {segs : List (Seg σ W Q)} {B : Call W Q → Nat → Prop}
    (hmono : ∀ {a c ua uc}, B a ua → B c uc → a.ret < c.call → ua ≤ uc)
    (hall : ∀ {c u}, B c u → u ∈ allowed S segs c) (cs : List (Call W Q)) :
    ∀ acc : List (Call W Q × Nat), (∀ p ∈ acc, ∃ u, B p.1 u ∧ p.2 ≤ u) → (∀ c ∈ cs, ∃ u, B c u) →
      ∃ A, assign S segs acc cs = some A ∧ ∀ p ∈ A, ∃ u, B p.1 u ∧ p.2 ≤ u := by
  induction cs with
  | nil => intro acc hinv _; exact ⟨acc, rfl, hinv⟩
  | cons c cs ih =>
    intro acc hinv hB
    obtain ⟨⟨u, hu⟩, hB'⟩ := List.forall_mem_cons.1 hB
    have hlb : lowerBound acc c ≤ u := lowerBound_le_iff.2 fun p hp hlt =>
      have ⟨u', hu', hle⟩ := hinv p hp
      Nat.le_trans hle (hmono hu' hu hlt)
    obtain ⟨v, hv, hvle⟩ := leastFrom_le (hall hu) hlb
    rw [assign, hv]
    exact ih _ (List.forall_mem_cons.2 ⟨⟨u, hu, hvle⟩, hinv⟩) hB'

theorem occ_allowed {L : List (Call W Q)} {sf : Nat × σ} (hrun : runSeq S (0, S.init) L = some sf) (hrt : RT L)
    {segs : List (Seg σ W Q)} (hsegs : mkSegs S 0 S.init none (L.filter Call.isW) = some segs)
    {c : Call W Q} {u : Nat} (hc : Occ S L c u) : u ∈ allowed S segs c :=
  have ⟨g, hg, hv, he, _⟩ := occ_seg S hrun hrt hsegs hc
  (mem_allowed S).2 ⟨g, hg, hv, he⟩

/-- the versions at which the calls take effect in a linearization are such a choice -/
theorem assign_complete {L : List (Call W Q)} {sf : Nat × σ} (hrun : runSeq S (0, S.init) L = some sf) (hrt : RT L)
    {segs : List (Seg σ W Q)} (hsegs : mkSegs S 0 S.init none (L.filter Call.isW) = some segs) (cs : List (Call W Q)) :
    ∀ acc : List (Call W Q × Nat), (∀ p ∈ acc, ∃ u, Occ S L p.1 u ∧ p.2 ≤ u) → (∀ c ∈ cs, c ∈ L) →
      (∀ c ∈ cs, c.call ≤ c.ret) → ∃ A, assign S segs acc cs = some A :=
  fun acc hinv hmem _ =>
    (assign_least S (occ_mono S hrt) (occ_allowed S hrun hrt hsegs) cs acc hinv
      fun c hc => occ_of_mem S hrun (hmem c hc)).imp fun _ h => h.1

theorem byCall_perm (h : List (Call W Q)) : (byCall h).Perm h := List.mergeSort_perm ..

/-- a linearizable history is accepted, whatever its stamps -/
theorem checkLin_complete {h : List (Call W Q)} (hl : Linearizable S h) : checkLin S h = true := by
  obtain ⟨L, hperm, hrt, hrun⟩ := hl
  obtain ⟨sf, hsf⟩ := Option.isSome_iff_exists.1 hrun
  have hsw := sortedWrites_eq hperm (writes_increasing S hsf).2
  obtain ⟨segs, hsegs⟩ := (mkSegs_some_iff S).2 ⟨sf, runSeq_filter S hsf⟩
  obtain ⟨A, hA, _⟩ := assign_least S (occ_mono S hrt) (occ_allowed S hsf hrt hsegs) (byCall h) [] (List.forall_mem_nil _)
    fun c hc => occ_of_mem S hsf (hperm.symm.subset ((byCall_perm h).subset hc))
  rw [checkLin, hsw, hsegs]
  exact Option.isSome_iff_exists.2 ⟨A, hA⟩

theorem checkLin_of_linearizable {h : List (Call W Q)} (hst : ∀ c ∈ h, c.call ≤ c.ret) (hl : Linearizable S h) :
    checkLin S h = true :=
  checkLin_complete S hl

/-! ### accepted ⇒ linearizable: the sorted assignment is a linearization -/

/-- second sort key: writes first, then reads by call stamp -/
def k2 (p : Call W Q × Nat) : Nat := if p.1.isW = true then 0 else p.1.call + 1

/-- order of the linearization: by version, writes first, reads by call stamp -/
def kle (p q : Call W Q × Nat) : Bool := decide (p.2 < q.2) || (decide (p.2 = q.2) && decide (k2 p ≤ k2 q))

theorem kle_iff {p q : Call W Q × Nat} : kle p q = true ↔ p.2 < q.2 ∨ (p.2 = q.2 ∧ k2 p ≤ k2 q) := by
  simp only [kle, Bool.or_eq_true, Bool.and_eq_true, decide_eq_true_eq]

theorem kle_le {p q : Call W Q × Nat} (h : kle p q = true) : p.2 ≤ q.2 :=
  (kle_iff.1 h).elim Nat.le_of_lt fun h => Nat.le_of_eq h.1

theorem k2_w {p : Call W Q × Nat} (hw : p.1.isW = true) : k2 p = 0 := if_pos hw
theorem k2_r {p : Call W Q × Nat} (hw : p.1.isW = false) : k2 p = p.1.call + 1 := if_neg (hw ▸ Bool.false_ne_true)

/-- the sorted assignment replays: in front of a read there is no write of a later version, behind it none of its own -/
theorem run_sorted (L : List (Call W Q × Nat)) :
    ∀ (k : Nat) (st : σ) (b : Option (Call W Q)) (segs : List (Seg σ W Q)),
      L.Pairwise (fun p q => kle p q = true) →
      mkSegs S k st b ((L.filter fun p => p.1.isW).map Prod.fst) = some segs →
      (∀ p ∈ L, ∃ g ∈ segs, g.ver = p.2 ∧ explains S p.1 g = true) →
      (runSeq S (k, st) (L.map Prod.fst)).isSome = true := by
  intro k st b segs hsort hsegs hex
  have e : (L.filter fun p => p.1.isW).map Prod.fst = (L.map Prod.fst).filter Call.isW := by rw [List.filter_map]; rfl
  refine runSeq_of_segs S _ k st b segs (e ▸ hsegs) fun P c R q eL hop => ?_
  obtain ⟨P', X, rfl, rfl, eX⟩ := List.map_eq_append_iff.1 eL
  obtain ⟨p, R', rfl, rfl, rfl⟩ := List.map_eq_cons_iff.1 eX
  obtain ⟨_, hpR, hPp⟩ := List.pairwise_append.1 hsort
  obtain ⟨g, hg, hgv, hge⟩ := hex p (List.mem_append_right _ List.mem_cons_self)
  -- a write is given its own version
  have hwver : ∀ q ∈ P' ++ p :: R', q.1.isW = true → q.2 = q.1.ver := fun q hq hw =>
    have ⟨_, _, hv, he⟩ := hex q hq
    hv ▸ ((explains_w S hw).1 he).symm
  refine ⟨g, hg, ((explains_r S hop).1 hge).2, fun w hwP hw _ hv => ?_, fun w hwR hw _ hv => ?_⟩
  · obtain ⟨q, hq, rfl⟩ := List.mem_map.1 hwP
    have := kle_le (hPp q hq p List.mem_cons_self)
    rw [hwver q (List.mem_append_left _ hq) hw, hv, ← hgv] at this
    exact Nat.not_succ_le_self _ this
  · obtain ⟨q, hq, rfl⟩ := List.mem_map.1 hwR
    rcases kle_iff.1 ((List.pairwise_cons.1 hpR).1 q hq) with h | ⟨_, h⟩
    · rw [hwver q (List.mem_append_right _ (List.mem_cons_of_mem _ hq)) hw, hv, ← hgv] at h
      exact Nat.lt_irrefl _ h
    · -- the same version: writes come first
      rw [k2_r (isW_r hop), k2_w hw] at h
      exact Nat.not_succ_le_zero _ h

theorem pairwise_kle_sort (A : List (Call W Q × Nat)) : (A.mergeSort kle).Pairwise (fun p q => kle p q = true) := by
  apply List.pairwise_mergeSort
  · intro a b c hab hbc
    rw [kle_iff] at hab hbc ⊢
    rcases hab with h | ⟨e, h⟩ <;> rcases hbc with h' | ⟨e', h'⟩
    · exact .inl (Nat.lt_trans h h')
    · exact .inl (e' ▸ h)
    · exact .inl (e ▸ h')
    · exact .inr ⟨e.trans e', Nat.le_trans h h'⟩
  · intro a b
    rw [Bool.or_eq_true, kle_iff, kle_iff]
    rcases Nat.lt_trichotomy a.2 b.2 with h | h | h
    · exact .inl (.inl h)
    · exact (Nat.le_total (k2 a) (k2 b)).imp (fun h' => .inr ⟨h, h'⟩) fun h' => .inr ⟨h.symm, h'⟩
    · exact .inr (.inl h)

theorem byCall_sorted (h : List (Call W Q)) : (byCall h).Pairwise fun a b => a.call ≤ b.call :=
  pairwise_mergeSort_key Call.call h

/-- any assignment of versions to the calls of `h` that is monotone along real time and explained by the segments of
    the version chain gives a linearization: the calls sorted by (version, writes first, call stamp) -/
theorem linearizable_of_assignment {h : List (Call W Q)} (hst : ∀ c ∈ h, c.call ≤ c.ret) {segs : List (Seg σ W Q)}
    (hm : mkSegs S 0 S.init none (sortedWrites h) = some segs) {A : List (Call W Q × Nat)}
    (hpermAh : (A.map Prod.fst).Perm h) (hmono : Mono A)
    (hallowed : ∀ p ∈ A, ∃ g ∈ segs, g.ver = p.2 ∧ explains S p.1 g = true) : Linearizable S h := by
  have hmemh : ∀ p ∈ A, p.1 ∈ h := fun p hp => hpermAh.subset (List.mem_map.2 ⟨p, hp, rfl⟩)
  -- the version chain: its writes are those of `h`, with strictly increasing versions from 1 on
  obtain ⟨sF, hrunF⟩ := (mkSegs_some_iff S).1 ⟨segs, hm⟩
  obtain ⟨hpos, hstrict⟩ := writes_increasing S hrunF
  rw [List.filter_eq_self.2 fun _ => isW_of_mem_sortedWrites] at hpos hstrict
  obtain ⟨_, nx0, rest0, rfl, hrest0⟩ := mkSegs_shape S (fun _ => isW_of_mem_sortedWrites) hm
  have hmemSW : ∀ p ∈ A, p.1.isW = true → p.1 ∈ sortedWrites h := fun p hp hw =>
    (sortedWrites_perm h).symm.subset (List.mem_filter.2 ⟨hmemh p hp, hw⟩)
  have hwver : ∀ p ∈ A, p.1.isW = true → p.2 = p.1.ver := fun p hp hw =>
    have ⟨_, _, hv, he⟩ := hallowed p hp; hv ▸ ((explains_w S hw).1 he).symm
  -- the linearization
  have hAs : (A.mergeSort kle).Perm A := List.mergeSort_perm ..
  have hsortAs := pairwise_kle_sort A
  refine ⟨(A.mergeSort kle).map Prod.fst, (hAs.map _).trans hpermAh, ?_, ?_⟩
  · -- real time: `q` after `p` in the order, yet returned before `p` was called, is impossible
    refine List.pairwise_map.2 (hsortAs.imp_of_mem fun {p q} hp hq hk hlt => ?_)
    have hpA := hAs.subset hp
    have hqA := hAs.subset hq
    -- then both have the same version, and the second sort key decides
    obtain ⟨heq, hk2⟩ := (kle_iff.1 hk).resolve_left (Nat.not_lt.2 (hmono q hqA p hpA hlt))
    have hqst := hst q.1 (hmemh q hqA)
    cases hpw : p.1.isW with
    | true =>
      have hpS := hmemSW p hpA hpw
      have hpv := hwver p hpA hpw
      cases hqw : q.1.isW with
      | true =>
        -- two writes of one version are one call
        have e := eq_of_ver_eq hstrict hpS (hmemSW q hqA hqw) (hpv.symm.trans (heq.trans (hwver q hqA hqw)))
        exact absurd (e ▸ hlt) (Nat.not_lt.2 hqst)
      | false =>
        -- the read's segment was installed by the write, which had been called when the read returned
        obtain ⟨g, hg, hv, he⟩ := hallowed q hqA
        rcases List.mem_cons.1 hg with rfl | hg'
        · exact absurd (hpos p.1 hpS) (Nat.not_lt.2 (Nat.le_of_eq (hpv.symm.trans (heq.trans hv.symm))))
        · obtain ⟨_, w, hwS, hby, hwv⟩ := hrest0 g hg'
          obtain ⟨x, hop⟩ := op_of_not_isW hqw
          have e := eq_of_ver_eq hstrict hwS hpS (hwv.trans (hv.trans (heq.symm.trans hpv)))
          exact absurd hlt (Nat.not_lt.2 (e ▸ ((explains_r S hop).1 he).1 w hby))
    | false =>
      rw [k2_r hpw] at hk2
      cases hqw : q.1.isW with
      | true => rw [k2_w hqw] at hk2; exact absurd hk2 (Nat.not_succ_le_zero _)
      | false =>
        rw [k2_r hqw] at hk2
        exact Nat.lt_irrefl _ (Nat.lt_of_lt_of_le hlt (Nat.le_trans (Nat.le_of_succ_le_succ hk2) hqst))
  · -- legal sequential execution
    have hW : ((A.mergeSort kle).filter fun p => p.1.isW).map Prod.fst = sortedWrites h := by
      refine eq_of_perm_of_ver_sorted ?_ ?_ hstrict
      · have e : ((A.mergeSort kle).filter fun p => p.1.isW).map Prod.fst =
            ((A.mergeSort kle).map Prod.fst).filter Call.isW := by rw [List.filter_map]; rfl
        exact e ▸ (((hAs.map _).trans hpermAh).filter _).trans (sortedWrites_perm h).symm
      · refine List.pairwise_map.2 ((hsortAs.sublist List.filter_sublist).imp_of_mem fun {p q} hp hq hk => ?_)
        obtain ⟨hp1, hp2⟩ := List.mem_filter.1 hp
        obtain ⟨hq1, hq2⟩ := List.mem_filter.1 hq
        have := kle_le hk
        rw [hwver p (hAs.subset hp1) hp2, hwver q (hAs.subset hq1) hq2] at this
        exact this
    exact run_sorted S _ 0 S.init none _ hsortAs (hW ▸ hm) fun p hp => hallowed p (hAs.subset hp)

theorem linearizable_of_checkLin {h : List (Call W Q)} (hst : ∀ c ∈ h, c.call ≤ c.ret) (hc : checkLin S h = true) :
    Linearizable S h := by
  rw [checkLin] at hc
  cases hm : mkSegs S 0 S.init none (sortedWrites h) with
  | none => rw [hm] at hc; cases hc
  | some segs =>
    rw [hm] at hc
    obtain ⟨A, hA⟩ := Option.isSome_iff_exists.1 hc
    have hb := byCall_perm h
    -- the calls in call-stamp order respect real time
    have hrtB : RT (byCall h) := (byCall_sorted h).imp_of_mem fun _ hbm hab hlt =>
      absurd (Nat.lt_of_le_of_lt (hst _ (hb.subset hbm)) hlt) (Nat.not_lt.2 hab)
    obtain ⟨hmono, hpermA, hall⟩ := assign_spec S (byCall h) [] A hA hrtB (List.forall_mem_nil _)
      (List.forall_mem_nil _)
    exact linearizable_of_assignment S hst hm (hpermA.trans (by rw [List.map_nil, List.append_nil]; exact hb)) hmono
      fun p hp => (hall p hp).elim (fun h' => (List.not_mem_nil h').elim) (mem_allowed S).1

theorem checkLin_iff {h : List (Call W Q)} (hst : ∀ c ∈ h, c.call ≤ c.ret) :
    checkLin S h = true ↔ Linearizable S h :=
  ⟨linearizable_of_checkLin S hst, checkLin_of_linearizable S hst⟩

theorem checkHistory_of_checkLin (hv : ExposesVersion S) {h : List (Call W Q)} (hst : ∀ c ∈ h, c.call ≤ c.ret)
    (hc : checkLin S h = true) : checkHistory S h = true :=
  checkHistory_of_linearizable S hv (linearizable_of_checkLin S hst hc)

/-! ### the fast rendering computes the same assignment -/

theorem leastFrom_sorted {lb : Nat} {l : List Nat} (hs : l.Pairwise (· < ·)) :
    leastFrom lb l = l.find? fun x => decide (lb ≤ x) := by
  rw [leastFrom_eq_min?, ← List.head?_filter]
  cases hf : l.filter fun x => decide (lb ≤ x) with
  | nil => rfl
  | cons x xs =>
    have hx := (List.pairwise_cons.1 (hf ▸ hs.sublist List.filter_sublist)).1
    exact List.min?_eq_some_iff.2 ⟨List.mem_cons_self,
      fun b hb => (List.mem_cons.1 hb).elim (fun e => Nat.le_of_eq e.symm) fun hb => Nat.le_of_lt (hx b hb)⟩

theorem pick_eq_leastFrom {segs : List (Seg σ W Q)} (hs : segs.Pairwise (fun g g' => g.ver < g'.ver)) (lb : Nat) (c : Call W Q) :
    pick S segs lb c = leastFrom lb (allowed S segs c) := by
  rw [allowed, pick, leastFrom_sorted (List.pairwise_map.2 (hs.sublist List.filter_sublist)), List.find?_map,
    List.find?_filter]
  simp only [Function.comp_def, Bool.decide_and, Bool.decide_eq_true, Bool.and_comm]

theorem eq_of_le_iff {x y : Nat} (h : ∀ B, x ≤ B ↔ y ≤ B) : x = y :=
  Nat.le_antisymm ((h y).2 (Nat.le_refl _)) ((h x).1 (Nat.le_refl _))

/-- keeping the greatest version of the calls already returned and the calls still pending is enough for the lower
    bound of every later call stamp -/
theorem lowerBound_step {acc : List (Call W Q × Nat)} {done : Nat} {pend : List (Nat × Nat)} {t : Nat}
    (hinv : ∀ c' : Call W Q, t ≤ c'.call → lowerBound acc c' = lbP done pend c'.call) (c : Call W Q) (v : Nat)
    (hc : t ≤ c.call) (c' : Call W Q) (hc' : c.call ≤ c'.call) :
    lowerBound ((c, v) :: acc) c' =
      lbP (lbP done pend c.call) ((c.ret, v) :: pend.filter fun p => !decide (p.1 < c.call)) c'.call := by
  refine eq_of_le_iff fun B => ?_
  have key : (∀ p ∈ acc, p.1.ret < c'.call → p.2 ≤ B) ↔ done ≤ B ∧ ∀ q ∈ pend, q.1 < c'.call → q.2 ≤ B := by
    rw [← lowerBound_le_iff, hinv c' (Nat.le_trans hc hc'), lbP_le_iff]
  rw [lowerBound_le_iff, List.forall_mem_cons, key, lbP_le_iff, lbP_le_iff, List.forall_mem_cons]
  constructor
  · rintro ⟨h1, h2, h3⟩
    exact ⟨⟨h2, fun q hq hlt => h3 q hq (Nat.lt_of_lt_of_le hlt hc')⟩, h1, fun q hq => h3 q (List.mem_filter.1 hq).1⟩
  · rintro ⟨⟨h2, h3⟩, h1, h4⟩
    refine ⟨h1, h2, fun q hq hlt => ?_⟩
    by_cases hqc : q.1 < c.call
    · exact h3 q hq hqc
    · exact h4 q (List.mem_filter.2 ⟨hq, by rw [decide_eq_false hqc]; rfl⟩) hlt

theorem assignFast_eq {segs : List (Seg σ W Q)} (hs : segs.Pairwise (fun g g' => g.ver < g'.ver)) (cs : List (Call W Q)) :
    ∀ (acc : List (Call W Q × Nat)) (done : Nat) (pend : List (Nat × Nat)) (t : Nat),
      (∀ c' : Call W Q, t ≤ c'.call → lowerBound acc c' = lbP done pend c'.call) → (∀ c ∈ cs, t ≤ c.call) →
      cs.Pairwise (fun a b => a.call ≤ b.call) → assignFast S segs done pend acc cs = assign S segs acc cs := by
  induction cs with
  | nil => intro acc done pend t _ _ _; rfl
  | cons c cs ih =>
    intro acc done pend t hinv ht hsort
    obtain ⟨hc, ht'⟩ := List.forall_mem_cons.1 ht
    obtain ⟨hcs, hsort'⟩ := List.pairwise_cons.1 hsort
    rw [assignFast, assign, ← hinv c hc, pick_eq_leastFrom S hs]
    cases leastFrom (lowerBound acc c) (allowed S segs c) with
    | none => rfl
    | some v => exact ih _ _ _ c.call (hinv c hc ▸ lowerBound_step hinv c v hc) hcs hsort'

theorem checkLinFast_eq (h : List (Call W Q)) : checkLinFast S h = checkLin S h := by
  rw [checkLinFast, checkLin]
  cases hm : mkSegs S 0 S.init none (sortedWrites h) with
  | none => rfl
  | some segs =>
    exact congrArg Option.isSome (assignFast_eq S (mkSegs_shape S (fun _ => isW_of_mem_sortedWrites) hm).1 (byCall h) [] 0 [] 0
      (fun _ _ => rfl) (fun _ _ => Nat.zero_le _) (byCall_sorted h))

end Fox.Spec.History
