import FoxModel.Lemmas.NodeRep
import FoxModel.Props.C02
/-
  FoxModel.Lemmas.Sorted — in every reachable tree the children of every node are in strictly ascending order of
  their first byte (`srtRoots`): `newNode` sorts, and every other way a node is rebuilt (edge replacement by
  `updateEdge`, `newNodeFromRef` on the children of an existing node) keeps the first bytes of the child list.
-/
namespace Fox.Model.NodeRep
open Fox Fox.Model

theorem srtKids_iff (cs : List Node) : srtKids cs = true ↔ ∀ c ∈ cs, srtNode c = true := by
  induction cs with
  | nil => exact ⟨fun _ _ h => (nomatch h), fun _ => rfl⟩
  | cons c cs ih => rw [srtKids, Bool.and_eq_true, ih, List.forall_mem_cons]

theorem srtNode_iff (k : List Tok) (r : Option Route) (cs : List Node) :
    srtNode (.mk k r cs) = true ↔ (fbs cs).Pairwise (· < ·) ∧ ∀ c ∈ cs, srtNode c = true := by
  conv => lhs; unfold srtNode
  simp only [Bool.and_eq_true, decide_eq_true_eq, srtKids_iff]

theorem srtNode_eta {key : List Tok} {e : Node} (h : srtNode e = true) :
    srtNode (.mk (key ++ e.key) e.route e.children) = true := by
  obtain ⟨k, ro, ks⟩ := e
  rw [srtNode_iff] at h ⊢
  exact h

/-! ### `newNode`'s sort -/

theorem render_head_of_ne_nil {k : List Tok} (h : k ≠ []) : ∃ tl, render k = firstByte k :: tl := by
  obtain ⟨t, ts, rfl⟩ := List.exists_cons_of_ne_nil h
  exact render_head t ts

theorem bytesLt_of_fb_lt {a b : Node} (ha : a.key ≠ []) (hb : b.key ≠ []) (h : fb a < fb b) :
    bytesLt (render a.key) (render b.key) = true ∧ bytesLt (render b.key) (render a.key) = false := by
  obtain ⟨ta, ea⟩ := render_head_of_ne_nil ha
  obtain ⟨tb, eb⟩ := render_head_of_ne_nil hb
  have h1 : firstByte a.key < firstByte b.key := UInt8.lt_iff_toNat_lt.mpr h
  have h2 : ¬ firstByte b.key < firstByte a.key := fun h' => Nat.lt_asymm h (UInt8.lt_iff_toNat_lt.mp h')
  rw [ea, eb]
  exact ⟨by rw [bytesLt, if_pos h1], by rw [bytesLt, if_neg h2, if_pos h1]⟩

theorem insertSorted_le (c : Node) (hc : c.key ≠ []) (ds : List Node) (hne : ∀ d ∈ ds, d.key ≠ [])
    (hs : ds.Pairwise fun a b => fb a ≤ fb b) : (insertSorted c ds).Pairwise fun a b => fb a ≤ fb b := by
  induction ds with
  | nil => exact List.pairwise_singleton ..
  | cons d ds ih =>
    rw [List.forall_mem_cons] at hne
    rw [List.pairwise_cons] at hs
    rw [insertSorted]
    split
    · rename_i hlt
      have hcd : fb c ≤ fb d := Nat.le_of_not_lt fun h =>
        Bool.false_ne_true ((bytesLt_of_fb_lt hne.1 hc h).2.symm.trans hlt)
      exact List.pairwise_cons.mpr
        ⟨List.forall_mem_cons.mpr ⟨hcd, fun x hx => Nat.le_trans hcd (hs.1 x hx)⟩, List.pairwise_cons.mpr hs⟩
    · rename_i hlt
      have hdc : fb d ≤ fb c := Nat.le_of_not_lt fun h => hlt (bytesLt_of_fb_lt hc hne.1 h).1
      refine List.pairwise_cons.mpr ⟨fun x hx => ?_, ih hne.2 hs.2⟩
      exact (List.mem_cons.mp ((insertSorted_perm c ds).mem_iff.mp hx)).elim (· ▸ hdc) (hs.1 x)

theorem sortKids_le (cs : List Node) (hne : ∀ c ∈ cs, c.key ≠ []) :
    (sortKids cs).Pairwise fun a b => fb a ≤ fb b := by
  induction cs with
  | nil => exact .nil
  | cons c cs ih =>
    rw [List.forall_mem_cons] at hne
    exact insertSorted_le c hne.1 _ (fun d hd => hne.2 d ((sortKids_perm cs).mem_iff.mp hd)) (ih hne.2)

theorem fb_ne_of_kinds {cs : List Node} (hwf : wfKids cs = true) (hnd : (kindsOf cs).Nodup) :
    cs.Pairwise fun a b => fb a ≠ fb b := by
  rw [kindsOf_eq_map, List.Nodup, List.pairwise_map] at hnd
  refine hnd.imp_of_mem fun ha hb hne e => hne ?_
  have wb := wfNode_key (wfKids_mem hwf hb)
  exact (firstByte_eq_iff_wf (wfKids_mem hwf ha) wb.1 wb.2).mp (UInt8.toNat_inj.mp e)

/-- the children of `newNode` are strictly ascending: the sort orders them by first byte, and first bytes are
    distinct -/
theorem sortKids_lt {cs : List Node} (hwf : wfKids cs = true) (hnd : (kindsOf cs).Nodup) :
    (fbs (sortKids cs)).Pairwise (· < ·) := by
  have hle := sortKids_le cs fun _ hc => (wfNode_key (wfKids_mem hwf hc)).1
  have hne := (fb_ne_of_kinds hwf hnd).perm (sortKids_perm cs).symm Ne.symm
  exact List.pairwise_map.mpr ((hle.and hne).imp fun ⟨h1, h2⟩ => Nat.lt_of_le_of_ne h1 h2)

theorem srt_newNode {k : List Tok} {r : Option Route} {cs : List Node} (hwf : wfKids cs = true)
    (hnd : (kindsOf cs).Nodup) (h : ∀ c ∈ cs, srtNode c = true) : srtNode (newNode k r cs) = true := by
  rw [newNode, srtNode_iff]
  exact ⟨sortKids_lt hwf hnd, fun c hc => h c ((sortKids_perm cs).mem_iff.mp hc)⟩

/-- whatever algorithm sorts the children (Go: `slices.SortFunc`, not stable): a permutation in ascending order of
    the first bytes is the list `sortKids` builds -/
theorem sorted_perm_unique {cs ds : List Node} (hwf : wfKids cs = true) (hnd : (kindsOf cs).Nodup)
    (hp : ds.Perm cs) (hs : (fbs ds).Pairwise (· < ·)) : ds = sortKids cs := by
  have h1 : ds.Pairwise fun a b => fb a < fb b := List.pairwise_map.mp hs
  have h2 : (sortKids cs).Pairwise fun a b => fb a < fb b := List.pairwise_map.mp (sortKids_lt hwf hnd)
  exact List.Perm.eq_of_pairwise (fun _ _ _ _ hab hba => absurd hab (Nat.lt_asymm hba)) h1 h2
    (hp.trans (sortKids_perm cs).symm)

theorem srt_newNode_nil (k : List Tok) (r : Option Route) : srtNode (newNode k r []) = true :=
  (srtNode_iff k r []).mpr ⟨.nil, fun _ h => nomatch h⟩

theorem srt_newLeaf (r : Route) (c : Nat) (suf : List Tok) : srtNode (newLeaf r c suf).1 = true := by
  unfold newLeaf
  split
  · exact (srtNode_iff _ _ [_]).mpr
      ⟨List.pairwise_singleton .., fun _ hc => List.mem_singleton.mp hc ▸ srt_newNode_nil ..⟩
  · exact srt_newNode_nil ..

/-! ### the tree operations keep the order -/

theorem fbs_mid (pre : List Node) (c c' : Node) (post : List Node) (h : fb c' = fb c) :
    fbs (pre ++ c' :: post) = fbs (pre ++ c :: post) := by
  simp [fbs, h]

theorem fb_of_kind {a b : Node} (wa : wfNode a = true) (wb : wfNode b = true) (h : kindOf a.key = kindOf b.key) :
    fb a = fb b := by
  unfold fb
  rw [(firstByte_eq_iff_wf wa (wfNode_key wb).1 (wfNode_key wb).2).mpr h]

/-- a rebuilt node is sorted because its children have distinct kinds, which the invariant of the result says -/
theorem srt_newNode_of_wf {b : Bool} {k : List Tok} {r : Option Route} {cs : List Node}
    (hwf : wfN b (newNode k r cs) = true) (h : ∀ c ∈ cs, srtNode c = true) : srtNode (newNode k r cs) = true := by
  rw [wfN_newNode] at hwf
  obtain ⟨-, -, h1, h2⟩ := (wfN_iff ..).mp hwf
  exact srt_newNode h2 h1 h

theorem srt_insertNode {r : Route} {b : Bool} {consumed : Nat} {n n' : Node} {toks : List Tok}
    (h : Ins r b consumed n toks n') (hwf : wfN b n = true) (hwf' : wfN b n' = true) (hs : srtNode n = true)
    (hne : toks ≠ []) (hok : keyOk toks = true) (hkind : b = false → kindOf n.key = kindOf toks)
    (hpos : HostOk r consumed toks) : srtNode n' = true := by
  induction h with
  | exact => exact (srtNode_iff ..).mpr ((srtNode_iff ..).mp hs)
  | keyEnd => exact srt_newNode_of_wf hwf' (List.forall_mem_singleton.mpr hs)
  | @descend b consumed key route pre c post t ts c' hp hc ih =>
    obtain ⟨hasc, hkids⟩ := (srtNode_iff ..).mp hs
    obtain ⟨-, -, hnd, hkw⟩ := (wfN_iff ..).mp hwf
    have hok' : keyOk (t :: ts) = true := keyOk_append_right key _ hok
    have hck := (pick_kind hkw hnd (by simp) hok' hp).1
    have hcw : wfNode c = true := wfKids_mem hkw (by simp)
    have hpos' := HostOk_advance key (t :: ts) hpos
    have hcw' := wf_insertNode hc hcw (by simp) hok' (fun _ => hck) hpos'
    have hc' := ih hcw hcw' (hkids c (by simp)) (by simp) hok' (fun _ => hck) hpos'
    refine (srtNode_iff ..).mpr ⟨?_, forall_mem_mid _ hkids hc'⟩
    rw [fbs_mid _ _ _ _ (fb_of_kind hcw' hcw (hc.key_kind (by simp) fun _ => hck))]; exact hasc
  | addLeaf hp =>
    refine srt_newNode_of_wf hwf' ?_
    simp only [List.forall_mem_append, List.forall_mem_singleton]
    exact ⟨((srtNode_iff ..).mp hs).2, srt_newLeaf _ _ _⟩
  | split hab hw =>
    exact srt_newNode_of_wf hwf' (List.forall_mem_cons.mpr ⟨srt_newLeaf _ _ _, List.forall_mem_singleton.mpr hs⟩)

theorem srt_updateNode {r : Route} {n n' : Node} {toks : List Tok} (h : Upd r n toks n')
    (hs : srtNode n = true) : srtNode n' = true := by
  induction h with
  | here => exact (srtNode_iff ..).mpr ((srtNode_iff ..).mp hs)
  | @descend key route pre c post t ts c' hc ih =>
    obtain ⟨hasc, hkids⟩ := (srtNode_iff ..).mp hs
    refine (srtNode_iff ..).mpr ⟨?_, forall_mem_mid _ hkids (ih (hkids c (by simp)))⟩
    rw [fbs_mid _ _ _ _ (show fb c' = fb c by unfold fb; rw [hc.key])]; exact hasc

theorem srt_removeNode {b : Bool} {n : Node} {toks : List Tok} {r : Route} {res : Rem} (h : Rmv b n toks r res)
    (hwf : wfN b n = true) (hs : srtNode n = true) : ∀ n', res = .replaced n' → srtNode n' = true := by
  induction h with (obtain ⟨hasc, hkids⟩ := (srtNode_iff ..).mp hs; intro n' hres)
  | @here b key r cs =>
    rcases cs with _ | ⟨c, _ | ⟨c2, cs⟩⟩ <;> cases hres
    · exact srtNode_eta (hkids c (by simp))
    · exact (srtNode_iff ..).mpr ⟨hasc, hkids⟩
  | @under b key route pre c post t ts r resc res hc hup ih =>
    obtain ⟨-, -, hnd, hkw⟩ := (wfN_iff ..).mp hwf
    have hcw : wfNode c = true := wfKids_mem hkw (by simp)
    have hkids' := forall_mem_without hkids
    have hwr := wf_removeNode (.under hc hup) hwf
    rcases hup with ⟨c'⟩ | ⟨hed, rfl, -⟩ | ⟨e, hed, rfl, -, hor⟩ | ⟨hor⟩ <;> cases hres
    · have hres := wf_removeNode hc hcw c' rfl
      refine (srtNode_iff ..).mpr ⟨?_, forall_mem_mid _ hkids (ih hcw (hkids c (by simp)) _ rfl)⟩
      rw [fbs_mid _ _ _ _ (fb_of_kind hres.1 hcw (hres.2 rfl))]; exact hasc
    · exact srtNode_eta (hkids' e (by rw [hed]; simp))
    · exact srt_newNode_of_wf (hwr _ rfl).1 hkids'

/-! ### every method root, through the four operations and along a history -/

theorem srtRoots_iff (rs : Roots) : srtRoots rs = true ↔ ∀ x ∈ rs, srtNode x.2 = true := by
  simp [srtRoots, List.all_eq_true]

theorem srt_empty : srtNode emptyNode = true := by decide

open Fox.C02 in
/-- one call keeps the order of children, the representation invariant being carried along -/
theorem srt_step {t : Tree} (op : Op) (hg : Good t) (hs : srtRoots t.roots = true) (hv : op.valid = true) :
    srtRoots (stepModel t op).1.roots = true := by
  have h : RootsOk (fun n => wfRoot n = true ∧ srtNode n = true) t.roots :=
    ⟨fun x hx => ⟨(hg.roots x hx).wf, (srtRoots_iff _).mp hs x hx⟩, hg.nodup⟩
  suffices RootsOk (fun n => wfRoot n = true ∧ srtNode n = true) (stepModel t op).1.roots from
    (srtRoots_iff _).mpr fun x hx => (this.1 x hx).2
  cases op with
  | handle m r =>
    simp only [stepModel]
    have hne := validPattern_ne_nil hv
    have hok := ((validPattern_iff r).mp hv).1
    have hho := validPattern_hostOk hv
    cases hi : t.insert m r with
    | ok y =>
      refine h.insert ⟨by decide, srt_empty⟩ (fun root res hr hn => ?_) hi
      have hw' := wf_insertNode hn hr.1 hne hok (fun e => nomatch e) hho
      exact ⟨hw', srt_insertNode hn hr.1 hw' hr.2 hne hok (fun e => nomatch e) hho⟩
    | error e => cases e <;> exact h
  | update m r =>
    simp only [stepModel]
    cases hu : t.update m r with
    | some t' =>
      exact h.update (fun root root' hr hn =>
        ⟨wf_updateNode hn (b := true) hr.1, srt_updateNode hn hr.2⟩) hu
    | none => exact h
  | delete m pat =>
    simp only [stepModel]
    cases hr : t.remove m pat with
    | some y =>
      obtain ⟨t', old, c⟩ := y
      exact h.remove (fun root n hr hn => ⟨(wf_removeNode hn hr.1 n rfl).1, srt_removeNode hn hr.1 hr.2 n rfl⟩) hr
    | none => exact h
  | truncate ms => exact h.truncate ⟨by decide, srt_empty⟩ ms

open Fox.C02 in
theorem srt_run : ∀ (ops : List Op) {t : Tree} {s : Spec.Store}, Sim t s → srtRoots t.roots = true →
    (∀ op ∈ ops, op.valid = true) → srtRoots (runModel t ops).1.roots = true
  | [], _, _, _, hs, _ => hs
  | op :: ops, t, s, h, hs, hv => by
    have h1 := (step_refines op h (hv op (by simp))).1
    exact srt_run ops h1 (srt_step op h.good hs (hv op (by simp))) (fun o ho => hv o (by simp [ho]))

end Fox.Model.NodeRep
