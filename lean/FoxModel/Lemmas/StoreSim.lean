import FoxModel.Lemmas.TreeInv
/-
  FoxModel.Lemmas.StoreSim — the specification store beside the tree: the relation `Sim` between a tree and the
  sequential map `Spec.Store` (both invariants, the same routes per method, the same count).

  The store operations are read per method (`store_routesOf_append / update / delete`, over `fiber`); on related
  states the map's lookup and conflict rule read the suffix set of the method (`Sim.get_iff`, `Sim.conflicts`), and an
  operation on one method keeps `Sim` if it does so for the routes of that method (`Sim.step`). `Tree.truncate`
  folds over the methods, the map follows with one filter per method (`truncate_fold`, `store_fold_filter`).
-/

namespace Fox.C02
open Fox Fox.Model Fox.Spec

/-! ### the specification store, and the relation `abs` between a tree and the store -/

theorem store_routesOf_eq_fiber (s : Store) (m : Bytes) : s.routesOf m = fiber s m := rfl

theorem store_get_eq (s : Store) (m : Bytes) (pat : List Tok) :
    s.get m pat = (s.routesOf m).find? (fun r => r.pattern == pat) := by
  simp only [Store.get, Store.routesOf, List.find?_map, List.find?_filter]
  congr 2
  funext e
  simp only [Function.comp, Bool.decide_and, Bool.decide_eq_true]

theorem store_conflicts_eq (s : Store) (m : Bytes) (pat : List Tok) :
    s.conflicts m pat = (s.routesOf m).filter (fun r => conflictWith r.pattern pat) := by
  simp only [Store.conflicts, Store.routesOf, List.filter_map, List.filter_filter]
  congr 1
  apply List.filter_congr
  intro e _
  simp [Bool.and_comm]

theorem store_routesOf_patterns_nodup {s : Store} (h : StoreOk s) (m : Bytes) :
    ((s.routesOf m).map (·.pattern)).Nodup := by
  unfold StoreOk at h
  simp only [Store.routesOf, List.map_map]
  rw [List.Nodup, List.pairwise_map] at h ⊢
  refine (h.sublist List.filter_sublist).imp_of_mem ?_
  intro a b ha hb hab e
  simp only [List.mem_filter, beq_iff_eq] at ha hb
  apply hab
  simp only [Function.comp] at e
  rw [Prod.mk.injEq]; exact ⟨ha.2.trans hb.2.symm, e⟩

theorem filter_length_split {α} (p : α → Bool) (l : List α) :
    (l.filter p).length + (l.filter fun x => !p x).length = l.length := by
  induction l with
  | nil => rfl
  | cons x xs ih =>
    rw [List.length_cons, ← ih, List.filter_cons, List.filter_cons]
    cases p x
    · exact (Nat.add_assoc _ _ 1).symm
    · exact Nat.add_right_comm _ 1 _

/-- the tree holds the same (method, route) pairs as the store, and counts them -/
def abs (t : Tree) (s : Store) : Prop :=
  (∀ m, (routesOf t m).Perm (s.routesOf m)) ∧ t.size = s.length

/-! ### what the store operations do to the routes of one method, to the uniqueness of keys and to the length -/

theorem store_routesOf_append (s : Store) (m m' : Bytes) (r : Route) :
    Store.routesOf (s ++ [(m, r)]) m' = if m' = m then s.routesOf m ++ [r] else s.routesOf m' := by
  rw [store_routesOf_eq_fiber, fiber_append]
  by_cases e : m' = m
  · simp [fiber, Store.routesOf, e]
  · simp [fiber, Store.routesOf, e, Ne.symm e]

theorem store_routesOf_update (s : Store) (m m' : Bytes) (r : Route) :
    Store.routesOf (s.map fun e => if e.1 == m && e.2.pattern == r.pattern then (m, r) else e) m' =
      if m' = m then (s.routesOf m).map (fun r' => if r'.pattern == r.pattern then r else r') else s.routesOf m' := by
  have hf : ∀ e : Bytes × Route, (if e.1 == m && e.2.pattern == r.pattern then (m, r) else e) =
      (e.1, if e.1 == m && e.2.pattern == r.pattern then r else e.2) := by
    intro e
    cases h : (e.1 == m && e.2.pattern == r.pattern)
    · rfl
    · rw [eq_of_beq (Bool.and_eq_true_iff.mp h).1]; rfl
  rw [store_routesOf_eq_fiber,
    fiber_map (fun m' (r' : Route) => if m' == m && r'.pattern == r.pattern then r else r') hf]
  by_cases e : m' = m
  · rw [if_pos e, e]; simp only [beq_self_eq_true, Bool.true_and]; rfl
  · rw [if_neg e]; simp only [beq_false_of_ne e, Bool.false_and, Bool.false_eq_true, if_false, List.map_id']; rfl

theorem store_routesOf_delete (s : Store) (m m' : Bytes) (pat : List Tok) :
    Store.routesOf (s.filter fun e => !(e.1 == m && e.2.pattern == pat)) m' =
      if m' = m then (s.routesOf m).filter (fun r' => !(r'.pattern == pat)) else s.routesOf m' := by
  rw [store_routesOf_eq_fiber, fiber_filter (fun m' (r' : Route) => !(m' == m && r'.pattern == pat))]
  by_cases e : m' = m
  · rw [if_pos e, e]; simp only [beq_self_eq_true, Bool.true_and]; rfl
  · rw [if_neg e]; simp only [beq_false_of_ne e, Bool.false_and, Bool.not_false]
    exact List.filter_eq_self.mpr fun _ _ => rfl

/-- a key that `get` does not find can be added -/
theorem StoreOk.append {s : Store} {m : Bytes} {r : Route} (h : StoreOk s) (hg : s.get m r.pattern = none) :
    StoreOk (s ++ [(m, r)]) := by
  unfold StoreOk
  rw [List.map_append, List.nodup_append]
  refine ⟨h, List.pairwise_singleton _ _, fun a ha b hb e => ?_⟩
  obtain ⟨⟨m', r'⟩, hx, rfl⟩ := List.mem_map.mp ha
  obtain rfl := List.mem_singleton.mp hb
  rw [store_get_eq, List.find?_eq_none] at hg
  obtain ⟨rfl, e2⟩ := Prod.mk.inj e
  exact hg r' (mem_fiber.mpr hx) (beq_iff_eq.mpr e2)

theorem store_update_keys (s : Store) (m : Bytes) (r : Route) :
    (s.map fun e => if e.1 == m && e.2.pattern == r.pattern then (m, r) else e).map (fun e => (e.1, e.2.pattern)) =
      s.map (fun e => (e.1, e.2.pattern)) := by
  rw [List.map_map]
  apply List.map_congr_left
  intro e _
  simp only [Function.comp]
  split
  · rename_i hc
    simp only [Bool.and_eq_true, beq_iff_eq] at hc
    rw [hc.1, hc.2]
  · rfl

/-- deleting a key that is present removes exactly one entry, since keys are unique -/
theorem store_delete_length {s : Store} {m : Bytes} {pat : List Tok} (hok : StoreOk s)
    (hmem : (m, pat) ∈ s.map fun e => (e.1, e.2.pattern)) :
    (s.filter fun e => !(e.1 == m && e.2.pattern == pat)).length + 1 = s.length := by
  have h1 : List.count (m, pat) (s.map fun e => (e.1, e.2.pattern)) = 1 := by rw [hok.count, if_pos hmem]
  rw [List.count_eq_countP, List.countP_map, List.countP_eq_length_filter] at h1
  have h2 := filter_length_split (fun e : Bytes × Route => e.1 == m && e.2.pattern == pat) s
  rw [show (s.filter fun e => e.1 == m && e.2.pattern == pat).length = 1 from h1, Nat.add_comm] at h2
  exact h2

/-! ### the simulation relation -/

/-- looking an entry up by a key that no other entry shares finds that entry -/
theorem find?_of_nodup_key {α β} [BEq β] [LawfulBEq β] {f : α → β} {l : List α} (hnd : (l.map f).Nodup) {a : α}
    (ha : a ∈ l) : l.find? (fun x => f x == f a) = some a := by
  induction l with
  | nil => cases ha
  | cons x xs ih =>
    rw [List.map_cons, List.nodup_cons] at hnd
    rw [List.find?_cons]
    rcases List.mem_cons.mp ha with rfl | ha'
    · rw [beq_self_eq_true]
    · rw [beq_false_of_ne fun (e : f x = f a) => hnd.1 (e ▸ List.mem_map_of_mem ha')]
      exact ih hnd.2 ha'

/-- invariant of the tree, invariant of the store, and the abstraction relation between them -/
structure Sim (t : Tree) (s : Store) : Prop where
  good : Good t
  store : StoreOk s
  abs : abs t s

section
variable {t : Tree} {s : Store} (h : Sim t s) (m : Bytes)
include h

theorem Sim.mem_iff (r' : Route) : r' ∈ s.routesOf m ↔ ∃ sr ∈ sufsOf t m, sr.2 = r' := by
  rw [← (h.abs.1 m).mem_iff, routesOf_eq, List.mem_map]

/-- the map's lookup reads the suffix set of the method -/
theorem Sim.get_iff {pat : List Tok} {e : Route} : s.get m pat = some e ↔ (pat, e) ∈ sufsOf t m := by
  refine ⟨fun hg => ?_, fun hmem => ?_⟩
  · rw [store_get_eq] at hg
    obtain ⟨⟨pat', _⟩, hsr, rfl⟩ := (h.mem_iff m e).mp (List.mem_of_find?_eq_some hg)
    have hp := List.find?_some hg
    have hpat : pat' = pat := (h.good.pats m _ hsr).1.trans (eq_of_beq hp)
    exact hpat ▸ hsr
  · have hpat : pat = e.pattern := (h.good.pats m _ hmem).1
    rw [store_get_eq, hpat]
    exact find?_of_nodup_key (store_routesOf_patterns_nodup h.store m) ((h.mem_iff m e).mpr ⟨_, hmem, rfl⟩)

theorem Sim.get_none {pat : List Tok} (hno : ∀ sr ∈ sufsOf t m, sr.1 ≠ pat) : s.get m pat = none := by
  cases hg : s.get m pat with
  | none => rfl
  | some e => exact absurd rfl (hno _ ((h.get_iff m).mp hg))

theorem Sim.conflicts (pat : List Tok) : (s.conflicts m pat).Perm (conflictsIn (sufsOf t m) pat) := by
  rw [store_conflicts_eq, conflictsIn_eq_filter (h.good.pats m), ← routesOf_eq]
  exact ((h.abs.1 m).filter _).symm

/-- a registered suffix is an entry of the store, and the only one of its method with that pattern -/
theorem Sim.entry_of_perm {pat : List Tok} {old : Route} {X : SufSet} (hp : (sufsOf t m).Perm ((pat, old) :: X)) :
    old.pattern = pat ∧ s.get m pat = some old ∧ (s.routesOf m).Perm (old :: X.map (·.2)) ∧
      ∀ x ∈ X.map (·.2), x.pattern ≠ pat := by
  have hold : (pat, old) ∈ sufsOf t m := hp.mem_iff.mpr List.mem_cons_self
  have hpat : old.pattern = pat := (h.good.pats m _ hold).1.symm
  have h1 : (s.routesOf m).Perm (old :: X.map (·.2)) := by
    refine (h.abs.1 m).symm.trans ?_
    rw [routesOf_eq]; exact hp.map (·.2)
  have hnd := (h1.map (·.pattern)).nodup_iff.mp (store_routesOf_patterns_nodup h.store m)
  rw [List.map_cons, List.nodup_cons, hpat] at hnd
  exact ⟨hpat, (h.get_iff m).mpr hold, h1, fun x hx e => hnd.1 (e ▸ List.mem_map_of_mem hx)⟩

/-- an operation on method `m` keeps the relation if it does so for the routes of `m` and leaves the other
    methods alone -/
theorem Sim.step {t' : Tree} {s' : Store} (hg : Good t') (hs : StoreOk s')
    (hm : (routesOf t' m).Perm (s'.routesOf m)) (ht : ∀ m', m' ≠ m → sufsOf t' m' = sufsOf t m')
    (hs' : ∀ m', m' ≠ m → s'.routesOf m' = s.routesOf m') (hsize : t'.size = s'.length) : Sim t' s' := by
  refine ⟨hg, hs, fun m' => ?_, hsize⟩
  by_cases e : m' = m
  · rw [e]; exact hm
  · rw [routesOf_eq, ht m' e, ← routesOf_eq, hs' m' e]; exact h.abs.1 m'

end

/-! ### truncating one method after the other -/

/-- one method truncated on both sides. `Tree.truncate` folds `truncateOne` over the methods; the map follows with one
    filter per method (`truncate_fold`), and these filters compose to the single one of `Store.truncate`
    (`store_fold_filter`) -/
theorem truncateOne_refines {rs : Roots} {sz mp dp : Nat} {s : Store} (m : Bytes) (h : Sim ⟨rs, sz, mp, dp⟩ s) :
    Sim ⟨(truncateOne (rs, sz) m).1, (truncateOne (rs, sz) m).2, mp, dp⟩ (s.filter fun e => e.1 != m) := by
  rcases hst : truncateOne (rs, sz) m with ⟨rs', sz'⟩
  obtain ⟨hgood, hsame, hother, hsize⟩ := truncateOne_spec m h.good rs' sz' hst
  refine h.step m hgood (h.store.sublist (List.Sublist.map _ List.filter_sublist)) ?_ hother
    (fun m' e => fiber_drop_other s e) ?_
  · rw [routesOf_eq, hsame, store_routesOf_eq_fiber, fiber_drop_same]; exact .nil
  · -- the entries of `s` are those of method `m`, as many as the tree has routes for `m`, and the others
    have := filter_length_split (fun e : Bytes × Route => e.1 == m) s
    rw [← h.abs.2, ← List.length_map (·.2), ← Store.routesOf, ← (h.abs.1 m).length_eq] at this
    exact hsize.trans (Nat.sub_eq_of_eq_add' this.symm)

theorem truncate_fold {mp dp : Nat} (ms : List Bytes) : ∀ (rs : Roots) (sz : Nat) (s : Store),
    Sim ⟨rs, sz, mp, dp⟩ s →
    Sim ⟨(ms.foldl truncateOne (rs, sz)).1, (ms.foldl truncateOne (rs, sz)).2, mp, dp⟩
      (ms.foldl (fun s m => s.filter fun e => e.1 != m) s) := by
  induction ms with
  | nil => intro rs sz s h; exact h
  | cons m ms ih => intro rs sz s h; exact ih _ _ _ (truncateOne_refines m h)

theorem store_fold_filter (ms : List Bytes) : ∀ s : Store,
    ms.foldl (fun s m => s.filter fun e => e.1 != m) s = s.filter fun e => !ms.contains e.1 := by
  induction ms with
  | nil => intro s; exact (List.filter_eq_self.mpr fun _ _ => rfl).symm
  | cons m ms ih =>
    intro s
    rw [List.foldl_cons, ih, List.filter_filter]
    apply List.filter_congr
    intro e _
    rw [List.contains_cons, Bool.not_or, Bool.and_comm]; rfl

end Fox.C02
