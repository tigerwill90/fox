import FoxModel.Lemmas.FragReach
import FoxModel.Lemmas.GrammarShape
/-
  FoxModel.Lemmas.FragGrammar — what the parser accepts has the shape the byte-level theorems assume:
  `validToks lim toks` (the documented grammar, `Fox.C10.parse_iff`) and the tokenizer's guarantee on literals imply `patOK toks`.
-/
namespace Fox.Model.InsScan
open Fox Fox.Model Fox.Spec Fox.C10

theorem notSlash_fun : notSlash = fun t => !isSlash t :=
  funext fun t => congrArg not (Bool.eq_iff_iff.2 (beq_iff_eq.trans (isSlash_iff t).symm))

/-- **a pattern of the grammar has the shape the byte-level theorems assume** -/
theorem patOK_of_valid {lim : Limits} {toks : List Tok} (hv : validToks lim toks = true) (hl : litsOk toks = true) :
    patOK toks = true := by
  obtain ⟨_, hwP, _, hwH⟩ := shape_of_valid hv
  obtain ⟨hhostTok, hpathTok⟩ := toks_of_valid hv hl
  unfold patOK
  rw [notSlash_fun]
  simp only [Bool.and_eq_true]
  refine ⟨⟨?_, fragOkHost_iff.2 ⟨hwH, fun t ht => (hhostTok t ht).2⟩⟩, (fragOkPath_eq _).trans hwP⟩
  simp only [toksOk, List.all_eq_true]
  intro t ht
  rw [← List.takeWhile_append_dropWhile (p := (!isSlash ·)) (l := toks)] at ht
  exact (List.mem_append.1 ht).elim (fun h => (hhostTok t h).1) (hpathTok t)

end Fox.Model.InsScan
