import FoxModel.Lemmas.CleanSpec
import FoxModel.Lemmas.Location.Bytes
/-
  FoxModel.Lemmas.Location.DotSegments: the loop of RFC 3986 §5.2.4. Every round shortens the input buffer, so the fuel
  `removeDotSegments` starts with suffices and the loop can be unrolled round by round without it (`rds`, `rds_step`). The rounds that
  occur on a path made of proper elements, "/./" and "/../" are then computed once (`step_*`) and the loop is run over a whole run of
  proper elements (`rds_join`).
-/
namespace Fox.C08.Loc
open Fox Fox.Model.Location Fox.RFC3986 Fox.Spec.Clean

/-! ### §5.2.4: the fuel of the loop suffices -/

theorem prefix_length {a l : Bytes} (h : a.isPrefixOf l = true) : a.length ≤ l.length :=
  (List.isPrefixOf_iff_prefix.mp h).length_le

theorem firstSegLen_pos {inp : Bytes} (h : inp ≠ []) : 0 < firstSegLen inp := by
  cases inp with
  | nil => exact absurd rfl h
  | cons c r => exact Nat.add_pos_left Nat.one_pos _

/-- every round of step 2 shortens the input buffer: A, D and E drop a non-empty prefix, B and C replace a prefix of
    at least three bytes by one. (`by_cases` and `if_pos`/`if_neg` branch by branch: `split` on this nest is slow.) -/
theorem rdsStep_length_lt {inp : Bytes} (out : Bytes) (h : inp ≠ []) : (rdsStep inp out).1.length < inp.length := by
  have hpos : 0 < inp.length := List.length_pos_iff.mpr h
  have hE := firstSegLen_pos h
  unfold rdsStep
  by_cases hA1 : [DOT, DOT, SLASH].isPrefixOf inp = true
  · rw [if_pos hA1, List.length_drop]; omega
  rw [if_neg hA1]
  by_cases hA2 : [DOT, SLASH].isPrefixOf inp = true
  · rw [if_pos hA2, List.length_drop]; omega
  rw [if_neg hA2]
  by_cases hB1 : [SLASH, DOT, SLASH].isPrefixOf inp = true
  · have : 3 ≤ inp.length := prefix_length hB1
    rw [if_pos hB1, List.length_cons, List.length_drop]; omega
  rw [if_neg hB1]
  by_cases hB2 : inp = [SLASH, DOT]
  · rw [if_pos hB2, hB2]; exact Nat.lt_succ_self 1
  rw [if_neg hB2]
  by_cases hC1 : [SLASH, DOT, DOT, SLASH].isPrefixOf inp = true
  · have : 4 ≤ inp.length := prefix_length hC1
    rw [if_pos hC1, List.length_cons, List.length_drop]; omega
  rw [if_neg hC1]
  by_cases hC2 : inp = [SLASH, DOT, DOT]
  · rw [if_pos hC2, hC2]; exact Nat.lt_add_left 1 (Nat.lt_succ_self 1)
  rw [if_neg hC2]
  by_cases hD : inp = [DOT] ∨ inp = [DOT, DOT]
  · rw [if_pos hD]; exact hpos
  · rw [if_neg hD, List.length_drop]; omega

theorem rdsLoop_nil (n : Nat) (out : Bytes) : rdsLoop n [] out = out := by cases n <;> simp [rdsLoop]

/-- with at least `inp.length` rounds of fuel the result does not depend on the fuel: the loop has ended by itself -/
theorem rdsLoop_fuel : ∀ (n m : Nat) (inp out : Bytes), inp.length ≤ n → inp.length ≤ m → rdsLoop n inp out = rdsLoop m inp out := by
  intro n
  induction n with
  | zero =>
    intro m inp out hn _
    rw [List.length_eq_zero_iff.mp (Nat.le_zero.mp hn), rdsLoop_nil, rdsLoop_nil]
  | succ n ih =>
    intro m inp out hn hm
    by_cases h : inp = []
    · rw [h, rdsLoop_nil, rdsLoop_nil]
    · -- a round is made on both sides
      have := rdsStep_length_lt out h
      obtain ⟨m, rfl⟩ : ∃ k, m = k + 1 := Nat.exists_eq_succ_of_ne_zero (by have := List.length_pos_iff.mpr h; omega)
      simp only [rdsLoop, h, if_false]
      exact ih m _ _ (by omega) (by omega)

/-- the loop of step 2 -/
def rds (inp out : Bytes) : Bytes := rdsLoop inp.length inp out

theorem removeDotSegments_eq (p : Bytes) : removeDotSegments p = rds p [] := rfl

theorem rds_nil (out : Bytes) : rds [] out = out := rfl

theorem rds_step {inp : Bytes} (out : Bytes) (h : inp ≠ []) : rds inp out = rds (rdsStep inp out).1 (rdsStep inp out).2 := by
  unfold rds
  cases hl : inp.length with
  | zero => exact absurd (List.length_eq_zero_iff.mp hl) h
  | succ k =>
    have := rdsStep_length_lt out h
    simp only [rdsLoop, h, if_false]
    exact rdsLoop_fuel _ _ _ _ (by omega) (Nat.le_refl _)

/-! ### §5.2.4: the rounds that occur -/

theorem firstSegLen_seg {s rest : Bytes} (hs : SLASH ∉ s) (hr : ElemEnd rest) (c : UInt8) :
    firstSegLen (c :: (s ++ rest)) = 1 + s.length := by
  simp only [firstSegLen]
  rw [(span_app (fun y hy => by simpa using ne_of_mem_of_not_mem hy hs) (by rcases hr with rfl | ⟨t, rfl⟩ <;> simp)).1]

/-- 2E on "/" ++ s ++ rest, `s` a proper element: the segment moves to the output buffer -/
theorem step_seg {s rest : Bytes} (hs : GoodElem s) (hr : ElemEnd rest) (out : Bytes) :
    rdsStep (SLASH :: (s ++ rest)) out = (rest, out ++ SLASH :: s) := by
  have hE : (List.drop (firstSegLen (SLASH :: (s ++ rest))) (SLASH :: (s ++ rest)),
      out ++ List.take (firstSegLen (SLASH :: (s ++ rest))) (SLASH :: (s ++ rest))) = (rest, out ++ SLASH :: s) := by
    rw [firstSegLen_seg hs.noslash hr SLASH, Nat.add_comm]
    simp [List.take_left']
  rw [← hE]
  have hSD : (SLASH == DOT) = false := by decide
  have hDS : (DOT == SLASH) = false := by decide
  -- the first bytes of `s` rule out A–D
  unfold rdsStep
  rcases goodElem_cases hs with ⟨c, t, rfl, h1, h2⟩ | ⟨c, t, rfl, h1, h2⟩ | ⟨c, t, rfl, h1⟩
  · simp [List.isPrefixOf_cons_cons, hDS, Ne.symm h2, h2]
  · simp [List.isPrefixOf_cons_cons, hDS, Ne.symm h1, Ne.symm h2, h2]
  · simp [List.isPrefixOf_cons_cons, hSD, hDS, Ne.symm h1]

/-- 2E on a final "/" -/
theorem step_slash (out : Bytes) : rdsStep [SLASH] out = ([], out ++ [SLASH]) := rfl

/-- 2B on "/./" -/
theorem step_dot (r out : Bytes) : rdsStep (SLASH :: DOT :: SLASH :: r) out = (SLASH :: r, out) := rfl

/-- 2C on "/../" -/
theorem step_dotdot (r out : Bytes) : rdsStep (SLASH :: DOT :: DOT :: SLASH :: r) out = (SLASH :: r, removeLastSegment out) :=
  rfl

/-! ### §5.2.4: the loop over a proper element, a final "/", "/./" and "/../" -/

theorem rds_seg {s rest : Bytes} (hs : GoodElem s) (hr : ElemEnd rest) (out : Bytes) :
    rds (SLASH :: (s ++ rest)) out = rds rest (out ++ SLASH :: s) := by
  rw [rds_step out (by simp), step_seg hs hr]

theorem rds_join {st : List Bytes} (hst : ∀ s ∈ st, GoodElem s) {rest : Bytes} (hr : ElemEnd rest) (out : Bytes) :
    rds (join st ++ rest) out = rds rest (out ++ join st) := by
  induction st generalizing out with
  | nil => simp [join]
  | cons s st ih =>
    have hjr : ElemEnd (join st ++ rest) := by
      cases st with
      | nil => simpa [join] using hr
      | cons t st => rw [join_cons]; exact elemEnd_slash _
    rw [join_cons, List.cons_append, List.append_assoc, rds_seg (hst s (by simp)) hjr,
      ih (fun t ht => hst t (by simp [ht]))]
    simp

theorem rds_slash (out : Bytes) : rds [SLASH] out = out ++ [SLASH] := by
  rw [rds_step out (by simp), step_slash, rds_nil]

theorem rds_dot (r out : Bytes) : rds (SLASH :: DOT :: SLASH :: r) out = rds (SLASH :: r) out := by
  rw [rds_step out (by simp), step_dot]

theorem rds_dotdot (r out : Bytes) : rds (SLASH :: DOT :: DOT :: SLASH :: r) out = rds (SLASH :: r) (removeLastSegment out) := by
  rw [rds_step out (by simp), step_dotdot]

end Fox.C08.Loc
