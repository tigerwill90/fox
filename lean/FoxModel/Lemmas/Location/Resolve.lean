import FoxModel.Lemmas.Location.Handler
import FoxModel.Lemmas.Location.DotSegments
/-
  FoxModel.Lemmas.Location.Resolve: RFC 3986 §5.2 on the references the handler writes. A reference seg ++ "/" ++ rest [++ "?" ++ q]
  whose first segment is non-empty and free of `: / ? #` parses as a relative-path reference (`parse_head`, `parseRef_rel`), and resolving
  it replaces the last segment of the base path and runs the dot-segment loop (`resolve_rel`). With the Go side and the loop this gives
  where the Location of a path in normal form leads (`resolves_noslash`, `resolves_slash`), for any last element with the properties
  `LastElem` so that the raw branch can use it with the escaped element.
-/
namespace Fox.C08.Loc
open Fox Fox.Model.Location Fox.RFC3986 Fox.Spec.Clean

/-! ### RFC side: the components of  pre ++ "/" ++ rest [++ "?" ++ q] -/

theorem next_delim_ne_colon (pre post : Bytes) (hc : COLON ∉ pre) :
    ((pre ++ SLASH :: post).drop (firstSegment (pre ++ SLASH :: post)).length).head? ≠ some COLON := by
  unfold firstSegment
  induction pre with
  | nil => simp [notGenDelim, SLASH, COLON]
  | cons c pre ih =>
    have hc' : COLON ∉ pre := fun h => hc (by simp [h])
    have hcc : c ≠ COLON := fun h => hc (by simp [h])
    by_cases hn : notGenDelim c = true
    · simp only [List.cons_append, List.takeWhile_cons, hn, if_true, List.length_cons, List.drop_succ_cons]
      exact ih hc'
    · simp only [List.cons_append, List.takeWhile_cons, hn]
      simp [hcc]

/-- A reference that starts with a non-empty run of bytes other than ':' and '/', followed by '/', has neither a scheme (in the
    strict or in the liberal reading) nor an authority: the parse gets past both groups with the whole string. -/
theorem parse_head {pre : Bytes} (hc : COLON ∉ pre) (hne : pre ≠ []) (hs : SLASH ∉ pre) (post : Bytes) :
    schemeOf (pre ++ SLASH :: post) = none ∧ looseSchemeOf (pre ++ SLASH :: post) = none ∧
    afterScheme (pre ++ SLASH :: post) = pre ++ SLASH :: post ∧ authorityOf (pre ++ SLASH :: post) = none ∧
    afterAuthority (pre ++ SLASH :: post) = pre ++ SLASH :: post := by
  have h1 : schemeOf (pre ++ SLASH :: post) = none := by
    unfold schemeOf; rw [if_neg (fun h => next_delim_ne_colon pre post hc h.2)]
  have h2 : looseSchemeOf (pre ++ SLASH :: post) = none := by
    unfold looseSchemeOf; rw [if_neg (fun h => next_delim_ne_colon pre post hc h.2)]
  have h3 : authorityOf (pre ++ SLASH :: post) = none := by
    cases pre with
    | nil => exact absurd rfl hne
    | cons c t =>
      have : (SLASH == c) = false := by simpa using fun h : SLASH = c => hs (by simp [h])
      simp [authorityOf, List.isPrefixOf, this]
  refine ⟨h1, h2, ?_, h3, ?_⟩
  · unfold afterScheme; rw [h1]
  · unfold afterAuthority; rw [h3]

theorem noScheme_of_noColon {pre : Bytes} (hc : COLON ∉ pre) (hne : pre ≠ []) (hs : SLASH ∉ pre) (post : Bytes) :
    (parseRef (pre ++ SLASH :: post)).scheme = none ∧ (parseRef (pre ++ SLASH :: post)).authority = none ∧
    looseSchemeOf (pre ++ SLASH :: post) = none := by
  obtain ⟨h1, h2, h3, h4, _⟩ := parse_head hc hne hs post
  exact ⟨h1, by show authorityOf (afterScheme _) = none; rw [h3, h4], h2⟩

/-- a non-empty first segment without any of `: / ? #` -/
structure PlainSeg (seg : Bytes) : Prop where
  ne : seg ≠ []
  plain : ∀ c ∈ seg, notGenDelim c = true

theorem PlainSeg.not_mem {seg : Bytes} (h : PlainSeg seg) {d : UInt8} (hd : notGenDelim d = false) : d ∉ seg :=
  fun hm => by rw [h.plain d hm] at hd; cases hd

theorem firstSegment_eq {seg : Bytes} (h : PlainSeg seg) (r : Bytes) : firstSegment (seg ++ SLASH :: r) = seg :=
  (span_app h.plain (by intro a ha; cases ha; decide)).1

theorem withQuery_cons (pre post q : Bytes) :
    withQuery (pre ++ SLASH :: post) q = pre ++ SLASH :: (post ++ if q = [] then [] else QMARK :: q) := by
  unfold withQuery; by_cases hq : q = [] <;> simp [hq]

theorem pathOf_withQuery {P : Bytes} (hP : ∀ c ∈ P, notQueryStart c = true) (q : Bytes) :
    pathOf (withQuery P q) = P ∧ afterPath (withQuery P q) = if q = [] then [] else QMARK :: q := by
  unfold withQuery pathOf afterPath
  by_cases hq : q = []
  · simp only [hq, if_true]; exact span_all hP
  · simp only [hq, if_false]
    exact span_app hP (by intro a ha; cases ha; decide)

theorem query_parts {q : Bytes} (hq : HASH ∉ q) :
    queryOf (if q = [] then [] else QMARK :: q) = (if q = [] then none else some q) ∧
    fragmentOf (afterQuery (if q = [] then [] else QMARK :: q)) = none := by
  have hall : ∀ c ∈ q, notHash c = true := by
    intro c hc; simpa [notHash] using ne_of_mem_of_not_mem hc hq
  by_cases h : q = []
  · simp [h, queryOf, afterQuery, fragmentOf]
  · simp [h, queryOf, afterQuery, fragmentOf, span_all hall]

theorem parseRef_rel {seg rest q : Bytes} (h : PlainSeg seg) (hrest : ∀ c ∈ rest, notQueryStart c = true) (hq : HASH ∉ q) :
    parseRef (withQuery (seg ++ SLASH :: rest) q) =
      { scheme := none, authority := none, path := seg ++ SLASH :: rest,
        query := if q = [] then none else some q, fragment := none } := by
  have hP : ∀ c ∈ seg ++ SLASH :: rest, notQueryStart c = true := by
    refine List.forall_mem_append.mpr ⟨fun c hc => ?_, List.forall_mem_cons.mpr ⟨rfl, hrest⟩⟩
    have := h.plain c hc; simp [notGenDelim] at this; simp [notQueryStart, this]
  have hw := withQuery_cons seg rest q
  obtain ⟨e1, _, e2, e3, e4⟩ := parse_head (h.not_mem rfl) h.ne (h.not_mem rfl)
    (rest ++ if q = [] then [] else QMARK :: q)
  rw [← hw] at e1 e2 e3 e4
  obtain ⟨h1, h2⟩ := pathOf_withQuery hP q
  obtain ⟨h3, h4⟩ := query_parts hq
  unfold parseRef
  rw [e2, e4, e1, e3, h1, h2, h3, h4]

/-! ### the last segment: step 2C of §5.2.4 and the merge of §5.2.3 -/

theorem removeLast_append {b : Bytes} (hb : SLASH ∉ b) (x : Bytes) : removeLastSegment (x ++ SLASH :: b) = x := by
  unfold removeLastSegment
  rw [(span_last_slash hb x).2, List.tail_cons, List.reverse_reverse]

theorem dropLastSegment_append {b : Bytes} (hb : SLASH ∉ b) (x : Bytes) : dropLastSegment (x ++ SLASH :: b) = x ++ [SLASH] := by
  unfold dropLastSegment
  rw [(span_last_slash hb x).2, List.reverse_cons, List.reverse_reverse]

/-! ### §5.2.2 on a relative-path reference -/

theorem resolve_rel {seg rest q : Bytes} (h : PlainSeg seg) (hrest : ∀ c ∈ rest, notQueryStart c = true) (hq : HASH ∉ q)
    {b : Bytes} (hb : SLASH ∉ b) (dir : Bytes) (q0 : Option Bytes) :
    resolve (dir ++ SLASH :: b) q0 (withQuery (seg ++ SLASH :: rest) q) =
      { sameOrigin := true, path := rds (dir ++ SLASH :: (seg ++ SLASH :: rest)) [],
        query := if q = [] then none else some q, fragment := none } := by
  have hs : SLASH ∉ seg := h.not_mem rfl
  unfold resolve
  rw [parseRef_rel h hrest hq]
  cases seg with
  | nil => exact absurd rfl h.ne
  | cons c t =>
    have hc : c ≠ SLASH := fun e => hs (by simp [e])
    simp [resolveRef, merge, hc, removeDotSegments_eq, dropLastSegment_append hb]

theorem plain_dot : PlainSeg [DOT] := ⟨by decide, by decide⟩
theorem plain_dotdot : PlainSeg [DOT, DOT] := ⟨by decide, by decide⟩

/-- what the proof needs of the last element `b` of the request path -/
structure LastElem (b : Bytes) : Prop where
  good : GoodElem b
  noQuery : QMARK ∉ b
  noFragment : HASH ∉ b

theorem LastElem.notQueryStart {b : Bytes} (h : LastElem b) : ∀ c ∈ b, notQueryStart c = true := by
  intro c hc
  simp [RFC3986.notQueryStart, ne_of_mem_of_not_mem hc h.noQuery, ne_of_mem_of_not_mem hc h.noFragment]

theorem LastElem.plain {b : Bytes} (h : LastElem b) (hcol : COLON ∉ b) : PlainSeg b := by
  refine ⟨h.good.ne_nil, fun c hc => ?_⟩
  simp [notGenDelim, ne_of_mem_of_not_mem hc hcol, ne_of_mem_of_not_mem hc h.good.noslash,
    ne_of_mem_of_not_mem hc h.noQuery, ne_of_mem_of_not_mem hc h.noFragment]

/-- the Location "b'/" or "./b'/" of a path ending in "/" ++ b', against the base "/" ++ st ++ "/" ++ b (for the request path
    itself, `b' = b`; against the raw request path, `b'` is the escaped form of its last element `b`) -/
theorem resolves_noslash {st : List Bytes} {b b' q : Bytes} (hst : ∀ s ∈ st, GoodElem s) (hsb : SLASH ∉ b) (hb : LastElem b')
    (hq : HASH ∉ q) (x : Bytes) (q0 : Option Bytes) :
    resolve (join st ++ SLASH :: b) q0 (location (x ++ SLASH :: b') q) =
      { sameOrigin := true, path := join st ++ SLASH :: b' ++ [SLASH],
        query := if q = [] then none else some q, fragment := none } := by
  have hrest : ∀ c ∈ b' ++ [SLASH], notQueryStart c = true :=
    List.forall_mem_append.mpr ⟨hb.notQueryStart, List.forall_mem_singleton.mpr rfl⟩
  unfold location
  rw [target_noslash hb.good.noslash hb.good.ne_nil]
  unfold guardColon
  by_cases hcol : COLON ∈ b'
  · rw [if_pos hcol, show [DOT, SLASH] ++ b' ++ [SLASH] = [DOT] ++ SLASH :: (b' ++ [SLASH]) by simp,
      resolve_rel plain_dot hrest hq hsb, rds_join hst (elemEnd_slash _), List.singleton_append, rds_dot,
      rds_seg hb.good (elemEnd_slash _), rds_slash]
    simp
  · rw [if_neg hcol, show b' ++ [SLASH] = b' ++ SLASH :: [] from rfl, resolve_rel (hb.plain hcol) (by simp) hq hsb,
      rds_join hst (elemEnd_slash _), rds_seg hb.good (elemEnd_slash _), rds_slash]
    simp

/-- the Location "../b'" of a path ending in "/" ++ b' ++ "/", against the base "/" ++ st ++ "/" ++ b ++ "/" -/
theorem resolves_slash {st : List Bytes} {b b' q : Bytes} (hst : ∀ s ∈ st, GoodElem s) (hgb : GoodElem b) (hb : LastElem b')
    (hq : HASH ∉ q) (x : Bytes) (q0 : Option Bytes) :
    resolve (join st ++ SLASH :: b ++ [SLASH]) q0 (location (x ++ SLASH :: b' ++ [SLASH]) q) =
      { sameOrigin := true, path := join st ++ SLASH :: b',
        query := if q = [] then none else some q, fragment := none } := by
  have hst' : ∀ s ∈ st ++ [b], GoodElem s := List.forall_mem_append.mpr ⟨hst, List.forall_mem_singleton.mpr hgb⟩
  unfold location
  rw [target_slash hb.good.noslash hb.good.ne_nil, show [DOT, DOT, SLASH] ++ b' = [DOT, DOT] ++ SLASH :: b' from rfl,
    ← join_concat, show join (st ++ [b]) ++ [SLASH] = join (st ++ [b]) ++ SLASH :: [] from rfl,
    resolve_rel plain_dotdot hb.notQueryStart hq (by simp), rds_join hst' (elemEnd_slash _)]
  simp only [List.cons_append, List.nil_append]
  rw [rds_dotdot, join_concat, removeLast_append hgb.noslash, ← List.append_nil b', rds_seg hb.good elemEnd_nil, rds_nil]
  simp

end Fox.C08.Loc
