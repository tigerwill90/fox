import FoxModel.Lemmas.CleanSpec
import FoxModel.Lemmas.Location.Bytes
/-
  FoxModel.Lemmas.Location.Handler: the Go side. The string functions of `defaultRedirectTrailingSlashHandler` (`path.Base`,
  `FixTrailingSlash`, `redirectTarget`, `hexEscapeNonASCII`) evaluated on the normal form of a redirected path, x ++ "/" ++ b with or
  without a final "/", where `b` is a non-empty element without '/' (`Shape`; every canonical path other than the root has it). Beside
  that, what holds of `path.Base` on any string with a byte other than '/'.
-/
namespace Fox.C08.Loc
open Fox Fox.Model.Location Fox.RFC3986 Fox.Spec.Clean

/-! ### Go side: `path.Base` and `FixTrailingSlash` on  x ++ "/" ++ b  and  x ++ "/" ++ b ++ "/" -/

theorem strip_of_last_ne {p : Bytes} (h : p.getLast? ≠ some SLASH) : stripTrailingSlashes p = p := by
  rcases List.eq_nil_or_concat p with rfl | ⟨l, a, rfl⟩
  · rfl
  · have ha : a ≠ SLASH := fun e => h (by simp [e])
    simp [stripTrailingSlashes, ha]

theorem strip_append_slash (p : Bytes) : stripTrailingSlashes (p ++ [SLASH]) = stripTrailingSlashes p := by
  simp [stripTrailingSlashes]

theorem afterLast_append {b : Bytes} (hb : SLASH ∉ b) (x : Bytes) : afterLastSlash (x ++ SLASH :: b) = b := by
  unfold afterLastSlash
  rw [(span_last_slash hb x).1, List.reverse_reverse]

theorem pathBase_noslash {b : Bytes} (hb : SLASH ∉ b) (hne : b ≠ []) (x : Bytes) : pathBase (x ++ SLASH :: b) = b := by
  unfold pathBase
  rw [strip_of_last_ne (getLast?_append_slash_ne_slash hb hne x), afterLast_append hb]
  simp [hne]

theorem pathBase_slash {b : Bytes} (hb : SLASH ∉ b) (hne : b ≠ []) (x : Bytes) : pathBase (x ++ SLASH :: b ++ [SLASH]) = b := by
  unfold pathBase
  rw [strip_append_slash, strip_of_last_ne (getLast?_append_slash_ne_slash hb hne x), afterLast_append hb]
  simp [hne]

theorem fix_concat {x : Bytes} (hx : x ≠ []) : fixTrailingSlash (x ++ [SLASH]) = x := by
  unfold fixTrailingSlash
  rw [if_pos ⟨by have := List.length_pos_iff.mpr hx; simp; omega, List.getLast?_concat⟩, List.dropLast_concat]

theorem fix_split (e : Bytes) :
    (∃ x, x ≠ [] ∧ e = x ++ [SLASH]) ∨ ((∀ x, x ≠ [] → e ≠ x ++ [SLASH]) ∧ fixTrailingSlash e = e ++ [SLASH]) := by
  by_cases h : e.length > 1 ∧ e.getLast? = some SLASH
  · obtain ⟨x, rfl⟩ := List.getLast?_eq_some_iff.mp h.2
    exact Or.inl ⟨x, fun h0 => by simp [h0] at h, rfl⟩
  · refine Or.inr ⟨fun x hx he => h ?_, by unfold fixTrailingSlash; rw [if_neg h]⟩
    rw [he]
    exact ⟨by have := List.length_pos_iff.mpr hx; simp; omega, List.getLast?_concat⟩

theorem fix_noslash {b : Bytes} (hb : SLASH ∉ b) (hne : b ≠ []) (x : Bytes) :
    fixTrailingSlash (x ++ SLASH :: b) = x ++ SLASH :: b ++ [SLASH] := by
  unfold fixTrailingSlash
  rw [if_neg (fun h => getLast?_append_slash_ne_slash hb hne x h.2)]

theorem fix_slash (b x : Bytes) : fixTrailingSlash (x ++ SLASH :: b ++ [SLASH]) = x ++ SLASH :: b :=
  fix_concat (by simp)

theorem target_noslash {b : Bytes} (hb : SLASH ∉ b) (hne : b ≠ []) (x : Bytes) :
    redirectTarget (x ++ SLASH :: b) = guardColon b ++ [SLASH] := by
  unfold redirectTarget
  rw [fix_noslash hb hne, if_pos List.getLast?_concat, pathBase_slash hb hne]

theorem target_slash {b : Bytes} (hb : SLASH ∉ b) (hne : b ≠ []) (x : Bytes) :
    redirectTarget (x ++ SLASH :: b ++ [SLASH]) = [DOT, DOT, SLASH] ++ b := by
  unfold redirectTarget
  rw [fix_slash, if_neg (getLast?_append_slash_ne_slash hb hne x), pathBase_noslash hb hne]

/-! ### Go side: `path.Base` of any string with a byte other than '/' -/

theorem afterLast_noslash (p : Bytes) : SLASH ∉ afterLastSlash p := by
  unfold afterLastSlash
  intro h
  have hall := List.all_takeWhile (p := fun x => decide (x ≠ SLASH)) (l := p.reverse)
  rw [List.all_eq_true] at hall
  have := hall SLASH (List.mem_reverse.mp h)
  simp at this

theorem strip_last {p : Bytes} (h : ∃ c ∈ p, c ≠ SLASH) : ∃ r d, stripTrailingSlashes p = r ++ [d] ∧ d ≠ SLASH := by
  unfold stripTrailingSlashes
  cases hd : p.reverse.dropWhile (· = SLASH) with
  | nil =>
    -- then `takeWhile` has taken everything
    obtain ⟨c, hc, hcs⟩ := h
    have ht := List.takeWhile_append_dropWhile (p := (· = SLASH)) (l := p.reverse)
    rw [hd, List.append_nil] at ht
    have := List.all_eq_true.mp List.all_takeWhile c (by rw [ht]; simpa using hc)
    exact absurd (by simpa using this) hcs
  | cons d r =>
    have := List.head_dropWhile_not (· = SLASH) (l := p.reverse) (by rw [hd]; simp)
    simp only [hd, List.head_cons] at this
    exact ⟨r.reverse, d, List.reverse_cons, by simpa using this⟩

theorem pathBase_elem {p : Bytes} (h : ∃ c ∈ p, c ≠ SLASH) : pathBase p ≠ [] ∧ SLASH ∉ pathBase p := by
  have hp : p ≠ [] := by obtain ⟨c, hc, _⟩ := h; intro h0; simp [h0] at hc
  obtain ⟨r, d, hd, hds⟩ := strip_last h
  have hal : afterLastSlash (stripTrailingSlashes p) ≠ [] := by
    unfold afterLastSlash
    rw [hd, List.reverse_append, List.reverse_singleton, List.singleton_append, List.takeWhile_cons]
    simp [hds]
  unfold pathBase
  rw [if_neg hp, if_neg hal]
  exact ⟨hal, afterLast_noslash _⟩

/-! ### the shape of a redirected path -/

/-- "/" ++ proper elements joined by "/", the last one `b`, with or without a final "/" -/
def Shape (e : Bytes) : Prop :=
  ∃ (st : List Bytes) (b : Bytes), (∀ s ∈ st, GoodElem s) ∧ GoodElem b ∧
    (e = join st ++ SLASH :: b ∨ e = join st ++ SLASH :: b ++ [SLASH])

theorem mem_of_mem_last {e x b : Bytes} (h : e = x ++ SLASH :: b ∨ e = x ++ SLASH :: b ++ [SLASH]) {c : UInt8} (hc : c ∈ b) :
    c ∈ e := by
  rcases h with rfl | rfl <;> simp [hc]

theorem shape_of_canonical {e : Bytes} (h : Canonical e) (hroot : e ≠ [SLASH]) : Shape e := by
  rcases h with h | ⟨st, hne, hgood, he⟩
  · exact absurd h hroot
  · refine ⟨st.dropLast, st.getLast hne, fun s hs => hgood s (List.dropLast_subset _ hs), hgood _ (List.getLast_mem hne), ?_⟩
    rw [← join_concat, List.dropLast_concat_getLast hne]
    exact he

/-! ### `hexEscapeNonASCII` -/

theorem hexEscapeByte_ascii {b : UInt8} (h : b < 128) : hexEscapeByte b = [b] := by
  unfold hexEscapeByte
  rw [if_neg (by simpa using h)]

theorem hexEscape_append (a b : Bytes) : hexEscapeNonASCII (a ++ b) = hexEscapeNonASCII a ++ hexEscapeNonASCII b := by
  simp [hexEscapeNonASCII]

theorem hexEscapeByte_ne_nil (b : UInt8) : hexEscapeByte b ≠ [] := by
  unfold hexEscapeByte; split <;> simp

theorem hexEscape_eq_nil {q : Bytes} : hexEscapeNonASCII q = [] ↔ q = [] := by
  cases q with
  | nil => simp [hexEscapeNonASCII]
  | cons b q =>
    simp only [hexEscapeNonASCII, List.flatMap_cons, List.append_eq_nil_iff, reduceCtorEq, iff_false, not_and]
    intro h; exact absurd h (hexEscapeByte_ne_nil b)

theorem hexDigit_ne_hash {n : UInt8} (hn : n < 16) : hexDigit n ≠ HASH :=
  forall_lt16 (P := fun n => hexDigit n ≠ HASH) (by decide) hn

/-- escaping introduces no '#' (only '%' and hexadecimal digits) -/
theorem hexEscape_noHash {q : Bytes} (h : HASH ∉ q) : HASH ∉ hexEscapeNonASCII q := by
  intro hm
  simp only [hexEscapeNonASCII, List.mem_flatMap] at hm
  obtain ⟨b, hb, hm⟩ := hm
  unfold hexEscapeByte at hm
  split at hm
  · simp only [List.mem_cons, List.not_mem_nil, or_false] at hm
    rcases hm with hm | hm | hm
    · exact absurd hm (by decide)
    · exact hexDigit_ne_hash (nibbles b).1 hm.symm
    · exact hexDigit_ne_hash (nibbles b).2 hm.symm
  · exact h (List.mem_singleton.mp hm ▸ hb)

theorem isASCII_append {a b : Bytes} : isASCII (a ++ b) = (isASCII a && isASCII b) := by simp [isASCII]

theorem isASCII_target {e : Bytes} (h : Shape e) (ha : isASCII e = true) : isASCII (redirectTarget e) = true := by
  obtain ⟨st, b, _, hb, hshape⟩ := h
  have hb' : isASCII b = true := List.all_eq_true.mpr fun c hc => List.all_eq_true.mp ha c (mem_of_mem_last hshape hc)
  rcases hshape with rfl | rfl
  · rw [target_noslash hb.noslash hb.ne_nil]
    unfold guardColon
    split
    · simp only [isASCII_append, hb']; decide
    · simp only [isASCII_append, hb']; decide
  · rw [target_slash hb.noslash hb.ne_nil]
    simp only [isASCII_append, hb']; decide

end Fox.C08.Loc
