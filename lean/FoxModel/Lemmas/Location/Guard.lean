import FoxModel.Model.Location
import FoxModel.Model.Serve
import FoxModel.Lemmas.CleanSpec
/-
  FoxModel.Lemmas.Location.Guard: the two tests in front of the redirect, read through the element split of Lemmas/CleanSpec. Clause (c)
  of `CleanEscaped` (`hasDoubleSlash`) says that no element other than the first and the last is empty; the cleaner of the serving model
  (`Model.cleanRef`: `List.splitOn`, a stack kept top last, a fold for the join) is the lexical `clean`.
-/
namespace Fox.C08.Loc
open Fox Fox.Model.Location Fox.RFC3986 Fox.Spec.Clean

/-! ### clause (c) of `CleanEscaped`: two consecutive slashes -/

theorem hasDoubleSlash_cons_of_ne {c : UInt8} (hc : c ≠ SLASH) (t : Bytes) : hasDoubleSlash (c :: t) = hasDoubleSlash t := by
  cases t with
  | nil => rfl
  | cons d t =>
    show ((c == SLASH && d == SLASH) || hasDoubleSlash (d :: t)) = _
    rw [beq_false_of_ne hc]; rfl

/-- two consecutive slashes are an empty element that is neither the first nor the last -/
theorem hasDoubleSlash_iff (t : Bytes) : hasDoubleSlash t = true ↔ [] ∈ (splitSlash t).tail.dropLast := by
  induction t with
  | nil => decide
  | cons c t ih =>
    by_cases hc : c = SLASH
    · subst hc
      rw [splitSlash_cons_slash, List.tail_cons]
      cases t with
      | nil => decide
      | cons d t =>
        by_cases hd : d = SLASH
        · subst hd
          rw [splitSlash_cons_slash, List.dropLast_cons_of_ne_nil (splitSlash_ne_nil t)]
          exact ⟨fun _ => List.mem_cons_self, fun _ => rfl⟩
        · -- the element behind the slash is not empty, so the empty one is sought behind it
          obtain ⟨x, r, _, hx⟩ := splitSlash_cons_of_ne hd t
          have e : hasDoubleSlash (SLASH :: d :: t) = hasDoubleSlash (d :: t) := by
            show ((SLASH == SLASH && d == SLASH) || hasDoubleSlash (d :: t)) = _
            rw [beq_false_of_ne hd]; rfl
          rw [hx, List.tail_cons] at ih
          rw [e, ih, hx]
          cases r with
          | nil => simp
          | cons y r => simp [List.dropLast_cons_cons]
    · obtain ⟨x, r, hx, hcx⟩ := splitSlash_cons_of_ne hc t
      rw [hx, List.tail_cons] at ih
      rw [hasDoubleSlash_cons_of_ne hc, hcx, List.tail_cons]; exact ih

/-! ### `cleanRef` of the serving model is the canonical form of C17 -/

theorem splitOn_eq_splitSlash (p : Bytes) : p.splitOn SLASH = splitSlash p := by
  induction p with
  | nil => simp [splitSlash]
  | cons c p ih =>
    rw [List.splitOn_cons_eq_if_modifyHead, ih]
    by_cases hc : c = SLASH
    · simp [hc, splitSlash]
    · cases hs : splitSlash p with
      | nil => exact absurd hs (splitSlash_ne_nil p)
      | cons h r => simp [hc, splitSlash, hs, List.modifyHead]

/-- a fold over a stack kept top first and the same fold over a stack kept top last -/
theorem foldl_reverse {α β : Type} {f g : List α → β → List α} (h : ∀ a s, f a.reverse s = (g a s).reverse)
    (l : List β) (a : List α) : (l.foldl f a.reverse).reverse = l.foldl g a := by
  induction l generalizing a with
  | nil => simp
  | cons s l ih => rw [List.foldl_cons, List.foldl_cons, h, ih]

theorem foldl_body (st : List Bytes) (acc : Bytes) :
    st.foldl (fun acc s => acc ++ [SLASH] ++ s) acc = acc ++ join st := by
  induction st generalizing acc with
  | nil => simp [join]
  | cons s st ih => rw [List.foldl_cons, ih, join_cons]; simp

theorem cleanRef_eq_clean (p : Bytes) : Model.cleanRef p = clean p := by
  have hstack : (splitSlash p).foldl (fun st s =>
      if s = [] ∨ s = [DOT] then st else if s = [DOT, DOT] then st.dropLast else st ++ [s]) [] = stack p := by
    refine (foldl_reverse (f := push) (fun a s => ?_) _ []).symm
    unfold push
    split
    · rfl
    · split
      · simp [List.tail_reverse]
      · simp
  unfold Model.cleanRef clean
  simp only [foldl_body, List.nil_append, splitOn_eq_splitSlash, hstack, join_eq_nil]
  by_cases hst : stack p = []
  · simp [hst]
  · have hp : p ≠ [] := by intro h; subst h; exact hst (by decide)
    have key : decide (p ≠ [] ∧ ((splitSlash p).getLast? = some [] ∨ (splitSlash p).getLast? = some [DOT])) =
        wantsTrailing p := by
      unfold wantsTrailing; exact Bool.eq_iff_iff.mpr (by simp [hp])
    simp only [hst, if_false, key]
    cases wantsTrailing p <;> simp

end Fox.C08.Loc
