import FoxModel.Model.Location
/-
  FoxModel.Lemmas.Location.Bytes: the two facts about byte strings and bytes under the Location development that mention nothing of the
  model. Where `takeWhile`/`dropWhile` stop on `l ++ r` when the test holds throughout `l` and fails on the head of `r` (`span_app`;
  every scan of the handler and of the reference parser is read off from it), and that a byte's two nibbles are below 16, so that a
  statement about a hexadecimal digit is checked on sixteen values (`nibbles`, `forall_lt16`).
-/
namespace Fox.C08.Loc
open Fox Fox.Model.Location Fox.RFC3986 Fox.Spec.Clean

/-! ### `takeWhile`/`dropWhile` over a run of bytes and the byte that ends it -/

theorem span_app {p : UInt8 → Bool} {l r : Bytes} (hl : ∀ x ∈ l, p x = true) (hr : ∀ a ∈ r.head?, p a = false) :
    (l ++ r).takeWhile p = l ∧ (l ++ r).dropWhile p = r := by
  rw [List.takeWhile_append_of_pos hl, List.dropWhile_append_of_pos hl]
  cases r with
  | nil => simp
  | cons a r => simp [hr a (by simp)]

theorem span_all {p : UInt8 → Bool} {l : Bytes} (hl : ∀ x ∈ l, p x = true) : l.takeWhile p = l ∧ l.dropWhile p = [] := by
  have := span_app (r := []) hl (by simp); simpa using this

/-- reading backwards from the end up to the last slash -/
theorem span_last_slash {b : Bytes} (hb : SLASH ∉ b) (x : Bytes) :
    (x ++ SLASH :: b).reverse.takeWhile (· ≠ SLASH) = b.reverse ∧
    (x ++ SLASH :: b).reverse.dropWhile (· ≠ SLASH) = SLASH :: x.reverse := by
  have : (x ++ SLASH :: b).reverse = b.reverse ++ SLASH :: x.reverse := by simp
  rw [this]
  exact span_app (fun y hy => by simpa using ne_of_mem_of_not_mem (List.mem_reverse.mp hy) hb) (by simp)

/-! ### the two nibbles of a byte -/

theorem nibbles (c : UInt8) : c >>> 4 < 16 ∧ c &&& 15 < 16 := by
  have := c.toNat_lt
  constructor
  · rw [UInt8.lt_iff_toNat_lt, UInt8.toNat_shiftRight]
    simp [Nat.shiftRight_eq_div_pow]; omega
  · rw [UInt8.lt_iff_toNat_lt, UInt8.toNat_and]
    exact Nat.lt_succ_of_le Nat.and_le_right

theorem forall_lt16 {P : UInt8 → Prop} (h : ∀ n : Fin 16, P (UInt8.ofNat n)) {n : UInt8} (hn : n < 16) : P n := by
  have := h ⟨n.toNat, hn⟩
  simpa using this

end Fox.C08.Loc
