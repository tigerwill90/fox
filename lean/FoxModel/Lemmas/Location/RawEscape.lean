import FoxModel.Model.LocationRaw
import FoxModel.Lemmas.CleanSpec
import FoxModel.Lemmas.Location.Bytes
/-
  FoxModel.Lemmas.Location.RawEscape: `escapeRawPath` byte by byte. Its three equations (empty input, a well-formed `%XX` triple, any
  other byte) and the induction along them carry everything: what is written (`validEncoded`, on which the function is the identity),
  that '/' is copied and never created nor swallowed by a triple, so that the elements of the image are the images of the elements,
  and that an element is empty, "." or ".." exactly when its image is. Hence the image is canonical exactly when the input is.
  The numbers in the section titles are those of Props/C08LocationRaw.
-/
namespace Fox.C08.Raw
open Fox Fox.Model.Location Fox.RFC3986 Fox.Spec.Clean Fox.C08.Loc

/-! ### the bytes `escapeRawPath` writes -/

theorem pathLiteral_ne_percent {c : UInt8} (h : pathLiteral c = true) : c ≠ PERCENT := by
  intro e; subst e; exact absurd h (by decide)

theorem hex_literal {c : UInt8} (h : isHexDigit c = true) : pathLiteral c = true := by
  simp only [isHexDigit, Bool.or_eq_true, Bool.and_eq_true, decide_eq_true_eq] at h
  simp only [pathLiteral, Bool.or_eq_true, Bool.and_eq_true, decide_eq_true_eq]
  rcases h with (h | h) | h
  · exact Or.inl (Or.inr h)
  · exact Or.inl (Or.inl (Or.inl ⟨h.1, UInt8.le_trans h.2 (by decide)⟩))
  · exact Or.inl (Or.inl (Or.inr ⟨h.1, UInt8.le_trans h.2 (by decide)⟩))

theorem hex_ne_slash {c : UInt8} (h : isHexDigit c = true) : c ≠ SLASH := by
  intro e; subst e; exact absurd h (by decide)

theorem pathLiteral_slash : pathLiteral SLASH = true := by decide
theorem slash_ne_percent : SLASH ≠ PERCENT := by decide

/-- the literal ranges end at 'z' = 122, and the listed punctuation is ASCII -/
theorem pathLiteral_lt {c : UInt8} (h : pathLiteral c = true) : c < 128 := by
  simp only [pathLiteral, Bool.or_eq_true, Bool.and_eq_true, decide_eq_true_eq, List.contains_iff_mem] at h
  have hl : ∀ x ∈ [45, 46, 95, 126, 33, 36, 38, 39, 40, 41, 42, 43, 44, 59, 61, 58, 64, 47], x < (128 : UInt8) := by decide
  rcases h with ((h | h) | h) | h
  · exact UInt8.lt_of_le_of_lt h.2 (by decide)
  · exact UInt8.lt_of_le_of_lt h.2 (by decide)
  · exact UInt8.lt_of_le_of_lt h.2 (by decide)
  · exact hl c h

theorem safe_facts {x : UInt8} (h : pathLiteral x = true ∨ x = PERCENT) : x ≠ QMARK ∧ x ≠ HASH ∧ x < 128 := by
  refine ⟨fun e => ?_, fun e => ?_, ?_⟩
  · subst e; exact absurd h (by decide)
  · subst e; exact absurd h (by decide)
  · rcases h with h | h
    · exact pathLiteral_lt h
    · rw [h]; decide

theorem upperHex_nibble {n : UInt8} (hn : n < 16) : isHexDigit (upperHex n) = true :=
  forall_lt16 (P := fun n => isHexDigit (upperHex n) = true) (by decide) hn

theorem encByte_literal {c : UInt8} (h : pathLiteral c = true) : encByte c = [c] := by simp [encByte, h]

theorem encByte_other {c : UInt8} (h : pathLiteral c = false) :
    ∃ h1 h2, encByte c = [PERCENT, h1, h2] ∧ isHexDigit h1 = true ∧ isHexDigit h2 = true :=
  ⟨_, _, by simp [encByte, h], upperHex_nibble (nibbles c).1, upperHex_nibble (nibbles c).2⟩

/-- what is written for one byte: path literals and '%' (hexadecimal digits are path literals) -/
theorem encByte_safe (c : UInt8) : ∀ x ∈ encByte c, pathLiteral x = true ∨ x = PERCENT := by
  cases h : pathLiteral c with
  | true => rw [encByte_literal h]; simp [h]
  | false =>
    obtain ⟨h1, h2, e, e1, e2⟩ := encByte_other h
    rw [e]; simp [hex_literal e1, hex_literal e2]

theorem encByte_noslash {c : UInt8} (hc : c ≠ SLASH) : SLASH ∉ encByte c := by
  cases h : pathLiteral c with
  | true => rw [encByte_literal h]; simpa using Ne.symm hc
  | false =>
    obtain ⟨h1, h2, e, e1, e2⟩ := encByte_other h
    rw [e]; simp [Ne.symm (hex_ne_slash e1), Ne.symm (hex_ne_slash e2), slash_ne_percent]

/-! ### the three equations of `escapeRawPath` -/

/-- the input starts with a well-formed `%XX` escape -/
def isTriple : Bytes → Bool
  | c :: h1 :: h2 :: _ => c == PERCENT && isHexDigit h1 && isHexDigit h2
  | _ => false

theorem escapeRawPath_nil : escapeRawPath [] = [] := by rw [escapeRawPath]

theorem escapeRawPath_triple {h1 h2 : UInt8} (rest : Bytes) (e1 : isHexDigit h1 = true) (e2 : isHexDigit h2 = true) :
    escapeRawPath (PERCENT :: h1 :: h2 :: rest) = PERCENT :: h1 :: h2 :: escapeRawPath rest := by
  rw [escapeRawPath]; simp [e1, e2]

theorem escapeRawPath_step {c : UInt8} {t : Bytes} (h : isTriple (c :: t) = false) :
    escapeRawPath (c :: t) = encByte c ++ escapeRawPath t := by
  match t, h with
  | [], _ => conv => lhs; unfold escapeRawPath
  | [a], _ => conv => lhs; unfold escapeRawPath
  | a :: b :: r, h =>
    rw [escapeRawPath]
    simp only [isTriple] at h
    simp [h]

theorem isTriple_literal {c : UInt8} (h : pathLiteral c = true) (t : Bytes) : isTriple (c :: t) = false := by
  have hc := pathLiteral_ne_percent h
  match t with
  | [] => rfl
  | [a] => rfl
  | a :: b :: r => simp [isTriple, hc]

theorem escapeRawPath_literal {c : UInt8} (t : Bytes) (h : pathLiteral c = true) :
    escapeRawPath (c :: t) = c :: escapeRawPath t := by
  rw [escapeRawPath_step (isTriple_literal h t), encByte_literal h]; rfl

theorem isTriple_true {l : Bytes} (h : isTriple l = true) :
    ∃ h1 h2 rest, l = PERCENT :: h1 :: h2 :: rest ∧ isHexDigit h1 = true ∧ isHexDigit h2 = true := by
  match l, h with
  | c :: h1 :: h2 :: rest, h =>
    simp only [isTriple, Bool.and_eq_true, beq_iff_eq] at h
    exact ⟨h1, h2, rest, by rw [h.1.1], h.1.2, h.2⟩

/-- induction along the equations `escapeRawPath_nil`, `escapeRawPath_triple` and `escapeRawPath_step` -/
theorem escapeRawPath_induction {motive : Bytes → Prop} (nil : motive [])
    (triple : ∀ h1 h2 rest, isHexDigit h1 = true → isHexDigit h2 = true → motive rest → motive (PERCENT :: h1 :: h2 :: rest))
    (step : ∀ c t, isTriple (c :: t) = false → motive t → motive (c :: t)) (l : Bytes) : motive l := by
  fun_induction escapeRawPath l with
  | case1 => exact nil
  | case2 c h1 h2 rest hc ih =>
    simp only [Bool.and_eq_true, beq_iff_eq] at hc
    rw [hc.1.1]; exact triple h1 h2 rest hc.1.2 hc.2 ih
  | case3 c h1 h2 rest hc ih => exact step c _ (by simpa [isTriple] using hc) ih
  | case4 c rest hne ih =>
    refine step c rest ?_ ih
    match rest, hne with
    | [], _ => rfl
    | [d], _ => rfl
    | x :: y :: r, hne => exact absurd rfl (hne x y r)

theorem escapeRawPath_head (c : UInt8) (t : Bytes) :
    escapeRawPath (c :: t) = c :: escapeRawPath t ∨ ∃ r, escapeRawPath (c :: t) = PERCENT :: r := by
  cases h : pathLiteral c with
  | true => exact Or.inl (escapeRawPath_literal t h)
  | false =>
    right
    cases ht : isTriple (c :: t) with
    | true =>
      obtain ⟨h1, h2, rest, e, e1, e2⟩ := isTriple_true ht
      exact ⟨_, by rw [e, escapeRawPath_triple rest e1 e2]⟩
    | false =>
      obtain ⟨h1, h2, e, _, _⟩ := encByte_other h
      exact ⟨_, by rw [escapeRawPath_step ht, e]; rfl⟩

/-! ### 1(a): what is written -/

theorem mem_encByte_literal {c : UInt8} (h : pathLiteral c = true) : c ∈ encByte c := by
  rw [encByte_literal h]; exact List.mem_singleton_self c

/-- every byte written is a byte of the encoding of some input byte ('%' occurs in "%25", a hexadecimal digit is its own encoding) -/
theorem mem_escapeRawPath {x : UInt8} {raw : Bytes} (h : x ∈ escapeRawPath raw) : ∃ c ∈ raw, x ∈ encByte c := by
  induction raw using escapeRawPath_induction with
  | nil => rw [escapeRawPath_nil] at h; cases h
  | triple h1 h2 rest e1 e2 ih =>
    rw [escapeRawPath_triple rest e1 e2] at h
    simp only [List.mem_cons] at h
    rcases h with rfl | rfl | rfl | h
    · exact ⟨PERCENT, List.mem_cons_self, List.mem_cons_self⟩
    · exact ⟨x, by simp, mem_encByte_literal (hex_literal e1)⟩
    · exact ⟨x, by simp, mem_encByte_literal (hex_literal e2)⟩
    · obtain ⟨c, hc, hx⟩ := ih h
      exact ⟨c, by simp [hc], hx⟩
  | step c t ht ih =>
    rw [escapeRawPath_step ht] at h
    rcases List.mem_append.mp h with h | h
    · exact ⟨c, List.mem_cons_self, h⟩
    · obtain ⟨d, hd, hx⟩ := ih h
      exact ⟨d, List.mem_cons_of_mem _ hd, hx⟩

theorem escapeRawPath_safe (raw : Bytes) : ∀ x ∈ escapeRawPath raw, pathLiteral x = true ∨ x = PERCENT := by
  intro x hx
  obtain ⟨c, _, h⟩ := mem_escapeRawPath hx
  exact encByte_safe c x h

/-- no '/' is created -/
theorem escapeRawPath_noslash {a : Bytes} (h : SLASH ∉ a) : SLASH ∉ escapeRawPath a := by
  intro hm
  obtain ⟨c, hc, hs⟩ := mem_escapeRawPath hm
  exact encByte_noslash (ne_of_mem_of_not_mem hc h) hs

/-- a string made of literal path bytes and well-formed `%XX` triples only (what `url.validEncoded` accepts, minus '[' and ']') -/
def validEncoded : Bytes → Bool
  | [] => true
  | [c] => pathLiteral c
  | [c, d] => pathLiteral c && pathLiteral d
  | c :: h1 :: h2 :: rest =>
    if c == PERCENT then isHexDigit h1 && isHexDigit h2 && validEncoded rest
    else pathLiteral c && validEncoded (h1 :: h2 :: rest)

theorem validEncoded_triple {h1 h2 : UInt8} (rest : Bytes) (e1 : isHexDigit h1 = true) (e2 : isHexDigit h2 = true) :
    validEncoded (PERCENT :: h1 :: h2 :: rest) = validEncoded rest := by
  simp [validEncoded, e1, e2]

theorem validEncoded_step {c : UInt8} {t : Bytes} (ht : isTriple (c :: t) = false) :
    validEncoded (c :: t) = (pathLiteral c && validEncoded t) := by
  match t, ht with
  | [], _ => simp [validEncoded]
  | [d], _ => simp [validEncoded]
  | a :: b :: r, ht =>
    by_cases hc : c = PERCENT
    · subst hc
      simp only [isTriple, beq_self_eq_true, Bool.true_and] at ht
      simp [validEncoded, ht, show pathLiteral PERCENT = false from rfl]
    · simp [validEncoded, hc]

theorem validEncoded_encByte (c : UInt8) (t : Bytes) : validEncoded (encByte c ++ t) = validEncoded t := by
  cases h : pathLiteral c with
  | true => rw [encByte_literal h, List.singleton_append, validEncoded_step (isTriple_literal h t), h, Bool.true_and]
  | false =>
    obtain ⟨h1, h2, e, e1, e2⟩ := encByte_other h
    rw [e]; exact validEncoded_triple t e1 e2

/-- 1(a), the precise form: the image consists of literal path bytes and well-formed `%XX` triples only -/
theorem validEncoded_escapeRawPath (raw : Bytes) : validEncoded (escapeRawPath raw) = true := by
  induction raw using escapeRawPath_induction with
  | nil => rw [escapeRawPath_nil]; rfl
  | triple h1 h2 rest e1 e2 ih => rw [escapeRawPath_triple rest e1 e2, validEncoded_triple _ e1 e2]; exact ih
  | step c t ht ih => rw [escapeRawPath_step ht, validEncoded_encByte]; exact ih

/-- … and on such a string `escapeRawPath` is the identity (so it is idempotent) -/
theorem escapeRawPath_of_valid (e : Bytes) (h : validEncoded e = true) : escapeRawPath e = e := by
  induction e using escapeRawPath_induction with
  | nil => exact escapeRawPath_nil
  | triple h1 h2 rest e1 e2 ih =>
    rw [validEncoded_triple _ e1 e2] at h
    rw [escapeRawPath_triple rest e1 e2, ih h]
  | step c t ht ih =>
    rw [validEncoded_step ht, Bool.and_eq_true] at h
    rw [escapeRawPath_step ht, ih h.2, encByte_literal h.1]; rfl

theorem escapeRawPath_idempotent (raw : Bytes) : escapeRawPath (escapeRawPath raw) = escapeRawPath raw :=
  escapeRawPath_of_valid _ (validEncoded_escapeRawPath raw)

/-! ### 1(b): '/' is kept and no '/' is created -/

/-- a `%XX` triple never spans a '/' -/
theorem isTriple_append_slash {c : UInt8} {t : Bytes} (ht : isTriple (c :: t) = false) (b : Bytes) :
    isTriple (c :: (t ++ SLASH :: b)) = false := by
  have hs : isHexDigit SLASH = false := by decide
  match t, ht with
  | [], _ => cases b <;> simp [isTriple, hs]
  | [d], _ => simp [isTriple, hs]
  | x :: y :: r, ht => exact ht

theorem escapeRawPath_append_slash (a b : Bytes) :
    escapeRawPath (a ++ SLASH :: b) = escapeRawPath a ++ SLASH :: escapeRawPath b := by
  induction a using escapeRawPath_induction with
  | nil => rw [escapeRawPath_nil]; exact escapeRawPath_literal b pathLiteral_slash
  | triple h1 h2 rest e1 e2 ih =>
    simp only [List.cons_append]
    rw [escapeRawPath_triple _ e1 e2, escapeRawPath_triple _ e1 e2, ih]; rfl
  | step c t ht ih =>
    rw [List.cons_append, escapeRawPath_step (isTriple_append_slash ht b), escapeRawPath_step ht, ih, List.append_assoc]

theorem escapeRawPath_concat_slash (a : Bytes) : escapeRawPath (a ++ [SLASH]) = escapeRawPath a ++ [SLASH] := by
  rw [escapeRawPath_append_slash, escapeRawPath_nil]

theorem splitSlash_escapeRawPath (raw : Bytes) : splitSlash (escapeRawPath raw) = (splitSlash raw).map escapeRawPath := by
  induction raw using slash_induction with
  | last a ha => rw [splitSlash_noslash ha, splitSlash_noslash (escapeRawPath_noslash ha)]; rfl
  | seg a b ha ih =>
    rw [escapeRawPath_append_slash, splitSlash_first ha, splitSlash_first (escapeRawPath_noslash ha), ih]; rfl

/-! ### 1(c)–(e): empty, ".", "..", the leading '/' -/

theorem escapeRawPath_eq_nil {s : Bytes} : escapeRawPath s = [] ↔ s = [] := by
  constructor
  · intro h
    cases s with
    | nil => rfl
    | cons c t =>
      rcases escapeRawPath_head c t with e | ⟨r, e⟩ <;> (rw [e] at h; simp at h)
  · intro h; rw [h, escapeRawPath_nil]

theorem escapeRawPath_eq_cons {s r : Bytes} {d : UInt8} (hd : d ≠ PERCENT) (h : escapeRawPath s = d :: r) :
    ∃ t, s = d :: t ∧ escapeRawPath t = r := by
  cases s with
  | nil => rw [escapeRawPath_nil] at h; simp at h
  | cons c t =>
    rcases escapeRawPath_head c t with e | ⟨r', e⟩
    · rw [e] at h
      simp only [List.cons.injEq] at h
      exact ⟨t, by rw [h.1], h.2⟩
    · rw [e] at h
      simp only [List.cons.injEq] at h
      exact absurd h.1.symm hd

theorem escapeRawPath_eq_literals {l : Bytes} (hl : ∀ c ∈ l, pathLiteral c = true) {s : Bytes} :
    escapeRawPath s = l ↔ s = l := by
  induction l generalizing s with
  | nil => exact escapeRawPath_eq_nil
  | cons d l ih =>
    have hd := hl d (by simp)
    have ih' := @ih fun c hc => hl c (by simp [hc])
    constructor
    · intro h
      obtain ⟨t, e, ht⟩ := escapeRawPath_eq_cons (pathLiteral_ne_percent hd) h
      rw [e, ih'.mp ht]
    · intro h
      rw [h, escapeRawPath_literal l hd, ih'.mpr rfl]

theorem escapeRawPath_eq_dot {s : Bytes} : escapeRawPath s = [DOT] ↔ s = [DOT] :=
  escapeRawPath_eq_literals (by decide)

theorem escapeRawPath_eq_dotdot {s : Bytes} : escapeRawPath s = [DOT, DOT] ↔ s = [DOT, DOT] :=
  escapeRawPath_eq_literals (by decide)

theorem escapeRawPath_eq_root {s : Bytes} : escapeRawPath s = [SLASH] ↔ s = [SLASH] :=
  escapeRawPath_eq_literals (by decide)

theorem escapeRawPath_head_slash {s : Bytes} : (escapeRawPath s).head? = some SLASH ↔ s.head? = some SLASH := by
  simp only [List.head?_eq_some_iff]
  constructor
  · intro ⟨r, h⟩
    obtain ⟨t, e, _⟩ := escapeRawPath_eq_cons slash_ne_percent h
    exact ⟨t, e⟩
  · intro ⟨t, h⟩
    exact ⟨_, by rw [h, escapeRawPath_literal t pathLiteral_slash]⟩

/-! ### 1(f): ASCII, no '?', no '#' -/

theorem escapeRawPath_noQuery (raw : Bytes) : QMARK ∉ escapeRawPath raw :=
  fun hm => (safe_facts (escapeRawPath_safe raw _ hm)).1 rfl

theorem escapeRawPath_noFragment (raw : Bytes) : HASH ∉ escapeRawPath raw :=
  fun hm => (safe_facts (escapeRawPath_safe raw _ hm)).2.1 rfl

/-! ### proper elements, canonical paths -/

theorem goodElem_escapeRawPath {s : Bytes} (h : GoodElem s) : GoodElem (escapeRawPath s) :=
  ⟨fun e => h.1 (escapeRawPath_eq_nil.mp e), fun e => h.2.1 (escapeRawPath_eq_dot.mp e),
   fun e => h.2.2.1 (escapeRawPath_eq_dotdot.mp e), escapeRawPath_noslash h.noslash⟩

/-- the encoding neither hides nor creates anything the canonical form forbids: the elements of the image are the images of the
    elements, and an element is empty, "." or ".." exactly when its image is -/
theorem canonical_escapeRawPath_iff (raw : Bytes) : Canonical (escapeRawPath raw) ↔ Canonical raw := by
  by_cases hr : raw.head? = some SLASH
  · obtain ⟨t, rfl⟩ := List.head?_eq_some_iff.mp hr
    rw [escapeRawPath_literal t pathLiteral_slash, canonical_cons_iff, canonical_cons_iff, splitSlash_escapeRawPath, ← List.map_dropLast]
    simp only [List.mem_map, escapeRawPath_eq_dot, escapeRawPath_eq_dotdot, escapeRawPath_eq_nil, exists_eq_right]
  · exact ⟨fun h => absurd (escapeRawPath_head_slash.mp (canonical_rooted h)) hr, fun h => absurd (canonical_rooted h) hr⟩

/-! ### 4: a final '/' of the image comes from a final '/' of the input -/

theorem getLast?_escapeRawPath_slash {raw : Bytes} (h : (escapeRawPath raw).getLast? = some SLASH) :
    raw.getLast? = some SLASH := by
  rcases last_slash_decomp raw with hs | ⟨x, e, hp, he⟩
  · exact absurd (List.mem_of_getLast? h) (escapeRawPath_noslash hs)
  · by_cases hnil : e = []
    · rw [hp, hnil]; simp
    · rw [hp, escapeRawPath_append_slash] at h
      exact absurd h (getLast?_append_slash_ne_slash (escapeRawPath_noslash he) (fun e0 => hnil (escapeRawPath_eq_nil.mp e0)) _)

end Fox.C08.Raw
