import FoxModel.Lemmas.MachineEqns
/-
  The `lazy` flag of the matcher (Reverse, Iter.Reverse, Txn.Reverse, the Allow-header loops of ServeHTTP): a lazy lookup
  takes exactly the control flow of the recording one - same route, same trailing-slash flag - and records nothing.
-/
namespace Fox.Model
open Fox Fox.Model.Machine

/-! ### register files that differ only in recorded parameters -/

/-- a result without its parameters -/
def forget : Result → Result
  | .found r _ t => .found r [] t
  | x => x

def eraseF (f : Frame) : Frame := { f with paramCnt := 0 }

/-- two register files that differ only in what concerns the recorded parameters -/
def LSim (R R' : Regs) : Prop :=
  R.skipNds.map eraseF = R'.skipNds.map eraseF ∧ R.tsr.map (·.1) = R'.tsr.map (·.1)

/-- which route is kept depends on the routes only -/
theorem orTsr_map_fst (t : Cand) (x : Route × Binds) : (orTsr t x).map (·.1) = some ((t.map (·.1)).getD x.1) := by
  cases t <;> rfl

theorem sim_setTsr {R R' : Regs} (hs : LSim R R') (o : Option Route) (a b : Binds) : LSim (setTsr R o a) (setTsr R' o b) := by
  refine ⟨by simpa using hs.1, ?_⟩
  rw [setTsr_tsr, setTsr_tsr]
  cases o with
  | none => exact hs.2
  | some r => dsimp only; rw [orTsr_map_fst, orTsr_map_fst, hs.2]

theorem sim_params {R R' : Regs} (hs : LSim R R') (a b : Binds) :
    LSim { R with params := a } { R' with params := b } := ⟨hs.1, hs.2⟩

theorem sim_fin {R R' : Regs} (hs : LSim R R') : forget (fin R.tsr) = forget (fin R'.tsr) := by
  have hfin : ∀ t : Cand, forget (fin t) = (match t.map (·.1) with | some r => .found r [] true | none => .none) := by
    intro t; cases t <;> rfl
  rw [hfin, hfin, hs.2]

theorem map_erase_pushWild (cur : Node) (cm a b : Nat) {st st' : List Frame} (h : st.map eraseF = st'.map eraseF) :
    (pushWild cur cm a st).map eraseF = (pushWild cur cm b st').map eraseF := by
  unfold pushWild
  cases wildChild cur with
  | none => exact h
  | some wc => simp [eraseF, h]

theorem map_erase_pushParam (cur : Node) (cm a b : Nat) {st st' : List Frame} (h : st.map eraseF = st'.map eraseF) :
    (pushParam cur cm a st).map eraseF = (pushParam cur cm b st').map eraseF := by
  unfold pushParam
  cases paramChild cur with
  | none => exact h
  | some wc => simp [eraseF, h]

theorem sim_nil {R R' : Regs} (hs : LSim R R') (h : R.skipNds = []) : R'.skipNds = [] := by
  have := hs.1; rw [h] at this
  cases h' : R'.skipNds with
  | nil => rfl
  | cons f st => rw [h'] at this; cases this

theorem sim_cons {R R' : Regs} (hs : LSim R R') {f : Frame} {st : List Frame} (h : R.skipNds = f :: st) :
    ∃ f' st', R'.skipNds = f' :: st' ∧ f'.n = f.n ∧ f'.child = f.child ∧ f'.pathIndex = f.pathIndex ∧
      st.map eraseF = st'.map eraseF := by
  have := hs.1; rw [h] at this
  cases h' : R'.skipNds with
  | nil => rw [h'] at this; cases this
  | cons f' st' =>
    rw [h'] at this
    injection this with hf hst
    cases f; cases f'; cases hf
    exact ⟨_, _, rfl, rfl, rfl, rfl, hst⟩

/-! ### the lazy run: same control flow as the recording one, and no parameter list of its own making

  One induction over the machine's recursion gives both. `T` is any property of parameter lists that truncation
  preserves: a lazy run only copies and truncates the lists its registers hold, so `T` passes from them to its result. -/

/-- the parameter list of a result has the property `T` -/
def ResIn (T : Binds → Prop) : Result → Prop
  | .found _ ps _ => T ps
  | _ => True

/-- the parameter lists a register file holds have the property `T` -/
def RegsIn (T : Binds → Prop) (R : Regs) : Prop :=
  T R.params ∧ ∀ r ps, R.tsr = some (r, ps) → T ps

/-- the lazy result `x` is the recording result `y` up to parameters, and its own parameters have the property `T` -/
def Mirror (T : Binds → Prop) (x y : Result) : Prop := forget x = forget y ∧ ResIn T x

theorem regsIn_setTsr {T : Binds → Prop} {R : Regs} (h : RegsIn T R) (o : Option Route) : RegsIn T (setTsr R o R.params) := by
  refine ⟨by rw [setTsr_params]; exact h.1, ?_⟩
  intro r ps hr
  rw [setTsr_tsr] at hr
  cases o with
  | none => exact h.2 r ps hr
  | some r' =>
    cases ht : R.tsr with
    | some x => rw [ht] at hr; exact h.2 r ps (ht.trans hr)
    | none => rw [ht] at hr; cases hr; exact h.1

theorem mirror_ret {T : Binds → Prop} {a : Binds} (h : T a) (o : Option Route) (b : Binds) : Mirror T (ret o a) (ret o b) := by
  cases o with
  | none => exact ⟨rfl, trivial⟩
  | some r => exact ⟨rfl, h⟩

theorem mirror_fin {T : Binds → Prop} {R R' : Regs} (hs : LSim R R') (ht : RegsIn T R) : Mirror T (fin R.tsr) (fin R'.tsr) := by
  refine ⟨sim_fin hs, ?_⟩
  cases h : R.tsr with
  | none => trivial
  | some x => exact ht.2 x.1 x.2 h

theorem lazy_run_all (T : Binds → Prop) (hT : ∀ ps n, T ps → T (ps.take n)) :
    (∀ lz p cur pre k parent cm pc R, lz = true → ∀ pc' R', LSim R R' → RegsIn T R →
      Mirror T (keyLoop true p cur pre k parent cm pc R) (keyLoop false p cur pre k parent cm pc' R')) ∧
    (∀ lz p cur pre k' nm parent inode startPath cm R, lz = true → ∀ R', LSim R R' → RegsIn T R →
      Mirror T (infixLoop true p cur pre k' nm parent inode startPath cm R)
        (infixLoop false p cur pre k' nm parent inode startPath cm R')) ∧
    (∀ lz p cur pre k' nm parent startPath cm R, lz = true → ∀ R', LSim R R' → RegsIn T R →
      Mirror T (infixTail true p cur pre k' nm parent startPath cm R) (infixTail false p cur pre k' nm parent startPath cm R')) ∧
    (∀ lz p cur pre k parent cm R, lz = true → ∀ R', LSim R R' → RegsIn T R →
      Mirror T (afterLoop true p cur pre k parent cm R) (afterLoop false p cur pre k parent cm R')) ∧
    (∀ lz p R, lz = true → ∀ R', LSim R R' → RegsIn T R → Mirror T (backtrack true p R) (backtrack false p R')) ∧
    (∀ lz p cur pre parent cm pc b rest R, lz = true → ∀ pc' R', LSim R R' → RegsIn T R →
      Mirror T (nodeEnd true p cur pre parent cm pc b rest R) (nodeEnd false p cur pre parent cm pc' b rest R')) := by
  -- `lz` is the flag of the machine's recursion, where it varies (the sub-lookups of a catch-all always record); the
  -- hypotheses `lz = true` fix it. The sub-lookups themselves are the same call on both sides (`hres`).
  apply keyLoop.mutual_induct
  -- keyLoop (9 cases)
  · intro lz p cur pre k parent cm pc R hp ih hlz pc' R' hs ht; subst hlz
    simp only [keyLoop_end hp]; exact ih rfl R' hs ht
  · intro lz p cur pre parent cm pc R b rest hp ih hlz pc' R' hs ht; subst hlz
    simp only [keyLoop_keyEnd hp]; exact ih rfl pc' R' hs ht
  · intro lz p cur pre parent cm pc R b rest hp c k' hc ih hlz pc' R' hs ht; subst hlz
    simp only [keyLoop_lit hp, if_pos hc]; exact ih rfl pc' R' hs ht
  · intro lz p cur pre parent cm pc R b rest hp c k' hc ih hlz pc' R' hs ht; subst hlz
    simp only [keyLoop_lit hp, if_neg hc]; exact ih rfl R' hs ht
  · intro lz p cur pre parent cm pc R b rest hp nm k' h0 ih hlz pc' R' hs ht; subst hlz
    simp only [keyLoop_param hp, if_pos h0]; exact ih rfl R' hs ht
  · intro lz p cur pre parent cm pc R b rest hp nm k' h0 ih hlz pc' R' hs ht; subst hlz
    simp only [keyLoop_param hp, if_neg h0]
    exact ih rfl _ _ (sim_params hs _ _) ⟨ht.1, ht.2⟩
  · intro lz p cur pre parent cm pc R b rest hp nm hcs hlz pc' R' hs ht; subst hlz
    simp only [keyLoop_catch_leaf hp hcs]; exact mirror_ret ht.1 _ _
  · intro lz p cur pre parent cm pc R b rest hp nm c tail hcs ih hlz pc' R' hs ht; subst hlz
    simp only [keyLoop_catch_child hp hcs]; exact ih rfl R' hs ht
  · intro lz p cur pre parent cm pc R b rest hp nm t k'' ih hlz pc' R' hs ht; subst hlz
    simp only [keyLoop_catch_infix hp]; exact ih rfl R' hs ht
  -- infixLoop (6)
  · intro lz p cur pre k' nm parent inode startPath cm R hp ih hlz R' hs ht; subst hlz
    simp only [infixLoop_end hp]; exact ih rfl R' hs ht
  · intro lz p cur pre k' nm parent inode startPath cm R b rest hp hidx hres _ ih2 hlz R' hs ht; subst hlz
    simp only [infixLoop_step hp, if_pos hidx, hres]
    exact ih2 rfl R' hs ht
  · intro lz p cur pre k' nm parent inode startPath cm R b rest hp hidx r sps hres _ ih2 hlz R' hs ht; subst hlz
    simp only [infixLoop_step hp, if_pos hidx, hres]
    exact ih2 rfl _ (sim_setTsr hs _ _ _) (regsIn_setTsr ht _)
  · intro lz p cur pre k' nm parent inode startPath cm R b rest hp hidx r sps hres _ hlz R' hs ht; subst hlz
    simp only [infixLoop_step hp, if_pos hidx, hres]
    exact ⟨rfl, ht.1⟩
  · intro lz p cur pre k' nm parent inode startPath cm R b rest hp hidx hres _ hlz R' hs ht; subst hlz
    simp only [infixLoop_step hp, if_pos hidx, hres]
    exact ⟨rfl, trivial⟩
  · intro lz p cur pre k' nm parent inode startPath cm R b rest hp hc ih hlz R' hs ht; subst hlz
    simp only [infixLoop_step hp, if_neg hc]; exact ih rfl R' hs ht
  -- infixTail (3)
  · intro lz p cur pre nm parent startPath cm R hlz R' hs ht; subst hlz
    simp only [infixTail]; exact mirror_ret ht.1 _ _
  · intro lz p cur pre k' nm parent startPath cm R hk hh ih hlz R' hs ht; subst hlz
    simp only [infixTail, if_neg hk, if_pos hh]
    exact ih rfl _ (sim_params hs _ _) ⟨ht.1, ht.2⟩
  · intro lz p cur pre k' nm parent startPath cm R hk hh ih hlz R' hs ht; subst hlz
    simp only [infixTail, if_neg hk, if_neg hh]
    exact ih rfl _ (sim_params hs _ _) ⟨ht.1, ht.2⟩
  -- afterLoop (2)
  · intro lz p cur pre k parent cm R h hlz R' hs ht; subst hlz
    simp only [afterLoop, if_pos h]; exact mirror_ret ht.1 _ _
  · intro lz p cur pre k parent cm R h ih hlz R' hs ht; subst hlz
    simp only [afterLoop, if_neg h]
    exact ih rfl _ (sim_setTsr hs _ _ _) (regsIn_setTsr ht _)
  -- backtrack (3): the pop truncates, which `T` survives
  · intro lz p R h r ps _ hlz R' hs ht; subst hlz
    rw [backtrack_nil h, backtrack_nil (sim_nil hs h)]; exact mirror_fin hs ht
  · intro lz p R h _ hlz R' hs ht; subst hlz
    rw [backtrack_nil h, backtrack_nil (sim_nil hs h)]; exact mirror_fin hs ht
  · intro lz p R f st h ih hlz R' hs ht; subst hlz
    obtain ⟨f', st', h', hn, hc, hpi, hst⟩ := sim_cons hs h
    rw [backtrack_cons h, backtrack_cons h', hn, hc, hpi]
    exact ih rfl _ _ ⟨hst, hs.2⟩ ⟨hT _ _ ht.1, ht.2⟩
  -- nodeEnd (4): the two sides push frames that differ in `paramCnt` only
  · intro lz p cur pre parent cm pc b rest R; dsimp only; intro hs wc hpc ih hlz pc' R' hsim ht; subst hlz
    simp only [nodeEnd_eq, hs, hpc]
    have he := sim_setTsr hsim (earlyCand cur cm b rest) R.params R'.params
    have ht' := regsIn_setTsr ht (earlyCand cur cm b rest)
    exact ih rfl pc' _ ⟨map_erase_pushWild cur cm pc pc' he.1, he.2⟩ ⟨ht'.1, ht'.2⟩
  · intro lz p cur pre parent cm pc b rest R; dsimp only; intro hs hpc wc hwc ih hlz pc' R' hsim ht; subst hlz
    simp only [nodeEnd_eq, hs, hpc, hwc]
    exact ih rfl pc' _ (sim_setTsr hsim _ _ _) (regsIn_setTsr ht _)
  · intro lz p cur pre parent cm pc b rest R; dsimp only; intro hs hpc hwc ih hlz pc' R' hsim ht; subst hlz
    simp only [nodeEnd_eq, hs, hpc, hwc]
    exact ih rfl _ (sim_setTsr hsim _ _ _) (regsIn_setTsr ht _)
  · intro lz p cur pre parent cm pc b rest R; dsimp only; intro sc hs ih hlz pc' R' hsim ht; subst hlz
    simp only [nodeEnd_eq, hs]
    have he := sim_setTsr hsim (earlyCand cur cm b rest) R.params R'.params
    have ht' := regsIn_setTsr ht (earlyCand cur cm b rest)
    exact ih rfl pc' _ ⟨map_erase_pushParam cur cm pc pc' (map_erase_pushWild cur cm pc pc' he.1), he.2⟩ ⟨ht'.1, ht'.2⟩

/-! ### lazy and recording lookups take the same control flow -/

/- The lock-step statement for each function of the machine, in the order of `keyLoop.mutual_induct`:
   `L1` keyLoop, `L2` infixLoop, `L3` infixTail, `L4` afterLoop, `L5` backtrack, `L6` nodeEnd. -/
def L1 (lz : Bool) (p : Bytes) (cur : Node) (pre k : List Tok) (parent : Option Node) (cm pc : Nat) (R : Regs) : Prop :=
  lz = true → ∀ pc' R', LSim R R' →
    forget (keyLoop true p cur pre k parent cm pc R) = forget (keyLoop false p cur pre k parent cm pc' R')
def L2 (lz : Bool) (p : Bytes) (cur : Node) (pre k' : List Tok) (nm : Bytes) (parent : Option Node) (inode : Node)
    (startPath cm : Nat) (R : Regs) : Prop :=
  lz = true → ∀ R', LSim R R' →
    forget (infixLoop true p cur pre k' nm parent inode startPath cm R)
      = forget (infixLoop false p cur pre k' nm parent inode startPath cm R')
def L3 (lz : Bool) (p : Bytes) (cur : Node) (pre k' : List Tok) (nm : Bytes) (parent : Option Node)
    (startPath cm : Nat) (R : Regs) : Prop :=
  lz = true → ∀ R', LSim R R' →
    forget (infixTail true p cur pre k' nm parent startPath cm R) = forget (infixTail false p cur pre k' nm parent startPath cm R')
def L4 (lz : Bool) (p : Bytes) (cur : Node) (pre k : List Tok) (parent : Option Node) (cm : Nat) (R : Regs) : Prop :=
  lz = true → ∀ R', LSim R R' →
    forget (afterLoop true p cur pre k parent cm R) = forget (afterLoop false p cur pre k parent cm R')
def L5 (lz : Bool) (p : Bytes) (R : Regs) : Prop :=
  lz = true → ∀ R', LSim R R' → forget (backtrack true p R) = forget (backtrack false p R')
def L6 (lz : Bool) (p : Bytes) (cur : Node) (pre : List Tok) (parent : Option Node) (cm pc : Nat) (b : UInt8) (rest : Bytes)
    (R : Regs) : Prop :=
  lz = true → ∀ pc' R', LSim R R' →
    forget (nodeEnd true p cur pre parent cm pc b rest R) = forget (nodeEnd false p cur pre parent cm pc' b rest R')

/-- a lazy lookup and a recording one walk the tree in lock step -/
theorem lazy_sim_all :
    (∀ lz p cur pre k parent cm pc R, L1 lz p cur pre k parent cm pc R) ∧
    (∀ lz p cur pre k' nm parent inode startPath cm R, L2 lz p cur pre k' nm parent inode startPath cm R) ∧
    (∀ lz p cur pre k' nm parent startPath cm R, L3 lz p cur pre k' nm parent startPath cm R) ∧
    (∀ lz p cur pre k parent cm R, L4 lz p cur pre k parent cm R) ∧
    (∀ lz p R, L5 lz p R) ∧
    (∀ lz p cur pre parent cm pc b rest R, L6 lz p cur pre parent cm pc b rest R) := by
  have h := lazy_run_all (fun _ => True) (fun _ _ _ => trivial)
  have ht : ∀ R, RegsIn (fun _ => True) R := fun _ => ⟨trivial, fun _ _ _ => trivial⟩
  exact ⟨fun _ _ _ _ _ _ _ _ R hlz pc' R' hs => (h.1 _ _ _ _ _ _ _ _ R hlz pc' R' hs (ht R)).1,
    fun _ _ _ _ _ _ _ _ _ _ R hlz R' hs => (h.2.1 _ _ _ _ _ _ _ _ _ _ R hlz R' hs (ht R)).1,
    fun _ _ _ _ _ _ _ _ _ R hlz R' hs => (h.2.2.1 _ _ _ _ _ _ _ _ _ R hlz R' hs (ht R)).1,
    fun _ _ _ _ _ _ _ R hlz R' hs => (h.2.2.2.1 _ _ _ _ _ _ _ R hlz R' hs (ht R)).1,
    fun _ _ R hlz R' hs => (h.2.2.2.2.1 _ _ R hlz R' hs (ht R)).1,
    fun _ _ _ _ _ _ _ _ _ R hlz pc' R' hs => (h.2.2.2.2.2 _ _ _ _ _ _ _ _ _ R hlz pc' R' hs (ht R)).1⟩

/-- **Reverse, Iter.Reverse and the Allow-header loops select what ServeHTTP and Lookup select**: on any node, for any
    path, the lazy run of lookupByPath returns the route and the trailing-slash flag of the recording run. -/
theorem lookupByPath_lazy (target : Node) (path : Bytes) :
    forget (Machine.lookupByPath target path [] true) = forget (Machine.lookupByPath target path [] false) := by
  unfold Machine.lookupByPath
  exact lazy_sim_all.1 true path target [] target.key none 0 _ _ rfl _ _ ⟨rfl, rfl⟩

/-! ### the same for lookupByDomain and `roots.lookup` -/

/- `HM1` hostKeyLoop, `M2h` hostNodeEnd, `M3h` hostAfter, `M4h` hostBacktrack -/
def HM1 (host path : Bytes) (cur : Node) (k : List Tok) (cm pc : Nat) (R : Regs) : Prop :=
  ∀ pc' R', LSim R R' →
    forget (hostKeyLoop true host path cur k cm pc R) = forget (hostKeyLoop false host path cur k cm pc' R')
def M2h (host path : Bytes) (cur : Node) (cm pc : Nat) (b : UInt8) (R : Regs) : Prop :=
  ∀ pc' R', LSim R R' →
    forget (hostNodeEnd true host path cur cm pc b R) = forget (hostNodeEnd false host path cur cm pc' b R')
def M3h (host path : Bytes) (cur : Node) (k : List Tok) (cm : Nat) (R : Regs) : Prop :=
  ∀ R', LSim R R' → forget (hostAfter true host path cur k cm R) = forget (hostAfter false host path cur k cm R')
def M4h (host path : Bytes) (R : Regs) : Prop :=
  ∀ R', LSim R R' → forget (hostBacktrack true host path R) = forget (hostBacktrack false host path R')

theorem forget_eq_cases {x y : Result} (h : forget x = forget y) :
    (x = .none ↔ y = .none) ∧ (x = .bad ↔ y = .bad) ∧
    (∀ r ps t, x = .found r ps t → ∃ ps', y = .found r ps' t) := by
  cases x <;> cases y <;> simp_all [forget]

theorem host_lazy_sim_all (host path : Bytes) :
    (∀ cur k cm pc R, HM1 host path cur k cm pc R) ∧ (∀ cur cm pc b R, M2h host path cur cm pc b R) ∧
    (∀ cur k cm R, M3h host path cur k cm R) ∧ (∀ R, M4h host path R) := by
  apply hostKeyLoop.mutual_induct true host path (HM1 host path) (M2h host path) (M3h host path) (M4h host path)
  · intro cur k cm pc R hp ih pc' R' hs
    simp only [hostKeyLoop_end hp]; exact ih R' hs
  · intro cur cm pc R b rest hp ih pc' R' hs
    simp only [hostKeyLoop_keyEnd hp]; exact ih pc' R' hs
  · intro cur cm pc R b rest hp c k' hc ih pc' R' hs
    simp only [hostKeyLoop_lit hp, if_pos hc]; exact ih pc' R' hs
  · intro cur cm pc R b rest hp c k' hc ih pc' R' hs
    simp only [hostKeyLoop_lit hp, if_neg hc]; exact ih R' hs
  · intro cur cm pc R b rest hp nm k' h0 ih pc' R' hs
    simp only [hostKeyLoop_param hp, if_pos h0]; exact ih R' hs
  · intro cur cm pc R b rest hp nm k' h0 ih pc' R' hs
    simp only [hostKeyLoop_param hp, if_neg h0]
    exact ih _ _ (sim_params hs _ _)
  · intro cur cm pc R b rest hp nm k' ih pc' R' hs
    simp only [hostKeyLoop_catch hp]; exact ih R' hs
  · intro cur cm pc b R hs wc hpc ih pc' R' hsim
    simp only [hostNodeEnd_eq, hs, hpc]; exact ih pc' R' hsim
  · intro cur cm pc b R hs hpc ih pc' R' hsim
    simp only [hostNodeEnd_eq, hs, hpc]; exact ih R' hsim
  · intro cur cm pc b R sc hs ih pc' R' hsim
    simp only [hostNodeEnd_eq, hs]
    exact ih pc' _ ⟨map_erase_pushParam cur cm pc pc' hsim.1, hsim.2⟩
  · intro cur k cm R hc hf ih R' hs
    rw [hostAfter_eq, hostAfter_eq, if_pos hc, if_pos hc, hf]; exact ih R' hs
  · intro cur k cm R hc c hf hres ih R' hs
    have hl := forget_eq_cases (lookupByPath_lazy c path)
    have hres' : lookupByPath c path [] false = Result.none := hl.1.mp hres
    rw [hostAfter_eq, hostAfter_eq, if_pos hc, if_pos hc, hf]
    simp only [hres, hres']
    exact ih R' hs
  · intro cur k cm R hc c hf r sps hres ih R' hs
    obtain ⟨sps', hres'⟩ := (forget_eq_cases (lookupByPath_lazy c path)).2.2 r sps true hres
    rw [hostAfter_eq, hostAfter_eq, if_pos hc, if_pos hc, hf]
    simp only [hres, hres']
    exact ih _ (sim_setTsr hs _ _ _)
  · intro cur k cm R hc c hf r sps hres R' hs
    obtain ⟨sps', hres'⟩ := (forget_eq_cases (lookupByPath_lazy c path)).2.2 r sps false hres
    rw [hostAfter_eq, hostAfter_eq, if_pos hc, if_pos hc, hf]
    simp only [hres, hres']
    rfl
  · intro cur k cm R hc c hf hres R' hs
    have hres' : lookupByPath c path [] false = Result.bad := (forget_eq_cases (lookupByPath_lazy c path)).2.1.mp hres
    rw [hostAfter_eq, hostAfter_eq, if_pos hc, if_pos hc, hf]
    simp only [hres, hres']
  · intro cur k cm R hc ih R' hs
    rw [hostAfter_eq, hostAfter_eq, if_neg hc, if_neg hc]; exact ih R' hs
  · intro R h r ps ht R' hs
    rw [hostBacktrack_nil h, hostBacktrack_nil (sim_nil hs h)]; exact sim_fin hs
  · intro R h ht R' hs
    rw [hostBacktrack_nil h, hostBacktrack_nil (sim_nil hs h)]; exact sim_fin hs
  · intro R f st h ih R' hs
    obtain ⟨f', st', h', hn, hc, hpi, hst⟩ := sim_cons hs h
    rw [hostBacktrack_cons h, hostBacktrack_cons h', hc, hpi]
    exact ih _ _ ⟨hst, hs.2⟩

theorem lookupByDomain_lazy (root : Node) (host path : Bytes) :
    forget (Machine.lookupByDomain root host path true) = forget (Machine.lookupByDomain root host path false) := by
  unfold Machine.lookupByDomain
  cases host with
  | nil => rfl
  | cons b rest => exact (host_lazy_sim_all (b :: rest) path).2.1 root 0 0 b {} 0 {} ⟨rfl, rfl⟩

/-- agreement up to parameters passes through "the first answer, unless it is none" -/
theorem forget_orElse {x y a b : Result} : forget x = forget y → forget a = forget b →
    forget (match x with | .none => a | r => r) = forget (match y with | .none => b | r => r) := by
  intro hxy hab
  cases x <;> cases y <;> first | exact hab | exact hxy | cases hxy

/-- **the lazy `roots.lookup` (Reverse, Iter.Reverse, Txn.Reverse, the Allow-header loops of ServeHTTP) selects the route and
    the trailing-slash flag of the recording one (ServeHTTP, Lookup)**, on every forest, for every method, Host and path. -/
theorem machine_lookup_lazy (rs : Roots) (m hostPort path : Bytes) :
    forget (Machine.lookup rs m hostPort path true) = forget (Machine.lookup rs m hostPort path false) := by
  unfold Machine.lookup
  cases methodRoot rs m with
  | none => rfl
  | some root =>
    dsimp only
    cases root.children with
    | nil => rfl
    | cons c0 cs =>
      dsimp only
      split
      · exact lookupByPath_lazy c0 path
      · apply forget_orElse
        · split
          · rfl
          · exact lookupByDomain_lazy root _ path
        · cases (c0 :: cs).find? (fun c => firstByte c.key == SLASH) with
          | none => rfl
          | some c => exact lookupByPath_lazy c path

/-! ### a lazy lookup records nothing: whatever it returns is a truncation of what the buffer held -/

def IsTrunc (ps0 ps : Binds) : Prop := ∃ n, ps = ps0.take n

theorem isTrunc_take {ps0 ps : Binds} (h : IsTrunc ps0 ps) (n : Nat) : IsTrunc ps0 (ps.take n) := by
  obtain ⟨k, rfl⟩ := h
  exact ⟨min n k, by rw [List.take_take]⟩

def TruncRes (ps0 : Binds) : Result → Prop
  | .found _ ps _ => IsTrunc ps0 ps
  | _ => True

def TruncR (ps0 : Binds) (R : Regs) : Prop :=
  IsTrunc ps0 R.params ∧ (∀ r ps, R.tsr = some (r, ps) → IsTrunc ps0 ps)

/-- in lazy mode every function of the machine returns a truncation of the initial parameter buffer -/
theorem lazy_trunc_all (ps0 : Binds) :
    (∀ lz p cur pre k parent cm pc R, lz = true → TruncR ps0 R → TruncRes ps0 (keyLoop lz p cur pre k parent cm pc R)) ∧
    (∀ lz p cur pre k' nm parent inode startPath cm R, lz = true → TruncR ps0 R →
      TruncRes ps0 (infixLoop lz p cur pre k' nm parent inode startPath cm R)) ∧
    (∀ lz p cur pre k' nm parent startPath cm R, lz = true → TruncR ps0 R →
      TruncRes ps0 (infixTail lz p cur pre k' nm parent startPath cm R)) ∧
    (∀ lz p cur pre k parent cm R, lz = true → TruncR ps0 R → TruncRes ps0 (afterLoop lz p cur pre k parent cm R)) ∧
    (∀ lz p R, lz = true → TruncR ps0 R → TruncRes ps0 (backtrack lz p R)) ∧
    (∀ lz p cur pre parent cm pc b rest R, lz = true → TruncR ps0 R →
      TruncRes ps0 (nodeEnd lz p cur pre parent cm pc b rest R)) := by
  -- `lazy_run_all` for `T := IsTrunc ps0`, against the recording run from the same registers; `TruncR ps0` and `TruncRes ps0`
  -- are `RegsIn T` and `ResIn T` written out
  have h := lazy_run_all (IsTrunc ps0) (fun _ n h => isTrunc_take h n)
  have hs : ∀ R, LSim R R := fun _ => ⟨rfl, rfl⟩
  exact ⟨fun lz _ _ _ _ _ _ pc R hlz ht => hlz ▸ (h.1 lz _ _ _ _ _ _ pc R hlz pc R (hs R) ht).2,
    fun lz _ _ _ _ _ _ _ _ _ R hlz ht => hlz ▸ (h.2.1 lz _ _ _ _ _ _ _ _ _ R hlz R (hs R) ht).2,
    fun lz _ _ _ _ _ _ _ _ R hlz ht => hlz ▸ (h.2.2.1 lz _ _ _ _ _ _ _ _ R hlz R (hs R) ht).2,
    fun lz _ _ _ _ _ _ R hlz ht => hlz ▸ (h.2.2.2.1 lz _ _ _ _ _ _ R hlz R (hs R) ht).2,
    fun lz _ R hlz ht => hlz ▸ (h.2.2.2.2.1 lz _ R hlz R (hs R) ht).2,
    fun lz _ _ _ _ _ pc _ _ R hlz ht => hlz ▸ (h.2.2.2.2.2 lz _ _ _ _ _ pc _ _ R hlz pc R (hs R) ht).2⟩

/-- **a lazy lookupByPath records nothing**: started on an emptied buffer (as every caller does) it reports no parameter.
    It never appends, and never re-slices beyond what it holds (`paramCnt` stays where it was, so every
    `(*c.params)[:skipped.paramCnt]` is a genuine truncation); `lazy_trunc_all` is the statement for an arbitrary buffer. -/
theorem lookupByPath_lazy_records_nothing (target : Node) (path : Bytes) :
    ∀ r ps t, Machine.lookupByPath target path [] true = .found r ps t → ps = [] := by
  intro r ps t h
  have : ResIn (· = []) (Machine.lookupByPath target path [] true) :=
    ((lazy_run_all (· = []) (fun _ _ h => h.symm ▸ List.take_nil)).1 true path target [] target.key none 0 0 {} rfl 0 {} ⟨rfl, rfl⟩
      ⟨rfl, fun _ _ h => nomatch h⟩).2
  rw [h] at this
  exact this

end Fox.Model
