import FoxModel.Model.InsScan
import FoxModel.Lemmas.KeyScan
import FoxModel.Lemmas.Tree.Roots
import FoxModel.Lemmas.FragShape
/-
  FoxModel.Lemmas.InsScan — the byte-level node step of `tXn.insert` is the rendering of the token-level one.

  Key and pattern are split as `cp ++ kr`, `cp ++ tr` with different first tokens of `kr`, `tr` (`exists_split`); on the
  bytes, `stepB` of `x ++ y`, `x ++ z` is computed from `lcpB z y` (`stepB_common`), and two different grammar tokens
  share bytes only inside two wildcards of one kind (`lcpB_tok_ne`). The theorems of `Props/C02Bytes` are case
  distinctions on `kr`, `tr` on top of these. The backward scans of the two conflict rules are one scan with the delimiter
  left open (`RevScan`); on a well-shaped fragment it finds a '{' iff the fragment ends with a wildcard (`RevScan.render_eq`).
-/
namespace Fox.Model.InsScan
open Fox Fox.Model Fox.Model.KeyScan

/-! ### `lcpB` -/

theorem lcpB_nil_right (a : Bytes) : lcpB a [] = 0 := by cases a <;> rfl

theorem lcpB_cons_ne {a b : UInt8} (h : a ≠ b) (x y : Bytes) : lcpB (a :: x) (b :: y) = 0 :=
  if_neg h

theorem lcpB_cons_same (a : UInt8) (x y : Bytes) : lcpB (a :: x) (a :: y) = lcpB x y + 1 :=
  if_pos rfl

theorem lcpB_comm (a b : Bytes) : lcpB a b = lcpB b a := by
  induction a generalizing b with
  | nil => exact (lcpB_nil_right b).symm
  | cons x xs ih =>
    cases b with
    | nil => rfl
    | cons y ys =>
      by_cases h : x = y
      · subst h; rw [lcpB_cons_same, lcpB_cons_same, ih]
      · rw [lcpB_cons_ne h, lcpB_cons_ne (Ne.symm h)]

theorem lcpB_append_same (x y z : Bytes) : lcpB (x ++ y) (x ++ z) = x.length + lcpB y z := by
  induction x with
  | nil => exact (Nat.zero_add _).symm
  | cons a x ih => rw [List.cons_append, List.cons_append, lcpB_cons_same, ih, List.length_cons, Nat.add_right_comm]

theorem lcpB_le_left (a b : Bytes) : lcpB a b ≤ a.length := by
  induction a generalizing b with
  | nil => exact Nat.le_refl 0
  | cons x xs ih =>
    cases b with
    | nil => exact Nat.zero_le _
    | cons y ys =>
      by_cases h : x = y
      · subst h; rw [lcpB_cons_same]; exact Nat.succ_le_succ (ih ys)
      · rw [lcpB_cons_ne h]; exact Nat.zero_le _

theorem lcpB_le_right (a b : Bytes) : lcpB a b ≤ b.length := by rw [lcpB_comm]; exact lcpB_le_left b a

theorem take_lcpB (a b : Bytes) : a.take (lcpB a b) = b.take (lcpB a b) := by
  induction a generalizing b with
  | nil => rw [lcpB_comm, lcpB_nil_right]; rfl
  | cons x xs ih =>
    cases b with
    | nil => rfl
    | cons y ys =>
      by_cases h : x = y
      · subst h; rw [lcpB_cons_same, List.take_succ_cons, List.take_succ_cons, ih]
      · rw [lcpB_cons_ne h]; rfl

theorem lcpB_delim {d : UInt8} {n m : Bytes} (hn : d ∉ n) (hm : d ∉ m) (hne : n ≠ m) (x y : Bytes) :
    lcpB (n ++ d :: x) (m ++ d :: y) = lcpB n m := by
  induction n generalizing m with
  | nil =>
    cases m with
    | nil => exact absurd rfl hne
    | cons c m' => exact lcpB_cons_ne (fun e => hm (by rw [e]; exact List.mem_cons_self ..)) _ _
  | cons a n' ih =>
    cases m with
    | nil => exact lcpB_cons_ne (fun e => hn (by rw [← e]; exact List.mem_cons_self ..)) _ _
    | cons c m' =>
      by_cases h : a = c
      · subst h
        rw [List.cons_append, List.cons_append, lcpB_cons_same, lcpB_cons_same,
          ih (fun e => hn (List.mem_cons_of_mem _ e)) (fun e => hm (List.mem_cons_of_mem _ e)) (fun e => hne (by rw [e]))]
      · rw [List.cons_append, List.cons_append, lcpB_cons_ne h, lcpB_cons_ne h]

/-! ### the inner loop of the search computes the common prefix -/

theorem cowInner_eq (key rest : Bytes) :
    (cowInner key rest).1 = lcpB key rest ∧
    ((cowInner key rest).2 = true ↔ lcpB key rest < key.length ∧ lcpB key rest < rest.length) := by
  induction key generalizing rest with
  | nil => cases rest <;> simp [cowInner, lcpB]
  | cons k ks ih =>
    cases rest with
    | nil => simp [cowInner, lcpB]
    | cons b bs =>
      simp only [cowInner, lcpB]
      by_cases h : k = b
      · subst h
        obtain ⟨h1, h2⟩ := ih bs
        simp only [ne_eq, not_true_eq_false, if_false, if_true, h1, List.length_cons, Nat.add_lt_add_iff_right]
        exact ⟨trivial, h2⟩
      · simp [h]

/-! ### the bytes two different tokens share -/

/-- bytes matched beyond the common tokens: only inside two wildcards of the same kind with different names -/
def partialT : List Tok → List Tok → Nat
  | a :: as, b :: bs =>
    if a = b then partialT as bs else
      match a, b with
      | .param n, .param m => 1 + lcpB n m
      | .catchAll n, .catchAll m => 2 + lcpB n m
      | _, _ => 0
  | _, _ => 0

/-- bytes matched inside the first differing tokens -/
def partialHead : Tok → Tok → Nat
  | .param n, .param m => 1 + lcpB n m
  | .catchAll n, .catchAll m => 2 + lcpB n m
  | _, _ => 0

theorem partialT_cons_same (a : Tok) (k t : List Tok) : partialT (a :: k) (a :: t) = partialT k t :=
  if_pos rfl

theorem partialT_cons_ne {a b : Tok} (h : a ≠ b) (k t : List Tok) : partialT (a :: k) (b :: t) = partialHead a b := by
  cases a <;> cases b <;> exact if_neg h

theorem partialT_append (cp kr tr : List Tok) : partialT (cp ++ kr) (cp ++ tr) = partialT kr tr := by
  induction cp with
  | nil => rfl
  | cons a cp ih => rw [List.cons_append, List.cons_append, partialT_cons_same, ih]

theorem partialHead_comm (a b : Tok) : partialHead a b = partialHead b a := by
  cases a <;> cases b <;> simp only [partialHead, lcpB_comm]

theorem partialHead_lt_right (a b : Tok) : partialHead a b < b.render.length := by
  cases a with
  | lit c => exact tok_render_pos b
  | param n =>
    cases b with
    | lit d => exact Nat.zero_lt_one
    | param m =>
      rw [param_render_len, partialHead, Nat.add_comm]
      exact Nat.succ_lt_succ (Nat.lt_succ_of_le (lcpB_le_right n m))
    | catchAll m => exact tok_render_pos _
  | catchAll n =>
    cases b with
    | lit d => exact Nat.zero_lt_one
    | param m => exact tok_render_pos _
    | catchAll m =>
      rw [catchAll_render_len, partialHead, Nat.add_comm]
      exact Nat.succ_lt_succ (Nat.succ_lt_succ (Nat.lt_succ_of_le (lcpB_le_right n m)))

theorem partialHead_lt_left (a b : Tok) : partialHead a b < a.render.length := by
  rw [partialHead_comm]
  exact partialHead_lt_right b a

/-- `partialHead` and `isWildSame` distinguish the same two cases -/
theorem partialHead_eq_zero {a b : Tok} (h : isWildSame a b = false) : partialHead a b = 0 := by
  cases a <;> cases b <;> first | rfl | cases h

theorem isWildSame_cases {a b : Tok} (h : isWildSame a b = true) :
    (∃ n m, a = .param n ∧ b = .param m) ∨ (∃ n m, a = .catchAll n ∧ b = .catchAll m) := by
  cases a with
  | lit c => cases h
  | param n =>
    cases b with
    | param m => exact Or.inl ⟨n, m, rfl, rfl⟩
    | lit d => cases h
    | catchAll m => cases h
  | catchAll n =>
    cases b with
    | catchAll m => exact Or.inr ⟨n, m, rfl, rfl⟩
    | lit d => cases h
    | param m => cases h

theorem take_partialHead (a b : Tok) (y : Bytes) :
    (b.render ++ y).take (partialHead a b) = b.render.take (partialHead a b) :=
  List.take_append_of_le_length (Nat.le_of_lt (partialHead_lt_right a b))

theorem take_param (n m : Bytes) :
    (Tok.param m).render.take (partialHead (.param n) (.param m)) = LBR :: m.take (lcpB n m) := by
  show ((LBR :: m) ++ [RBR]).take (1 + lcpB n m) = _
  rw [Nat.add_comm, List.cons_append, List.take_succ_cons, List.take_append_of_le_length (lcpB_le_right n m)]

theorem take_catchAll (n m : Bytes) :
    (Tok.catchAll m).render.take (partialHead (.catchAll n) (.catchAll m)) = STAR :: LBR :: m.take (lcpB n m) := by
  show ((STAR :: LBR :: m) ++ [RBR]).take (2 + lcpB n m) = _
  rw [Nat.add_comm, List.cons_append, List.cons_append, List.take_succ_cons, List.take_succ_cons,
    List.take_append_of_le_length (lcpB_le_right n m)]

/-- two different tokens of the grammar share bytes only when they are wildcards of one kind: the opening and the common
    part of the names -/
theorem lcpB_tok_ne {a b : Tok} (hab : a ≠ b) (ha : tokOk a = true) (hb : tokOk b = true) (x y : Bytes) :
    lcpB (a.render ++ x) (b.render ++ y) = partialHead a b := by
  cases a with
  | lit c =>
    cases b with
    | lit d => exact lcpB_cons_ne (fun e => hab (by rw [e])) _ _
    | param m => exact lcpB_cons_ne (tokOk_lit ha).1 _ _
    | catchAll m => exact lcpB_cons_ne (tokOk_lit ha).2 _ _
  | param n =>
    cases b with
    | lit d => exact lcpB_cons_ne (fun e => (tokOk_lit hb).1 e.symm) _ _
    | param m =>
      rw [param_render_append, param_render_append, lcpB_cons_same, lcpB_delim (fun e => (nameOk_iff_forall.1 ha _ e).1 rfl)
        (fun e => (nameOk_iff_forall.1 hb _ e).1 rfl) (fun e => hab (by rw [e]))]
      exact Nat.add_comm _ _
    | catchAll m => exact lcpB_cons_ne (by decide) _ _
  | catchAll n =>
    cases b with
    | lit d => exact lcpB_cons_ne (fun e => (tokOk_lit hb).2 e.symm) _ _
    | param m => exact lcpB_cons_ne (by decide) _ _
    | catchAll m =>
      rw [catchAll_render_append, catchAll_render_append, lcpB_cons_same, lcpB_cons_same,
        lcpB_delim (fun e => (nameOk_iff_forall.1 ha _ e).1 rfl) (fun e => (nameOk_iff_forall.1 hb _ e).1 rfl)
          (fun e => hab (by rw [e]))]
      exact Nat.add_comm _ 2

/-- the common byte prefix of two rendered token lists: the rendered common tokens, then what the first differing tokens share -/
theorem lcp_render (k t : List Tok) (hk : toksOk k = true) (ht : toksOk t = true) :
    lcpB (render k) (render t) = (render (commonPrefix k t)).length + partialT k t := by
  induction k generalizing t with
  | nil => rfl
  | cons a k' ih =>
    cases t with
    | nil => exact lcpB_nil_right _
    | cons b t' =>
      obtain ⟨ha, hk'⟩ := toksOk_cons hk
      obtain ⟨hb, ht'⟩ := toksOk_cons ht
      rw [render_cons, render_cons, commonPrefix]
      by_cases hab : a = b
      · subst hab
        rw [if_pos rfl, partialT_cons_same, lcpB_append_same, ih t' hk' ht', render_cons, List.length_append, Nat.add_assoc]
      · rw [if_neg hab, partialT_cons_ne hab, lcpB_tok_ne hab ha hb]
        exact (Nat.zero_add _).symm

/-! ### the common token prefix and what follows it -/

theorem exists_split (k t : List Tok) : ∃ cp kr tr, k = cp ++ kr ∧ t = cp ++ tr ∧ HeadsDiffer kr tr :=
  let ⟨kr, tr, hk, ht, hd⟩ := Fox.Model.cp_split k t
  ⟨_, kr, tr, hk, ht, hd⟩

/-- `Fox.Model.cp_split` with the remainders written as `drop`s, and `partialT` read off their first tokens -/
theorem cp_split (k t : List Tok) :
    k = commonPrefix k t ++ k.drop (commonPrefix k t).length ∧
    t = commonPrefix k t ++ t.drop (commonPrefix k t).length ∧
    (match k.drop (commonPrefix k t).length, t.drop (commonPrefix k t).length with
     | a :: _, b :: _ => a ≠ b ∧ partialT k t = partialHead a b
     | _, _ => partialT k t = 0) := by
  obtain ⟨cp, kr, tr, rfl, rfl, hd⟩ := exists_split k t
  rw [commonPrefix_append cp kr tr hd, List.drop_left, List.drop_left, partialT_append]
  refine ⟨rfl, rfl, ?_⟩
  cases kr with
  | nil => rfl
  | cons a kr =>
    cases tr with
    | nil => rfl
    | cons b tr => exact ⟨hd, partialT_cons_ne hd _ _⟩

theorem stepT_split (cp kr tr : List Tok) : HeadsDiffer kr tr →
    stepT (cp ++ kr) (cp ++ tr) =
      { cls := match kr, tr with
          | [], [] => .exactMatch
          | _ :: _, [] => .keyEndMidEdge
          | [], _ :: _ => .toEndOfEdge
          | _ :: _, _ :: _ => .toMiddleOfEdge,
        conflict := match kr, tr with
          | a :: _, b :: _ => isWildSame a b
          | _, _ => false,
        cp := cp, sufEdge := kr, keySuffix := tr } := by
  intro hd
  unfold stepT
  simp only [commonPrefix_append cp kr tr hd, List.drop_left]
  rfl

theorem mid_split {key toks : List Tok} (hm : (stepT key toks).cls = .toMiddleOfEdge) :
    ∃ cp a kr b tr, key = cp ++ a :: kr ∧ toks = cp ++ b :: tr ∧ a ≠ b := by
  obtain ⟨cp, kr, tr, rfl, rfl, hd⟩ := exists_split key toks
  rw [stepT_split cp kr tr hd] at hm
  cases kr with
  | nil => cases tr <;> cases hm
  | cons a kr =>
    cases tr with
    | nil => cases hm
    | cons b tr => exact ⟨cp, a, kr, b, tr, rfl, rfl, hd⟩

/-- `lcp_render` behind the common tokens, with the arguments as `stepB` passes them to `lcpB`: the pattern first, the key second -/
theorem lcpB_render_split {kr tr : List Tok} (hk : toksOk kr = true) (ht : toksOk tr = true)
    (hd : HeadsDiffer kr tr) : lcpB (render tr) (render kr) = partialT kr tr := by
  rw [lcpB_comm, lcp_render kr tr hk ht, show commonPrefix kr tr = [] from commonPrefix_append [] kr tr hd]
  exact Nat.zero_add _

/-- without a conflict the common byte prefix ends at a token boundary -/
theorem partialT_of_noConflict (key toks : List Tok) (hnc : (stepT key toks).conflict = false) :
    partialT key toks = 0 := by
  obtain ⟨cp, kr, tr, rfl, rfl, hd⟩ := exists_split key toks
  rw [stepT_split cp kr tr hd] at hnc
  rw [partialT_append]
  cases kr with
  | nil => rfl
  | cons a kr =>
    cases tr with
    | nil => rfl
    | cons b tr => rw [partialT_cons_ne hd]; exact partialHead_eq_zero hnc

/-! ### the byte-level step -/

/-- the byte-level step on two strings with a known common part `x`: everything is determined by `lcpB z y` -/
theorem stepB_common (x y z : Bytes) (isHost : Bool) :
    stepB (x ++ y) (x ++ z) isHost =
      { cls := classify (x.length + y.length) (x.length + z.length) (x.length + lcpB z y),
        conflict := if isHost then conflictHost (x ++ z.take (lcpB z y)) else conflictPath (x ++ z.take (lcpB z y)),
        cPrefix := x ++ z.take (lcpB z y),
        sufEdge := y.drop (lcpB z y),
        keySuffix := z.drop (lcpB z y) } := by
  have htake : (x ++ z).take (x.length + lcpB z y) = x ++ z.take (lcpB z y) := by
    rw [List.take_append, List.take_of_length_le (Nat.le_add_right _ _), Nat.add_sub_cancel_left]
  have hpre : (x ++ z.take (lcpB z y)).isPrefixOf (x ++ y) = true := by
    rw [take_lcpB, List.isPrefixOf_iff_prefix, List.prefix_append_right_inj]
    exact List.take_prefix _ _
  unfold stepB trimPrefix
  simp only [lcpB_append_same, htake, hpre, if_true, List.length_append, List.drop_append, List.length_take,
    Nat.min_eq_left (lcpB_le_left z y), List.drop_of_length_le (Nat.le_add_right _ _), Nat.add_sub_cancel_left,
    List.nil_append]

theorem classify_add (x y z p : Nat) :
    classify (x + y) (x + z) (x + p) =
      if p = z then (if p = y then .exactMatch else .keyEndMidEdge)
      else if p = y then .toEndOfEdge else .toMiddleOfEdge := by
  simp only [classify, Nat.add_left_cancel_iff]

/-! ### fragments -/

theorem fragOkPath_append {a b : List Tok} (h : fragOkPath (a ++ b) = true) :
    fragOkPath a = true ∧ fragOkPath b = true := by
  simp only [fragOkPath_eq] at h ⊢
  exact wildAtEnd_append h

theorem fragOkHost_append {a b : List Tok} (h : fragOkHost (a ++ b) = true) :
    fragOkHost a = true ∧ fragOkHost b = true := by
  obtain ⟨hw, ht⟩ := fragOkHost_iff.1 h
  exact ⟨fragOkHost_iff.2 ⟨(wildAtEnd_append hw).1, fun t m => ht t (List.mem_append_left _ m)⟩,
    fragOkHost_iff.2 ⟨(wildAtEnd_append hw).2, fun t m => ht t (List.mem_append_right _ m)⟩⟩

/-- the name of a wildcard has no byte `d` -/
def nameFree (d : UInt8) : Tok → Prop
  | .lit _ => True
  | .param n => ∀ b ∈ n, b ≠ d
  | .catchAll n => ∀ b ∈ n, b ≠ d

theorem nameFree_of_tokOk {t : Tok} (h : tokOk t = true) : nameFree SLASH t := by
  cases t with
  | lit c => trivial
  | param n | catchAll n => exact fun b hb => (nameOk_iff_forall.1 h b hb).2.1

theorem nameFree_of_hostTok {t : Tok} (h : hostTok t) : nameFree DOT t := by
  cases t with
  | lit c => trivial
  | param n => exact h
  | catchAll n => exact h.elim

/-! ### the backward scans of the two conflict rules -/

/-- the backward scan of a conflict rule, with the delimiter `d` (not a brace) and the bytes `sp` that count as a hit
    besides '{' (in paths '*') left open: the equations are those of `scanPathRev` and `scanHostRev` -/
structure RevScan (d : UInt8) (sp : UInt8 → Prop) [DecidablePred sp] (f : Bytes → Bool) : Prop where
  lbr : LBR ≠ d
  rbr : RBR ≠ d
  sp_star : ∀ {c}, sp c → c = STAR
  nil : f [] = false
  cons : ∀ b r, f (b :: r) = if b = d then false else if b = LBR ∨ sp b then true else f r

theorem scanPathRev_scan : RevScan SLASH (· = STAR) scanPathRev :=
  ⟨by decide, by decide, id, rfl, fun _ _ => rfl⟩

theorem scanHostRev_scan : RevScan DOT (fun _ => False) scanHostRev :=
  ⟨by decide, by decide, False.elim, rfl, fun _ _ => by simp only [or_false]; rfl⟩

/-- the first token is a wildcard. Used on *reversed* prefixes (the scans run backwards), where it says that the prefix
    ends with a wildcard -/
def headIsWild : List Tok → Bool
  | w :: _ => isWild w
  | [] => false

namespace RevScan
variable {d : UInt8} {sp : UInt8 → Prop} [DecidablePred sp] {f : Bytes → Bool} (hf : RevScan d sp f)
include hf

theorem name (u y : Bytes) (hu : ∀ b ∈ u, b ≠ d) : f (u ++ LBR :: y) = true := by
  induction u with
  | nil => rw [List.nil_append, hf.cons, if_neg hf.lbr, if_pos (.inl rfl)]
  | cons b u ih =>
    rw [List.cons_append, hf.cons, if_neg (hu b (List.mem_cons_self ..)), ih fun c hc => hu c (List.mem_cons_of_mem _ hc)]
    exact ite_self _

/-- a prefix that ends inside a wildcard, or with one: the scan runs through the name to the opening brace -/
theorem open_ (x u : Bytes) (hu : ∀ b ∈ u, b ≠ d) : f (x ++ LBR :: u).reverse = true := by
  rw [List.reverse_append, List.reverse_cons, List.append_assoc]
  exact hf.name _ _ (fun b hb => hu b (List.mem_reverse.1 hb))

/-- on a fragment whose wildcards are followed by the delimiter and have names without it, the scan finds an opening
    brace iff the fragment ends with a wildcard: over text it runs to the delimiter behind the last wildcard, or to
    the start -/
theorem render_eq (l : List Tok) (hok : toksOk l.reverse = true) (hw : wildAtEnd d l.reverse = true)
    (hn : ∀ t ∈ l, nameFree d t) : f (render l.reverse).reverse = headIsWild l := by
  induction l with
  | nil => exact hf.nil
  | cons t l ih =>
    rw [List.reverse_cons] at hok hw
    rw [List.reverse_cons, render_append, show render [t] = t.render from List.append_nil _]
    have hname : ∀ n : Bytes, (∀ b ∈ n, b ≠ d) → ∀ b ∈ n ++ [RBR], b ≠ d := fun n h b hb =>
      (List.mem_append.1 hb).elim (h b) fun h' => List.mem_singleton.1 h' ▸ hf.rbr
    cases t with
    | param n => exact hf.open_ _ (n ++ [RBR]) (hname n (hn _ (List.mem_cons_self ..)))
    | catchAll n =>
      show f (render l.reverse ++ STAR :: LBR :: (n ++ [RBR])).reverse = true
      rw [List.append_cons]
      exact hf.open_ _ _ (hname n (hn _ (List.mem_cons_self ..)))
    | lit c =>
      show f (render l.reverse ++ [c]).reverse = false
      rw [List.reverse_append, List.reverse_singleton, List.singleton_append, hf.cons]
      by_cases hc : c = d
      · rw [if_pos hc]
      · obtain ⟨hl, hs⟩ := tokOk_lit (toksOk_cons (toksOk_append hok).2).1
        rw [if_neg hc, if_neg (not_or.2 ⟨hl, fun h => hs (hf.sp_star h)⟩),
          ih (toksOk_append hok).1 (wildAtEnd_append hw).1 fun t ht => hn t (List.mem_cons_of_mem _ ht)]
        -- a wildcard in front of this literal would be followed by the delimiter
        cases l with
        | nil => rfl
        | cons w l' =>
          cases hwl : isWild w with
          | false => exact hwl
          | true =>
            rw [List.reverse_cons, List.append_assoc] at hw
            exact absurd (Tok.lit.inj (wildAtEnd_adj _ hw hwl)) hc

end RevScan

/-- on a prefix of a valid path the backward scan finds a wildcard iff the prefix ends with one -/
theorem conflictPath_render (l : List Tok) (hok : toksOk l.reverse = true) (hf : fragOkPath l.reverse = true) :
    conflictPath (render l.reverse) = headIsWild l :=
  scanPathRev_scan.render_eq l hok (fragOkPath_eq _ ▸ hf) fun t ht =>
    nameFree_of_tokOk (List.all_eq_true.1 hok t (List.mem_reverse.2 ht))

/-- at a token boundary behind which two well-shaped paths go on differently the scan finds nothing: a wildcard in
    front of the boundary would be followed by '/' in both -/
theorem conflictPath_boundary {cp kr tr : List Tok} {a b : Tok} (hok : toksOk cp = true)
    (fk : fragOkPath (cp ++ a :: kr) = true) (ft : fragOkPath (cp ++ b :: tr) = true) (hab : a ≠ b) :
    conflictPath (render cp) = false := by
  rcases List.eq_nil_or_concat cp with rfl | ⟨l, w, rfl⟩
  · rfl
  · rw [List.concat_eq_append] at hok fk ft ⊢
    have h := conflictPath_render (w :: l.reverse)
    rw [List.reverse_cons, List.reverse_reverse] at h
    rw [h hok (fragOkPath_append fk).1]
    cases hw : isWild w with
    | false => exact hw
    | true =>
      rw [fragOkPath_eq, List.append_assoc] at fk ft
      exact absurd ((wildAtEnd_adj _ fk hw).trans (wildAtEnd_adj _ ft hw).symm) hab

/-- the hostname rule inside a parameter: the scan finds its opening brace, and the prefix does not end with '}' -/
theorem conflictHost_open (x u : Bytes) (hd : ∀ b ∈ u, b ≠ DOT) (hr : ∀ b ∈ u, b ≠ RBR) :
    conflictHost (x ++ LBR :: u) = true := by
  unfold conflictHost
  rw [if_neg, scanHostRev_scan.open_ x u hd]
  intro hz
  rw [List.getLast?_append, List.getLast?_cons, Option.some_or, Option.some.injEq] at hz
  cases hl : u.getLast? with
  | none => rw [hl] at hz; exact absurd hz (by decide)
  | some z => rw [hl] at hz; exact hr z (List.mem_of_getLast? hl) hz

/-- on a well-shaped hostname fragment the backward scan finds a '{' iff the fragment ends with a parameter -/
theorem scanHost_render (l : List Tok) (hok : toksOk l.reverse = true) (hf : fragOkHost l.reverse = true) :
    scanHostRev (render l.reverse).reverse = headIsWild l :=
  scanHostRev_scan.render_eq l hok (fragOkHost_iff.1 hf).1 fun t ht =>
    nameFree_of_hostTok ((fragOkHost_iff.1 hf).2 t (List.mem_reverse.2 ht))

/-- at a token boundary of a hostname fragment there is no conflict: behind a parameter the prefix ends with '}', and
    otherwise the scan runs over literal text -/
theorem conflictHost_boundary {cp : List Tok} (hok : toksOk cp = true) (hf : fragOkHost cp = true) :
    conflictHost (render cp) = false := by
  rcases List.eq_nil_or_concat cp with rfl | ⟨l, w, rfl⟩
  · rfl
  · rw [List.concat_eq_append] at hok hf ⊢
    have hmem := (fragOkHost_iff.1 hf).2 w (List.mem_append_right _ (List.mem_singleton_self w))
    have h := scanHost_render (w :: l.reverse)
    rw [List.reverse_cons, List.reverse_reverse] at h
    unfold conflictHost
    rw [h hok hf, render_append, show render [w] = w.render from List.append_nil _]
    cases w with
    | catchAll m => exact hmem.elim
    | param m =>
      show (if (render l ++ ((LBR :: m) ++ [RBR])).getLast? = some RBR then false else _) = false
      rw [← List.append_assoc, List.getLast?_concat, if_pos rfl]
    | lit d =>
      show (if (render l ++ [d]).getLast? = some RBR then false else false) = false
      exact ite_self _

end Fox.Model.InsScan
