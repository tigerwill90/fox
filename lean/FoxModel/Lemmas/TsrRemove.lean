import FoxModel.Lemmas.Pick
/-
  Trailing-slash candidates, "remove the slash" direction: for a request path `q ++ "/"` that no route matches directly,
  the list of trailing-slash candidates recorded by the walk and the list of direct matches of `q` are empty together and
  have the same first element (`Sim`; nothing is said about the rest of the lists). Hence the candidate the
  Go code keeps (the first one) is the best direct match of the path without its slash.
-/
namespace Fox.Model
open Fox Fox.Spec

def tsrs : List Ev → Res
  | [] => []
  | .tsr r ps :: evs => (r, ps) :: tsrs evs
  | _ :: evs => tsrs evs

@[simp] theorem tsrs_nil : tsrs [] = [] := rfl
@[simp] theorem tsrs_tsr (r ps evs) : tsrs (.tsr r ps :: evs) = (r, ps) :: tsrs evs := rfl
@[simp] theorem tsrs_direct (r ps evs) : tsrs (.direct r ps :: evs) = tsrs evs := rfl
@[simp] theorem tsrs_bad (evs) : tsrs (.bad :: evs) = tsrs evs := rfl

theorem tsrs_append (a b : List Ev) : tsrs (a ++ b) = tsrs a ++ tsrs b := by
  induction a with
  | nil => simp
  | cons e a ih => cases e <;> simp [ih]

theorem firstTsr_eq (evs : List Ev) :
    firstTsr evs = (match tsrs evs with | (r, ps) :: _ => Result.found r ps true | [] => Result.none) := by
  induction evs with
  | nil => rfl
  | cons e evs ih => cases e <;> simp [firstTsr, ih]

/-- same emptiness and same first element (all that "keep the first candidate" can observe) -/
def Sim (T D : Res) : Prop := (T = [] ↔ D = []) ∧ T.head? = D.head?

theorem Sim.nil : Sim [] [] := ⟨Iff.rfl, rfl⟩
theorem Sim.refl (T : Res) : Sim T T := ⟨Iff.rfl, rfl⟩

theorem Sim.append {T1 D1 T2 D2 : Res} (h1 : Sim T1 D1) (h2 : Sim T2 D2) : Sim (T1 ++ T2) (D1 ++ D2) := by
  constructor
  · simp only [List.append_eq_nil_iff]; rw [h1.1, h2.1]
  · cases T1 with
    | nil =>
      have : D1 = [] := h1.1.mp rfl
      subst this; simpa using h2.2
    | cons x xs =>
      cases D1 with
      | nil => exact absurd (h1.1.mpr rfl) (by simp)
      | cons y ys => simpa using h1.2

theorem Sim.cons_left (x : Route × Binds) (T D : Res) : Sim (x :: T) (x :: D) := ⟨by simp, by simp⟩
theorem Sim.cons_single (x : Route × Binds) (T : Res) : Sim (x :: T) [x] := ⟨by simp, by simp⟩

/-- the form of the statements about candidates: if `evs` holds no direct match, its candidates are `Sim`-related to `D` -/
def SimTo (evs : List Ev) (D : Res) : Prop := directs evs = [] → Sim (tsrs evs) D

theorem SimTo.nil : SimTo [] [] := fun _ => Sim.nil

theorem SimTo.append {a b : List Ev} {D1 D2 : Res} (h1 : SimTo a D1) (h2 : SimTo b D2) : SimTo (a ++ b) (D1 ++ D2) := by
  intro hX
  rw [directs_append_nil] at hX
  rw [tsrs_append]
  exact Sim.append (h1 hX.1) (h2 hX.2)

theorem SimTo.append_directs {a b a' b' : List Ev} (h1 : SimTo a (directs a')) (h2 : SimTo b (directs b')) :
    SimTo (a ++ b) (directs (a' ++ b')) := by
  rw [directs_append]; exact h1.append h2

theorem SimTo.of_direct {evs : List Ev} {D : Res} (h : directs evs ≠ []) : SimTo evs D := fun hX => absurd hX h

/-! ### with exactly "/" left, a remove-the-slash candidate needs a leaf parent -/

theorem tsrs_tsrIf_es {pr : Option Route} {pre : List Tok} (hp : pr = none ∨ (pre == [Tok.lit SLASH]) = false) (ps) :
    tsrs (tsrIf pr (pre == [Tok.lit SLASH]) ps) = [] := by
  rcases hp with h | h
  · rw [h]; rfl
  · rw [h]; cases pr <;> rfl

/-- at the end of the path, inside or at the end of a key -/
theorem tsrs_walk_nil_es (n pre k ps) (pr : Option Route) (hp : pr = none ∨ (pre == [Tok.lit SLASH]) = false) :
    tsrs (walk n pre k pr true [] ps) = [] := by
  cases k with
  | nil =>
    rw [walk_nil_nil]
    cases n.route with
    | some r => rfl
    | none => exact tsrs_tsrIf_es hp ps
  | cons t k' => rw [walk_cons_nil, midKeyEnd_eq]; exact tsrs_tsrIf_es hp ps

/-- entering a node (non-empty key) with exactly "/" left -/
theorem tsrs_enter_slash (n : Node) (k : List Tok) (hk : k ≠ []) (ps : Binds) (pre : List Tok)
    (pr : Option Route) (hp : pr = none ∨ pre ≠ []) :
    tsrs (walk n pre k pr true [SLASH] ps) = [] := by
  cases k with
  | nil => exact absurd rfl hk
  | cons t k' =>
    cases t with
    | lit c =>
      by_cases hc : c = SLASH
      · subst hc
        rw [walk_lit_eq]
        apply tsrs_walk_nil_es
        refine hp.imp id fun h => ?_
        cases pre with
        | nil => exact absurd rfl h
        | cons x xs => simp
      · rw [walk_lit_ne _ _ _ _ _ _ _ _ _ hc]; rfl
    | param nm => rw [walk_param_zero _ _ _ _ _ _ _ _ _ (by simp [segEnd])]; rfl
    | catchAll nm =>
      cases k' with
      | cons t k'' => rw [walk_catch_infix_slash]; rfl
      | nil =>
        cases hcs : n.children <;> cases hr : n.route
        · rw [walk_catch_leaf_none hcs hr]; rfl
        · rw [walk_catch_leaf_some hcs hr]; rfl
        · rw [walk_catch_child_none hcs hr, if_pos rfl]; rfl
        · rw [walk_catch_child_some hcs hr, if_pos rfl]; rfl

theorem tsrs_kids_slash {cs : List Node} (hw : wfKids cs = true) (sel : Sel) (ps : Binds) :
    tsrs (walkKids sel cs none true [SLASH] ps) = [] := by
  induction cs with
  | nil => rw [walkKids_nil]; rfl
  | cons c cs ih =>
    have hw' := wfKids_cons.mp hw
    rw [walkKids_cons, tsrs_append, ih hw'.2]
    split
    · obtain ⟨t, k', hk, _⟩ := wfNode_head hw'.1
      rw [tsrs_enter_slash c c.key (by rw [hk]; simp) ps [] none (Or.inl rfl)]; rfl
    · rfl

theorem tsrs_walk_nil_cons (n pre pr es b rest ps) :
    tsrs (walk n pre [] pr es (b :: rest) ps) =
      (match n.route with
       | some r => if rest == [] && b == SLASH then [(r, ps)] else []
       | none => [])
      ++ tsrs (if b == STAR then [] else walkKids (.static b) n.children n.route es (b :: rest) ps)
      ++ tsrs (walkKids .param n.children n.route es (b :: rest) ps)
      ++ tsrs (walkKids .catchAll n.children n.route es (b :: rest) ps) := by
  rw [walk_nil_cons, tsrs_append, tsrs_append, tsrs_append]
  cases n.route with
  | none => rfl
  | some r => simp only []; split <;> rfl

theorem tsrs_walk_nil_cons_of (n pre pr es ps) {b : UInt8} {rest : Bytes} (h : (rest == [] && b == SLASH) = false) :
    tsrs (walk n pre [] pr es (b :: rest) ps) =
      tsrs (if b == STAR then [] else walkKids (.static b) n.children n.route es (b :: rest) ps)
      ++ tsrs (walkKids .param n.children n.route es (b :: rest) ps)
      ++ tsrs (walkKids .catchAll n.children n.route es (b :: rest) ps) := by
  rw [tsrs_walk_nil_cons, h]
  cases n.route <;> rfl

theorem tsrs_nonleaf_slash {n : Node} (hr : n.route = none) (hw : wfKids n.children = true) (pre pr ps) :
    tsrs (walk n pre [] pr true [SLASH] ps) = [] := by
  rw [tsrs_walk_nil_cons, hr, if_neg (by decide), tsrs_kids_slash hw, tsrs_kids_slash hw, tsrs_kids_slash hw]
  rfl

/-! the first segment of a path is not affected by a slash appended to the path -/

theorem segEnd_append_slash (q : Bytes) : segEnd SLASH (q ++ [SLASH]) = segEnd SLASH q := by
  induction q with
  | nil => simp [segEnd]
  | cons x xs ih =>
    simp only [List.cons_append, segEnd]
    split <;> simp [ih]

theorem segEnd_cons_append_slash (b : UInt8) (rest : Bytes) :
    segEnd SLASH (b :: (rest ++ [SLASH])) = segEnd SLASH (b :: rest) :=
  segEnd_append_slash (b :: rest)

theorem drop_append_slash (b : UInt8) (rest : Bytes) :
    (b :: (rest ++ [SLASH])).drop (segEnd SLASH (b :: rest)) = (b :: rest).drop (segEnd SLASH (b :: rest)) ++ [SLASH] :=
  List.drop_append_of_le_length (segEnd_le SLASH (b :: rest))

theorem take_append_slash (b : UInt8) (rest : Bytes) :
    (b :: (rest ++ [SLASH])).take (segEnd SLASH (b :: rest)) = (b :: rest).take (segEnd SLASH (b :: rest)) :=
  List.take_append_of_le_length (segEnd_le SLASH (b :: rest))

/-- Motives: `N1` for `walk`, `N2` for `walkInfix`, `N3` for `walkKids`; `q` is the path without its final slash: the
    candidates on `q ++ "/"` against the direct matches on `q`. When `q` is empty the walk stands in front of exactly "/";
    consuming it must not make the parent a candidate (the parent did not match the empty `q`), hence the hypothesis that
    then part of the key is consumed already or there is no leaf parent; `N2` and `N3` are entered with `q ≠ []` or a
    non-empty key and re-establish it. -/
def N1 (n : Node) (pre k : List Tok) (pr : Option Route) (q : Bytes) (ps : Binds) : Prop :=
  wfKids n.children = true →
  (q = [] → pre ≠ [] ∨ pr = none) →
  directs (walk n pre k pr true (q ++ [SLASH]) ps) = [] →
  Sim (tsrs (walk n pre k pr true (q ++ [SLASH]) ps)) (directs (walk n pre k pr false q ps))

def N2 (inode : Node) (nm acc rest : Bytes) (ps : Binds) : Prop :=
  wfKids inode.children = true → inode.key ≠ [] →
  directs (walkInfix inode nm acc (rest ++ [SLASH]) true ps) = [] →
  Sim (tsrs (walkInfix inode nm acc (rest ++ [SLASH]) true ps)) (directs (walkInfix inode nm acc rest false ps))

def N3 (sel : Sel) (cs : List Node) (pr : Option Route) (q : Bytes) (ps : Binds) : Prop :=
  wfKids cs = true → q ≠ [] →
  directs (walkKids sel cs pr true (q ++ [SLASH]) ps) = [] →
  Sim (tsrs (walkKids sel cs pr true (q ++ [SLASH]) ps)) (directs (walkKids sel cs pr false q ps))

theorem tsr_remove_all :
    (∀ n pre k pr q ps, N1 n pre k pr q ps) ∧
    (∀ inode nm acc rest ps, N2 inode nm acc rest ps) ∧
    (∀ sel cs pr q ps, N3 sel cs pr q ps) := by
  apply walk_induct (P1 := N1) (P2 := N2) (P3 := N3)
  case nil_nil =>
    -- the path without its slash ends exactly at the end of this node's key
    intro n pre pr ps hw _ _
    rw [directs_walk_nil_nil, List.nil_append]
    cases hr : n.route with
    | some p => rw [tsrs_walk_nil_cons, hr]; exact Sim.cons_single _ _
    | none => rw [tsrs_nonleaf_slash hr hw]; exact Sim.nil
  case nil_cons =>
    intro n pre pr ps b rest ih1 ih2 ih3 hw _ hX
    rw [List.cons_append] at hX ⊢
    rw [directs_walk_nil_cons] at hX ⊢
    simp only [List.append_eq_nil_iff] at hX
    rw [tsrs_walk_nil_cons_of _ _ _ _ _ (by cases rest <;> rfl)]
    refine Sim.append (Sim.append ?_ (ih2 hw (List.cons_ne_nil _ _) hX.1.2)) (ih3 hw (List.cons_ne_nil _ _) hX.2)
    by_cases hb : (b == STAR) = true
    · rw [if_pos hb, if_pos hb]; exact Sim.nil
    · rw [if_neg hb] at hX ⊢
      rw [if_neg hb]
      exact ih1 hw (List.cons_ne_nil _ _) hX.1.1
  case cons_nil =>
    intro n pre t k pr ps _ hq _
    rw [walk_cons_nil, directs_midKeyEnd, List.nil_append, tsrs_enter_slash n _ (by simp) ps pre pr ((hq rfl).symm)]
    exact Sim.nil
  case lit_eq =>
    intro n pre pr ps k' b rest ih hw _
    rw [List.cons_append, walk_lit_eq, walk_lit_eq]
    exact ih hw fun _ => Or.inl (by simp)
  case lit_ne =>
    intro n pre pr ps c k' b rest hcb _ _
    rw [List.cons_append, walk_lit_ne (h := hcb), walk_lit_ne (h := hcb)]
    exact SimTo.nil
  case param_zero =>
    intro n pre pr ps nm k' b rest he _ _
    rw [List.cons_append, walk_param_zero (h := (segEnd_cons_append_slash b rest).trans he), walk_param_zero (h := he)]
    exact SimTo.nil
  case param_step =>
    intro n pre pr ps nm k' b rest he ih hw _
    rw [List.cons_append, walk_param_step (h := by rwa [segEnd_cons_append_slash]), segEnd_cons_append_slash, drop_append_slash,
      take_append_slash, walk_param_step (h := he)]
    exact ih hw fun _ => Or.inl (by simp)
  case catch_leaf =>
    intro n pre pr ps nm b rest hcs _ _
    rw [List.cons_append]
    cases hr : n.route with
    | some r => rw [walk_catch_leaf_some hcs hr]; exact SimTo.of_direct (by simp)
    | none => rw [walk_catch_leaf_none hcs hr, walk_catch_leaf_none hcs hr]; exact fun _ => Sim.nil
  case catch_child =>
    intro n pre pr ps nm b rest c tail hcs ih hw _
    rw [List.cons_append]
    rw [hcs] at hw
    have hwc := (wfKids_cons.mp hw).1
    obtain ⟨t, k', hck, _⟩ := wfNode_head hwc
    cases hr : n.route with
    | some r =>
      rw [walk_catch_child_some hcs hr]
      exact SimTo.of_direct (by rw [directs_append]; simp)
    | none =>
      rw [walk_catch_child_none hcs hr, walk_catch_child_none hcs hr]
      refine SimTo.append_directs ?_ fun _ => Sim.nil
      by_cases hb : b = SLASH
      · rw [if_pos hb, if_pos hb]; exact SimTo.nil
      · rw [if_neg hb, if_neg hb]
        exact ih (wfNode_parts hwc).1 (by rw [hck]; simp)
  case catch_infix =>
    intro n pre pr ps nm b rest t k'' ih hw _
    rw [List.cons_append]
    by_cases hb : b = SLASH
    · subst hb
      rw [walk_catch_infix_slash, walk_catch_infix_slash]; exact SimTo.nil
    · rw [walk_catch_infix (hb := hb), if_pos rfl, List.append_nil, walk_catch_infix (hb := hb), if_neg (by decide),
        directs_append, directs_tsrIf, List.append_nil]
      exact ih hw (List.cons_ne_nil _ _)
  case infix_nil =>
    intro inode nm acc ps _ hk _
    rw [List.nil_append, walkInfix_nil]
    by_cases hacc : acc.getLast? = some SLASH
    · rw [walkInfix_slash_stop (h := hacc)]; exact Sim.nil
    · rw [walkInfix_slash_go (h := hacc), walkInfix_nil, List.append_nil,
        tsrs_enter_slash inode _ hk _ [] none (Or.inl rfl)]
      exact Sim.nil
  case infix_stop =>
    intro inode nm acc ps rest hacc _ _
    rw [List.cons_append, walkInfix_slash_stop (h := hacc), walkInfix_slash_stop (h := hacc)]
    exact SimTo.nil
  case infix_go =>
    intro inode nm acc ps rest hacc ih1 ih2 hw hk
    rw [List.cons_append, walkInfix_slash_go (h := hacc), walkInfix_slash_go (h := hacc)]
    exact SimTo.append_directs (ih1 hw (by simp)) (ih2 hw hk)
  case infix_other =>
    intro inode nm acc ps b rest hb ih hw hk
    rw [List.cons_append, walkInfix_other (hb := hb), walkInfix_other (hb := hb)]
    exact ih hw hk
  case kids_nil =>
    intro sel pr path ps _ _
    rw [walkKids_nil, walkKids_nil]; exact SimTo.nil
  case kids_cons =>
    intro sel pr path ps c cs ih1 ih3 hw hq
    have hw' := wfKids_cons.mp hw
    rw [walkKids_cons, walkKids_cons]
    refine SimTo.append_directs ?_ (ih3 hw'.2 hq)
    by_cases hm : sel.matches c.key = true
    · rw [if_pos hm, if_pos hm]
      exact ih1 (wfNode_parts hw'.1).1 fun h => absurd h hq
    · rw [if_neg hm, if_neg hm]; exact SimTo.nil

/-- the result of keeping the first candidate of a list -/
def resOfTsrs : Res → Result
  | (r, ps) :: _ => .found r ps true
  | [] => .none

/-- keeping the first candidate sees a `Sim`-related list through its head only -/
theorem firstTsr_of_sim {evs : List Ev} {D : Res} (h : Sim (tsrs evs) D) : firstTsr evs = resOfTsrs D := by
  rw [firstTsr_eq]
  change resOfTsrs (tsrs evs) = _
  generalize tsrs evs = T at h
  have hh := h.2
  cases T with
  | nil =>
    cases D with
    | nil => rfl
    | cons y ys => cases hh
  | cons x xs =>
    cases D with
    | nil => cases hh
    | cons y ys =>
      cases hh
      rfl

theorem endsWithSlash_append_slash (q : Bytes) : endsWithSlash (q ++ [SLASH]) = true := by simp [endsWithSlash]

/-- remove direction on a whole subtree, any parameter prefix -/
theorem path_sim_remove {c : Node} (h : wfNode c = true) (q : Bytes) (ps : Binds)
    (hX : specAll (sufsNode c) (q ++ [SLASH]) ps = []) :
    Sim (tsrs (pathEvents c (q ++ [SLASH]) ps)) (specAll (sufsNode c) q ps) := by
  have hsim := tsr_remove_all.1 c [] c.key none q ps (wfNode_parts h).1 (fun _ => Or.inr rfl)
    ((walk_direct h ..).trans hX)
  rw [walk_direct h] at hsim
  unfold pathEvents
  rw [endsWithSlash_append_slash]
  exact hsim

/-- **remove-slash candidates = direct matches of the path without its slash** (path stage). If no registered route
    below `c` matches `q ++ "/"` directly, the candidate kept by `lookupByPath` is the best direct match of `q`, with the
    parameters of that match; and there is none exactly when `q` has no direct match. -/
theorem pathLookup_tsr_remove {c : Node} (h : wfNode c = true) (q : Bytes)
    (hX : specAll (sufsNode c) (q ++ [SLASH]) [] = []) :
    firstTsr (pathEvents c (q ++ [SLASH]) []) =
      (match specAll (sufsNode c) q [] with
       | (r, ps) :: _ => Result.found r ps true
       | [] => Result.none) :=
  firstTsr_of_sim (path_sim_remove h q [] hX)

end Fox.Model
