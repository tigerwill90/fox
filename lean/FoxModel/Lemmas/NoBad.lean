import FoxModel.Lemmas.Refine
/-
  On a well-formed tree the walk never produces a `.bad` event, i.e. the Go matcher never returns a node without a
  route (which the callers would dereference). First the recursive walk (`walk_no_bad_all`), then the entry of
  `lookupByPath`; the hostname walk above it is an instance of `hostWalk_rel` (`hostWalk_no_bad` in Pick).
-/
namespace Fox.Model
open Fox

theorem wfNode_leafcond {c : Node} (h : wfNode c = true) :
    wfKids c.children = true ∧ (endsWithCatchAll c.key = true → c.route.isSome = true) := by
  exact ⟨(wfNode_parts h).1, fun e => ((wfNode_parts h).2.2 e).1⟩

/-! Motives: `B1` for `walk`, `B2` for `walkInfix`, `B3` for `walkKids`. The walk produces `.bad` only at a key ending in
  a catch-all on a node without route, which the invariant excludes. -/

def B1 (es : Bool) (n : Node) (pre k : List Tok) (pr : Option Route) (path : Bytes) (ps : Binds) : Prop :=
  wfKids n.children = true → (endsWithCatchAll k = true → n.route.isSome = true) →
  Ev.bad ∉ walk n pre k pr es path ps

def B2 (es : Bool) (inode : Node) (nm acc rest : Bytes) (ps : Binds) : Prop :=
  wfKids inode.children = true → (endsWithCatchAll inode.key = true → inode.route.isSome = true) →
  Ev.bad ∉ walkInfix inode nm acc rest es ps

def B3 (es : Bool) (sel : Sel) (cs : List Node) (pr : Option Route) (path : Bytes) (ps : Binds) : Prop :=
  wfKids cs = true → Ev.bad ∉ walkKids sel cs pr es path ps

theorem bad_not_mem_tsrIf (o c ps) : Ev.bad ∉ tsrIf o c ps := by
  cases o with
  | none => exact List.not_mem_nil
  | some r => cases c <;> simp [tsrIf]

theorem bad_not_mem_midKeyEnd (n pre k pr es ps) : Ev.bad ∉ midKeyEnd n pre k pr es ps := by
  rw [midKeyEnd_eq]
  split <;> exact bad_not_mem_tsrIf _ _ _

theorem walk_no_bad_all (es : Bool) :
    (∀ n pre k pr path ps, B1 es n pre k pr path ps) ∧
    (∀ inode nm acc rest ps, B2 es inode nm acc rest ps) ∧
    (∀ sel cs pr path ps, B3 es sel cs pr path ps) := by
  apply walk_induct (P1 := B1 es) (P2 := B2 es) (P3 := B3 es)
  case nil_nil =>
    intro n pre pr ps _ _
    rw [walk_nil_nil]
    cases n.route with
    | some r => simp
    | none =>
      simp only
      split
      · exact bad_not_mem_tsrIf _ _ _
      · split
        · exact bad_not_mem_tsrIf _ _ _
        · exact List.not_mem_nil
  case nil_cons =>
    intro n pre pr ps b rest ih1 ih2 ih3 hw _
    rw [walk_nil_cons]
    simp only [List.mem_append, not_or]
    refine ⟨⟨⟨?_, ?_⟩, ih2 hw⟩, ih3 hw⟩
    · exact bad_not_mem_tsrIf n.route _ ps
    · split
      · simp
      · exact ih1 hw
  case cons_nil =>
    intro n pre t k pr ps _ _
    rw [walk_cons_nil]; exact bad_not_mem_midKeyEnd _ _ _ _ _ _
  case lit_eq =>
    intro n pre pr ps k' b rest ih hw hc
    rw [walk_lit_eq]
    exact ih hw (of_catchAll_tail hc)
  case lit_ne =>
    intro n pre pr ps c k' b rest hcb _ _
    rw [walk_lit_ne (h := hcb)]; simp
  case param_zero =>
    intro n pre pr ps nm k' b rest he _ _
    rw [walk_param_zero (h := he)]; simp
  case param_step =>
    intro n pre pr ps nm k' b rest he ih hw hc
    rw [walk_param_step (h := he)]
    exact ih hw (of_catchAll_tail hc)
  case catch_leaf =>
    -- a key ending in a catch-all belongs to a leaf
    intro n pre pr ps nm b rest hcs _ hc
    obtain ⟨r, hr⟩ := Option.isSome_iff_exists.mp (hc rfl)
    rw [walk_catch_leaf_some hcs hr]; simp
  case catch_child =>
    intro n pre pr ps nm b rest c tail hcs ih hw hc
    obtain ⟨r, hr⟩ := Option.isSome_iff_exists.mp (hc rfl)
    rw [hcs] at hw
    have hcw := wfNode_leafcond (wfKids_cons.mp hw).1
    rw [walk_catch_child_some hcs hr]
    simp only [List.mem_append, not_or]
    constructor
    · split
      · simp
      · exact ih hcw.1 hcw.2
    · simp
  case catch_infix =>
    intro n pre pr ps nm b rest t k'' ih hw hc
    by_cases hb : b = SLASH
    · subst hb; rw [walk_catch_infix_slash]; simp
    · rw [walk_catch_infix (hb := hb)]
      simp only [List.mem_append, not_or]
      constructor
      · exact ih hw (of_catchAll_tail hc)
      · split
        · exact List.not_mem_nil
        · exact bad_not_mem_tsrIf _ _ _
  case infix_nil =>
    intro inode nm acc ps _ _
    rw [walkInfix_nil]; simp
  case infix_stop =>
    intro inode nm acc ps rest hacc _ _
    rw [walkInfix_slash_stop (h := hacc)]; simp
  case infix_go =>
    intro inode nm acc ps rest hacc ih1 ih2 hw hc
    rw [walkInfix_slash_go (h := hacc)]
    simp only [List.mem_append, not_or]
    exact ⟨ih1 hw hc, ih2 hw hc⟩
  case infix_other =>
    intro inode nm acc ps b rest hb ih hw hc
    rw [walkInfix_other (hb := hb)]
    exact ih hw hc
  case kids_nil =>
    intro sel pr path ps _
    rw [walkKids_nil]; simp
  case kids_cons =>
    intro sel pr path ps c cs ih1 ih3 hw
    have hw' := wfKids_cons.mp hw
    have hcw := wfNode_leafcond hw'.1
    rw [walkKids_cons]
    simp only [List.mem_append, not_or]
    constructor
    · split
      · exact ih1 hcw.1 hcw.2
      · simp
    · exact ih3 hw'.2

theorem pathEvents_no_bad {c : Node} (h : wfNode c = true) (path : Bytes) (ps : Binds) :
    Ev.bad ∉ pathEvents c path ps := by
  unfold pathEvents
  have hp := wfNode_leafcond h
  exact (walk_no_bad_all (endsWithSlash path)).1 c [] c.key none path ps hp.1 hp.2

end Fox.Model
