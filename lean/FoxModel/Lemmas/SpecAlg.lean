import FoxModel.Lemmas.Instances
import FoxModel.Spec.Route
/-
  Spec-side algebra of `specAll`: the search on the empty set and on sets whose members all begin with the same token
  ("uniform head"), and the set operations on unions (the search itself does not distribute over unions: it goes
  name by name). Used by the refinement of the radix-tree walk (Lemmas/Refine.lean).
-/
namespace Fox.Spec
open Fox

theorem segEnd_take_no_delim (d : UInt8) (p : Bytes) : d ∉ p.take (segEnd d p) := by
  induction p with
  | nil => simp [segEnd]
  | cons x xs ih =>
    simp only [segEnd]
    split
    · simp
    · rename_i hx
      rw [Nat.add_comm, List.take_succ_cons]
      simp [ih]
      exact fun h => hx h.symm

theorem append_congr {α} {a a' b b' : List α} (h1 : a = a') (h2 : b = b') : a ++ b = a' ++ b' := h1 ▸ h2 ▸ rfl

theorem mem_sufsOf {R : List Route} {s : List Tok} {r : Route} : (s, r) ∈ sufsOf R ↔ r ∈ R ∧ s = r.pattern := by
  simp only [sufsOf, List.mem_map]
  constructor
  · rintro ⟨r', hm, he⟩; simp at he; obtain ⟨rfl, rfl⟩ := he; exact ⟨hm, rfl⟩
  · rintro ⟨hm, rfl⟩; exact ⟨r, hm, rfl⟩

@[simp] theorem advLit_nil (b) : advLit b [] = [] := rfl
@[simp] theorem advParam_nil : advParam [] = [] := rfl
@[simp] theorem advInfix_nil : advInfix [] = [] := rfl
@[simp] theorem paramNames_nil : paramNames [] = [] := by simp [paramNames, names]
@[simp] theorem infixNames_nil : infixNames [] = [] := by simp [infixNames, names]
@[simp] theorem endsHere_nil (ps) : endsHere [] ps = [] := rfl
@[simp] theorem suffixCatch_nil (p ps) : suffixCatch [] p ps = [] := rfl

theorem advLit_append (b) (S T : SufSet) : advLit b (S ++ T) = advLit b S ++ advLit b T := by
  simp [advLit, List.filterMap_append]
theorem advParam_append (S T : SufSet) : advParam (S ++ T) = advParam S ++ advParam T := by
  simp [advParam, List.filterMap_append]
theorem advInfix_append (S T : SufSet) : advInfix (S ++ T) = advInfix S ++ advInfix T := by
  simp [advInfix, List.filterMap_append]
theorem suffixCatch_append (S T : SufSet) (p ps) : suffixCatch (S ++ T) p ps = suffixCatch S p ps ++ suffixCatch T p ps := by
  simp [suffixCatch, List.filterMap_append]
theorem endsHere_append (S T : SufSet) (ps) : endsHere (S ++ T) ps = endsHere S ps ++ endsHere T ps := by
  simp [endsHere, List.filterMap_append]

theorem specAll_nil (path : Bytes) (ps : Binds) : specAll [] path ps = [] := by
  match path with
  | [] => simp [specAll]
  | b :: rest =>
    unfold specAll
    simp [specAll_nil rest]

/-- the places at which `specInfix` resumes the search: the capture so far, and the rest of the path, which begins at a '/' -/
def cuts : Bytes → Bytes → List (Bytes × Bytes)
  | _, [] => []
  | acc, c :: rest =>
    if c = SLASH then
      if acc.getLast? = some SLASH then [] else (acc, c :: rest) :: cuts (acc ++ [c]) rest
    else cuts (acc ++ [c]) rest

theorem cuts_stop {acc rest : Bytes} (h : acc.getLast? = some SLASH) : cuts acc (SLASH :: rest) = [] := by
  rw [cuts, if_pos rfl, if_pos h]

theorem cuts_go {acc rest : Bytes} (h : ¬ acc.getLast? = some SLASH) :
    cuts acc (SLASH :: rest) = (acc, SLASH :: rest) :: cuts (acc ++ [SLASH]) rest := by
  rw [cuts, if_pos rfl, if_neg h]

theorem cuts_other {acc rest : Bytes} {c : UInt8} (h : ¬ c = SLASH) : cuts acc (c :: rest) = cuts (acc ++ [c]) rest := by
  rw [cuts, if_neg h]

theorem specInfix_eq (S : SufSet) (n : Bytes) (ps : Binds) (acc rest : Bytes) :
    specInfix S n acc rest ps = (cuts acc rest).flatMap fun c => specAll S c.2 (ps ++ [(n, c.1)]) := by
  induction acc, rest using cuts.induct with
  | case1 acc => rw [specInfix]; rfl
  | case2 acc rest h => rw [specInfix, if_pos rfl, if_pos h, cuts_stop h]; rfl
  | case3 acc rest h ih => rw [specInfix, if_pos rfl, if_neg h, cuts_go h, ih]; rfl
  | case4 acc c rest h ih => rw [specInfix, if_neg h, cuts_other h, ih]

theorem specInfix_nil (n acc rest ps) : specInfix [] n acc rest ps = [] := by
  rw [specInfix_eq]; exact List.flatMap_eq_nil_iff.2 fun _ _ => specAll_nil ..

/-- the `{param}` alternative of `specAll` at a non-empty path `p` (second summand of `specAll_cons`) -/
def paramPart (S : SufSet) (p : Bytes) (ps : Binds) : Res :=
  if segEnd SLASH p = 0 then [] else
    (paramNames S).flatMap fun n =>
      specAll (advParamNamed n S) (p.drop (segEnd SLASH p)) (ps ++ [(n, p.take (segEnd SLASH p))])

/-- the infix catch-all alternative at the path `b :: rest` (third summand of `specAll_cons`) -/
def infixPart (S : SufSet) (b : UInt8) (rest : Bytes) (ps : Binds) : Res :=
  if b = SLASH then [] else (infixNames S).flatMap fun n => specInfix (advInfixNamed n S) n [b] rest ps

theorem specAll_nil_path (S : SufSet) (ps : Binds) : specAll S [] ps = endsHere S ps := by
  unfold specAll; rfl

theorem specAll_cons (S : SufSet) (b : UInt8) (rest : Bytes) (ps : Binds) :
    specAll S (b :: rest) ps =
      specAll (advLit b S) rest ps ++ paramPart S (b :: rest) ps ++ infixPart S b rest ps
        ++ suffixCatch S (b :: rest) ps := by
  conv => lhs; unfold specAll
  simp [paramPart, infixPart]

theorem paramPart_congr {S S' : SufSet} (h : advParam S = advParam S') (p ps) : paramPart S p ps = paramPart S' p ps := by
  unfold paramPart paramNames advParamNamed
  rw [h]

theorem infixPart_congr {S S' : SufSet} (h : advInfix S = advInfix S') (b rest ps) :
    infixPart S b rest ps = infixPart S' b rest ps := by
  unfold infixPart infixNames advInfixNamed
  rw [h]

/-- A member whose suffix is used up is invisible to every alternative at a non-empty path. -/
theorem specAll_cons_nil (r : Route) (S : SufSet) (b rest ps) :
    specAll (([], r) :: S) (b :: rest) ps = specAll S (b :: rest) ps := by
  rw [specAll_cons, specAll_cons S, show advLit b (([], r) :: S) = advLit b S from rfl,
    paramPart_congr (show advParam (([], r) :: S) = advParam S from rfl),
    infixPart_congr (show advInfix (([], r) :: S) = advInfix S from rfl)]
  rfl

/-- every member of `S` begins with token `t` -/
def AllHead (t : Tok) (S : SufSet) : Prop := ∀ sr ∈ S, ∃ s', sr.1 = t :: s'

/-- every member with its first token removed -/
def tails (S : SufSet) : SufSet := S.map fun sr => (sr.1.tail, sr.2)

/-- a `filterMap` that drops every suffix beginning with `t` is empty on a set with uniform head `t` -/
theorem filterMap_allHead {β} {f : List Tok × Route → Option β} {t : Tok} {S : SufSet} (h : AllHead t S)
    (hf : ∀ s' r, f (t :: s', r) = none) : S.filterMap f = [] :=
  List.filterMap_eq_nil_iff.2 fun sr hsr => by
    obtain ⟨s', hs⟩ := h sr hsr
    rw [← hf s' sr.2, ← hs]

theorem filterMap_congr {α β} {f g : α → Option β} {l : List α} (h : ∀ x ∈ l, f x = g x) :
    l.filterMap f = l.filterMap g := by
  induction l with
  | nil => rfl
  | cons x xs ih =>
    rw [List.filterMap_cons, List.filterMap_cons, h x (List.mem_cons_self ..),
      ih fun y hy => h y (List.mem_cons_of_mem _ hy)]

theorem filterMap_eq_map_of {α β} {f : α → Option β} {g : α → β} {l : List α} (h : ∀ x ∈ l, f x = some (g x)) :
    l.filterMap f = l.map g :=
  (filterMap_congr h).trans (congrFun List.filterMap_eq_map' l)

theorem advLit_allHead_lit {c b : UInt8} {S : SufSet} (h : AllHead (.lit c) S) :
    advLit b S = if c = b then tails S else [] := by
  split
  · rename_i hcb
    refine filterMap_eq_map_of fun sr hsr => ?_
    obtain ⟨s', hs⟩ := h sr hsr
    simp only [hs, hcb, if_true, List.tail_cons]
  · rename_i hcb
    exact filterMap_allHead h fun s' r => if_neg hcb

theorem advLit_allHead_other {t : Tok} {b : UInt8} {S : SufSet} (h : AllHead t S) (ht : ∀ c, t ≠ .lit c) :
    advLit b S = [] :=
  filterMap_allHead h fun s' r => by
    cases t with
    | lit c => exact absurd rfl (ht c)
    | param n | catchAll n => rfl

theorem advParam_allHead_param {n : Bytes} {S : SufSet} (h : AllHead (.param n) S) :
    advParam S = S.map fun sr => (n, (sr.1.tail, sr.2)) :=
  filterMap_eq_map_of fun sr hsr => by
    obtain ⟨s', hs⟩ := h sr hsr
    simp only [hs, List.tail_cons]

theorem advParam_allHead_other {t : Tok} {S : SufSet} (h : AllHead t S) (ht : ∀ n, t ≠ .param n) :
    advParam S = [] :=
  filterMap_allHead h fun s' r => by
    cases t with
    | param n => exact absurd rfl (ht n)
    | lit c | catchAll n => rfl

theorem advInfix_allHead_other {t : Tok} {S : SufSet} (h : AllHead t S) (ht : ∀ n, t ≠ .catchAll n) :
    advInfix S = [] :=
  filterMap_allHead h fun s' r => by
    cases t with
    | catchAll n => exact absurd rfl (ht n)
    | lit c | param n => rfl

theorem endsHere_allHead {t : Tok} {S : SufSet} (h : AllHead t S) (ps) : endsHere S ps = [] :=
  filterMap_allHead h fun s' _ => if_neg (List.cons_ne_nil t s')

theorem suffixCatch_allHead_other {t : Tok} {S : SufSet} (h : AllHead t S) (ht : ∀ n, t ≠ .catchAll n) (p ps) :
    suffixCatch S p ps = [] :=
  filterMap_allHead h fun s' r => by
    cases t with
    | catchAll n => exact absurd rfl (ht n)
    | lit c | param n => rfl

theorem names_const {n : Bytes} {l : List Bytes} (h : ∀ y ∈ l, y = n) : names l = if l = [] then [] else [n] := by
  induction l with
  | nil => simp [names]
  | cons x xs ih =>
    have hx : x = n := h x (by simp)
    have ih' := ih (fun y hy => h y (by simp [hy]))
    subst hx
    simp only [names, ih']
    split <;> simp

/-- the name-by-name enumeration over entries that all carry the name `n` is the single block for `n` -/
theorem flatMap_names_const {l : List (Bytes × (List Tok × Route))} {n : Bytes} (h : ∀ x ∈ l, x.1 = n)
    (F : Bytes → SufSet → Res) (hF : F n [] = []) :
    (names (l.map (·.1))).flatMap (fun m => F m (l.filterMap fun x => if x.1 = m then some x.2 else none)) =
      F n (l.map (·.2)) := by
  rw [names_const (n := n) fun y hy => by obtain ⟨x, hx, rfl⟩ := List.mem_map.1 hy; exact h x hx]
  cases l with
  | nil => exact hF.symm
  | cons x xs =>
    rw [List.map_cons, if_neg (List.cons_ne_nil _ _), List.flatMap_cons, List.flatMap_nil, List.append_nil,
      filterMap_eq_map_of (g := (·.2)) fun y hy => if_pos (h y hy)]

theorem paramPart_nil (p ps) : paramPart [] p ps = [] := by simp [paramPart]
theorem infixPart_nil (b rest ps) : infixPart [] b rest ps = [] := by simp [infixPart]

theorem paramPart_of_advParam_nil {S : SufSet} (h : advParam S = []) (p ps) : paramPart S p ps = [] := by
  rw [paramPart_congr (S' := []) (by simpa using h)]; exact paramPart_nil p ps

theorem infixPart_of_advInfix_nil {S : SufSet} (h : advInfix S = []) (b rest ps) : infixPart S b rest ps = [] := by
  rw [infixPart_congr (S' := []) (by simpa using h)]; exact infixPart_nil b rest ps

/-- on a set whose members all begin with the literal `c` only the static alternative is left -/
theorem specAll_lit {c : UInt8} {S : SufSet} (h : AllHead (.lit c) S) (b rest ps) :
    specAll S (b :: rest) ps = if c = b then specAll (tails S) rest ps else [] := by
  rw [specAll_cons, advLit_allHead_lit h,
      paramPart_of_advParam_nil (advParam_allHead_other h (by intro n; simp)),
      infixPart_of_advInfix_nil (advInfix_allHead_other h (by intro n; simp)),
      suffixCatch_allHead_other h (by intro n; simp)]
  by_cases hcb : c = b <;> simp [hcb, specAll_nil]

theorem specAll_head_nil {t : Tok} {S : SufSet} (h : AllHead t S) (ps) : specAll S [] ps = [] := by
  rw [specAll_nil_path]; exact endsHere_allHead h ps

/-- on a set whose members all begin with the parameter `{n}` only the `{param}` alternative is left, for the one
    name `n` -/
theorem specAll_param {n : Bytes} {S : SufSet} (h : AllHead (.param n) S) (b rest ps) :
    specAll S (b :: rest) ps = if segEnd SLASH (b :: rest) = 0 then [] else
      specAll (tails S) ((b :: rest).drop (segEnd SLASH (b :: rest)))
        (ps ++ [(n, (b :: rest).take (segEnd SLASH (b :: rest)))]) := by
  rw [specAll_cons, advLit_allHead_other h (by intro c; simp),
      infixPart_of_advInfix_nil (advInfix_allHead_other h (by intro m; simp)),
      suffixCatch_allHead_other h (by intro m; simp)]
  unfold paramPart paramNames advParamNamed
  rw [advParam_allHead_param h,
    flatMap_names_const (n := n) (fun x hx => by obtain ⟨_, _, rfl⟩ := List.mem_map.1 hx; rfl)
      (fun m T => specAll T ((b :: rest).drop (segEnd SLASH (b :: rest)))
        (ps ++ [(m, (b :: rest).take (segEnd SLASH (b :: rest)))])) (specAll_nil _ _),
    List.map_map, specAll_nil, List.nil_append, List.append_nil, List.append_nil]
  rfl

/-- members `*{n} t …` (the catch-all is followed by more pattern) -/
def AllInfix (n : Bytes) (S : SufSet) : Prop := ∀ sr ∈ S, ∃ t s', sr.1 = .catchAll n :: t :: s'

theorem AllInfix.allHead {n : Bytes} {S : SufSet} (h : AllInfix n S) : AllHead (.catchAll n) S := by
  intro sr hsr; obtain ⟨t, s', hs⟩ := h sr hsr; exact ⟨t :: s', hs⟩

theorem advInfix_allInfix {n : Bytes} {S : SufSet} (h : AllInfix n S) :
    advInfix S = S.map fun sr => (n, (sr.1.tail, sr.2)) :=
  filterMap_eq_map_of fun sr hsr => by
    obtain ⟨t, s', hs⟩ := h sr hsr
    simp only [hs, List.tail_cons]

theorem suffixCatch_allInfix {n : Bytes} {S : SufSet} (h : AllInfix n S) (p ps) : suffixCatch S p ps = [] :=
  List.filterMap_eq_nil_iff.2 fun sr hsr => by
    obtain ⟨t, s', hs⟩ := h sr hsr
    simp only [hs]

/-- on a set whose members all begin with `*{n}` followed by more pattern only the infix alternative is left -/
theorem specAll_infix {n : Bytes} {S : SufSet} (h : AllInfix n S) (b rest ps) :
    specAll S (b :: rest) ps = if b = SLASH then [] else specInfix (tails S) n [b] rest ps := by
  rw [specAll_cons, advLit_allHead_other h.allHead (by intro c; simp),
      paramPart_of_advParam_nil (advParam_allHead_other h.allHead (by intro m; simp)),
      suffixCatch_allInfix h]
  unfold infixPart infixNames advInfixNamed
  rw [advInfix_allInfix h,
    flatMap_names_const (n := n) (fun x hx => by obtain ⟨_, _, rfl⟩ := List.mem_map.1 hx; rfl)
      (fun m T => specInfix T m [b] rest ps) (specInfix_nil _ _ _ _),
    List.map_map, specAll_nil, List.nil_append, List.nil_append, List.append_nil]
  rfl

/-! ### hostname part -/

/-- the members that `specHost` keeps when the host is used up: those standing at a literal '/' -/
def headSlash (sr : List Tok × Route) : Bool := match sr.1 with | .lit c :: _ => c == SLASH | _ => false

theorem specHost_nil_host (S : SufSet) (path ps) : specHost S [] path ps = specAll (S.filter headSlash) path ps := by
  unfold specHost; rfl

def hostParamPart (S : SufSet) (h : Bytes) (path : Bytes) (ps : Binds) : Res :=
  if segEnd DOT h = 0 then [] else
    (paramNames S).flatMap fun n =>
      specHost (advParamNamed n S) (h.drop (segEnd DOT h)) path (ps ++ [(n, h.take (segEnd DOT h))])

theorem specHost_cons (S : SufSet) (b : UInt8) (rest : Bytes) (path ps) :
    specHost S (b :: rest) path ps = specHost (advLit b S) rest path ps ++ hostParamPart S (b :: rest) path ps := by
  conv => lhs; unfold specHost
  simp [hostParamPart]

theorem specHost_nil (host path : Bytes) (ps : Binds) : specHost [] host path ps = [] := by
  induction host generalizing ps with
  | nil => rw [specHost_nil_host]; simp [specAll_nil]
  | cons b rest ih => rw [specHost_cons]; simp [ih, hostParamPart]

theorem hostParamPart_congr {S S' : SufSet} (h : advParam S = advParam S') (hh path ps) :
    hostParamPart S hh path ps = hostParamPart S' hh path ps := by
  unfold hostParamPart paramNames advParamNamed
  rw [h]

theorem specHost_cons_nil (r : Route) (S : SufSet) (b rest path ps) :
    specHost (([], r) :: S) (b :: rest) path ps = specHost S (b :: rest) path ps := by
  rw [specHost_cons, specHost_cons S, show advLit b (([], r) :: S) = advLit b S from rfl,
    hostParamPart_congr (show advParam (([], r) :: S) = advParam S from rfl)]

theorem hostParamPart_of_advParam_nil {S : SufSet} (h : advParam S = []) (hh path ps) : hostParamPart S hh path ps = [] := by
  rw [hostParamPart_congr (S' := []) (by simpa using h)]; simp [hostParamPart]

theorem specHost_lit {c : UInt8} {S : SufSet} (h : AllHead (.lit c) S) (b rest path ps) :
    specHost S (b :: rest) path ps = if c = b then specHost (tails S) rest path ps else [] := by
  rw [specHost_cons, advLit_allHead_lit h,
      hostParamPart_of_advParam_nil (advParam_allHead_other h (by intro n; simp))]
  by_cases hcb : c = b <;> simp [hcb, specHost_nil]

theorem specHost_param {n : Bytes} {S : SufSet} (h : AllHead (.param n) S) (b rest path ps) :
    specHost S (b :: rest) path ps = if segEnd DOT (b :: rest) = 0 then [] else
      specHost (tails S) ((b :: rest).drop (segEnd DOT (b :: rest))) path
        (ps ++ [(n, (b :: rest).take (segEnd DOT (b :: rest)))]) := by
  rw [specHost_cons, advLit_allHead_other h (by intro c; simp)]
  unfold hostParamPart paramNames advParamNamed
  rw [advParam_allHead_param h,
    flatMap_names_const (n := n) (fun x hx => by obtain ⟨_, _, rfl⟩ := List.mem_map.1 hx; rfl)
      (fun m T => specHost T ((b :: rest).drop (segEnd DOT (b :: rest))) path
        (ps ++ [(m, (b :: rest).take (segEnd DOT (b :: rest)))])) (specHost_nil _ _ _),
    List.map_map, specHost_nil, List.nil_append]
  rfl

theorem specHost_catch {n : Bytes} {S : SufSet} (h : AllHead (.catchAll n) S) (b rest path ps) :
    specHost S (b :: rest) path ps = [] := by
  rw [specHost_cons, advLit_allHead_other h (by intro c; simp),
      hostParamPart_of_advParam_nil (advParam_allHead_other h (by intro m; simp))]
  simp [specHost_nil]

theorem filter_headSlash_allHead {t : Tok} {S : SufSet} (h : AllHead t S) (ht : t ≠ .lit SLASH) :
    S.filter headSlash = [] := by
  rw [List.filter_eq_nil_iff]
  intro sr hsr
  obtain ⟨s', hs⟩ := h sr hsr
  unfold headSlash; rw [hs]
  cases t with
  | lit c => simp; intro hc; exact ht (by rw [hc])
  | param n => simp
  | catchAll n => simp

theorem filter_headSlash_allHead_slash {S : SufSet} (h : AllHead (.lit SLASH) S) : S.filter headSlash = S := by
  rw [List.filter_eq_self]
  intro sr hsr
  obtain ⟨s', hs⟩ := h sr hsr
  unfold headSlash; rw [hs]; simp

end Fox.Spec
