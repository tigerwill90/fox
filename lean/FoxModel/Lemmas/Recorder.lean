import FoxModel.Model.Recorder
import FoxModel.Spec.Recorder
/-
  Helper lemmas for property C14: the invariant `Inv` tying the recorder's fields to the summary of the ghost log and
  to the hijacked flag of the writer underneath; one transfer (`bump`, `Under.chunk`), of which `recorder.Write` and a
  round of the writer's own ReadFrom are the two instances; the side condition `PathCond` under which the two ReadFrom
  paths agree, and that agreement; the preservation of `Inv` and `PathCond` by every operation of the model (`Pres`,
  closed under composition, so that a helper built from WriteHeader / Write / ReadFrom needs no proof of its own; on
  the fast ReadFrom path `PathCond` is inherited from the fallback through the agreement).
-/
namespace Fox.Recorder
open Fox.Recorder.Spec

theorem observe_snoc (l : List Ev) (e : Ev) : observe (l ++ [e]) = (observe l).step e := by
  simp [observe, List.foldl_append]

theorem isFinal_eq (c : Nat) : isFinal c = !decide (100 ≤ c ∧ c ≤ 199 ∧ c ≠ 101) := by
  by_cases h : c = 101
  · subst h; rfl
  · simp [isFinal, h]

theorem nonneg_of_ne {sz : Int} (h : -1 ≤ sz) (hne : sz ≠ -1) : 0 ≤ sz :=
  Int.add_one_le_of_lt (Int.lt_iff_le_and_ne.2 ⟨h, Ne.symm hne⟩)

/-! ### the invariant -/

/-- the summary of the log that goes with the recorder's `size` and `status` -/
def summary (sz : Int) (st : Nat) : Obs :=
  if sz = -1 then {} else { first := some st, finals := 1, bytes := sz.toNat }

/-- invariant between recorder fields (size, status, hijacked) and the underlying writer -/
structure InvU (size : Int) (status : Nat) (hj : Bool) (u : Under) : Prop where
  ge : -1 ≤ size
  fresh : size = -1 → status = 200
  log : observe u.log = summary size status
  wrote : u.wrote = !decide (size = -1)
  hijacked : u.hijacked = hj

def Inv (s : St) : Prop := InvU s.r.size s.r.status s.r.hijacked s.u

theorem inv_init (k : Option Nat) : Inv (init k) := ⟨Int.le_refl _, fun _ => rfl, rfl, rfl, rfl⟩

theorem invU_congr {sz st hj} {u u' : Under} (hi : InvU sz st hj u) (hl : observe u'.log = observe u.log)
    (hw : u'.wrote = u.wrote) (hh : u'.hijacked = u.hijacked) : InvU sz st hj u' :=
  ⟨hi.ge, hi.fresh, hl.trans hi.log, hw.trans hi.wrote, hh.trans hi.hijacked⟩

/-- neither a header nor body bytes: `observe` passes over such an event -/
def Ev.neutral : Ev → Bool
  | .hdr _ => false | .body _ => false | _ => true

theorem observe_emit_neutral (u : Under) (e : Ev) (h : e.neutral = true) :
    observe (u.emit e).log = observe u.log := by
  rw [Under.emit, observe_snoc]
  cases e <;> first | rfl | cases h

theorem invU_hdr_info {sz st hj} {u : Under} (c : Nat) (hc : isFinal c = false) (hi : InvU sz st hj u) :
    InvU sz st hj (u.writeHeader c) := by
  refine invU_congr hi ?_ ?_ rfl
  · simp only [Under.writeHeader, Under.emit, observe_snoc, Obs.step, hc, Bool.false_eq_true, if_false]
  · simp [Under.writeHeader, hc]

theorem invU_hdr_final {st hj} {u : Under} (c : Nat) (hc : isFinal c = true) (hi : InvU (-1) st hj u) :
    InvU 0 c hj (u.writeHeader c) := by
  refine ⟨by decide, nofun, ?_, by simp [Under.writeHeader, hc], hi.hijacked⟩
  simp [Under.writeHeader, Under.emit, observe_snoc, hi.log, summary, Obs.step, hc]

theorem take_hijacked (u : Under) (a : Nat) : (u.take a).hijacked = u.hijacked := by
  unfold Under.take; split <;> rfl

theorem take_zero_budget (u : Under) : (u.take 0).budget = u.budget := by
  unfold Under.take; cases u.budget <;> rfl

theorem invU_take {sz st hj} {u : Under} (a : Nat) (hsz : sz ≠ -1) (hi : InvU sz st hj u) :
    InvU (sz + a) st hj (u.take a) := by
  have hpos := nonneg_of_ne hi.ge hsz
  have hnn : 0 ≤ sz + a := Int.add_nonneg hpos (Int.natCast_nonneg a)
  have hne : sz + a ≠ -1 := fun e => absurd (e ▸ hnn) (by decide)
  have hlog : observe (u.take a).log = summary (sz + a) st := by
    unfold Under.take
    split
    · simp [Under.emit, observe_snoc, Obs.step, hi.log, summary, hsz, hne, Int.toNat_add_nat hpos]
    · obtain rfl : a = 0 := Nat.eq_zero_of_not_pos ‹_›
      simpa using hi.log
  have hwr : (u.take a).wrote = u.wrote := by unfold Under.take; split <;> rfl
  exact ⟨Int.le_trans (by decide) hnn, fun h => absurd h hne, hlog,
    by rw [hwr, hi.wrote, decide_eq_false hsz, decide_eq_false hne], (take_hijacked u a).trans hi.hijacked⟩

/-! ### one transfer

  `recorder.Write` of `n` bytes and one round of the underlying writer's own `ReadFrom` do the same thing once the
  writer has accepted `a` bytes: send the implicit header if it is still pending, hand over the bytes, add `a` to the
  size. They differ in one point only, `hdr`: `Write` sends the pending header in any case, `ReadFrom` only when
  bytes flow (`decide (a > 0)`). -/

def bump (hdr : Bool) (sz : Int) (a : Nat) : Int :=
  if hdr = true then (if sz = -1 then 0 else sz) + a else sz

def Under.chunk (hdr : Bool) (u : Under) (a : Nat) : Under :=
  (if (hdr && !u.wrote) = true then u.writeHeader 200 else u).take a

theorem chunk_inv {sz st hj} {u : Under} (hdr : Bool) {a : Nat} (h0 : hdr = false → a = 0) (hi : InvU sz st hj u) :
    InvU (bump hdr sz a) st hj (u.chunk hdr a) := by
  unfold bump Under.chunk
  rw [hi.wrote]
  cases hdr
  · obtain rfl := h0 rfl
    exact invU_congr hi rfl rfl rfl
  · by_cases hs : sz = -1
    · subst hs
      obtain rfl : st = 200 := hi.fresh rfl
      exact invU_take a (by decide) (invU_hdr_final 200 rfl hi)
    · simp only [hs, decide_false, Bool.not_false, Bool.not_true, Bool.and_false, Bool.false_eq_true, if_false,
        if_true]
      exact invU_take a hs hi

theorem bump_ne {sz : Int} (a : Nat) (h : -1 ≤ sz) : bump true sz a ≠ -1 := by
  rw [bump, if_pos rfl]
  split <;> omega

/-- where sending the header in any case changes nothing: bytes flow, or there is no header pending -/
theorem chunk_eager {sz : Int} {a : Nat} {u : Under} (hw : u.wrote = !decide (sz = -1)) (h : sz = -1 → a > 0) :
    bump true sz a = bump (decide (a > 0)) sz a ∧ u.chunk true a = u.chunk (decide (a > 0)) a := by
  by_cases ha : a > 0
  · rw [decide_eq_true ha]
    exact ⟨rfl, rfl⟩
  · have hs : sz ≠ -1 := fun e => ha (h e)
    obtain rfl : a = 0 := Nat.eq_zero_of_not_pos ha
    simp [bump, Under.chunk, hw, hs]

/-! ### the side condition of the two ReadFrom paths -/

/-- a writer that has not seen a final header still accepts at least one byte -/
def PathCond (s : St) : Prop := s.r.size = -1 → s.u.budget ≠ some 0

/-- `f` keeps `Inv`, and keeps `PathCond` where `Inv` holds -/
def Pres (f : St → St) : Prop := ∀ s, Inv s → Inv (f s) ∧ (PathCond s → PathCond (f s))

theorem Pres.comp {f g : St → St} (hg : Pres g) (hf : Pres f) : Pres fun s => g (f s) := fun s hi =>
  ⟨(hg _ (hf s hi).1).1, fun hp => (hg _ (hf s hi).1).2 ((hf s hi).2 hp)⟩

theorem Pres.id : Pres fun s => s := fun _ hi => ⟨hi, fun hp => hp⟩

theorem Pres.ite (c : St → Prop) [DecidablePred c] {f g : St → St} (hf : Pres f) (hg : Pres g) :
    Pres fun s => if c s then f s else g s := by
  intro s hi
  by_cases h : c s
  · simpa only [h, if_true] using hf s hi
  · simpa only [h, if_false] using hg s hi

theorem Pres.quiet {f : St → St} (hr : ∀ s, (f s).r = s.r) (hl : ∀ s, observe (f s).u.log = observe s.u.log)
    (hw : ∀ s, (f s).u.wrote = s.u.wrote) (hh : ∀ s, (f s).u.hijacked = s.u.hijacked)
    (hb : ∀ s, (f s).u.budget = s.u.budget) : Pres f := by
  intro s hi
  refine ⟨?_, ?_⟩
  · unfold Inv; rw [hr]; exact invU_congr hi (hl s) (hw s) (hh s)
  · unfold PathCond; rw [hr, hb]; exact fun hp => hp

theorem emit_pres (e : Ev) (h : e.neutral = true) : Pres fun s => { s with u := s.u.emit e } :=
  .quiet (fun _ => rfl) (fun s => observe_emit_neutral s.u e h) (fun _ => rfl) (fun _ => rfl) (fun _ => rfl)

theorem setCT_pres (c : CT) : Pres (setCT · c) :=
  .quiet (fun _ => rfl) (fun _ => rfl) (fun _ => rfl) (fun _ => rfl) (fun _ => rfl)

/-- Push, the deadlines, full duplex: delegated when the underlying writer has the method, refused otherwise -/
theorem optional_pres (b : Bool) (e : Ev) (h : e.neutral = true) :
    Pres fun s => (if b then ({ s with u := s.u.emit e }, Err.ok) else (s, Err.notSupported)).1 := by
  cases b
  · exact .id
  · exact emit_pres e h

theorem hijack_pres (sh : Shape) : Pres fun s => (hijack sh s).1 := by
  unfold hijack
  cases sh.hj
  · exact .id
  · intro s hi
    exact ⟨⟨hi.ge, hi.fresh, (observe_emit_neutral s.u .hijack rfl).trans hi.log, hi.wrote, rfl⟩, fun hp => hp⟩

/-! ### WriteHeader, Write -/

theorem writeHeader_pres (c : Nat) : Pres fun s => (writeHeader s c).1 := by
  intro s hi
  show Inv (writeHeader s c).1 ∧ (PathCond s → PathCond (writeHeader s c).1)
  unfold writeHeader
  split
  · exact Pres.id s hi
  · split
    · exact Pres.id s hi
    · rename_i _ hs
      have hs : s.r.size = -1 := Decidable.not_not.mp hs
      split
      · rename_i hc
        exact ⟨invU_hdr_info c (by simp [isFinal_eq, hc]) hi, fun hp => hp⟩
      · rename_i hc
        have hi' : InvU (-1) s.r.status s.r.hijacked s.u := by rw [← hs]; exact hi
        exact ⟨invU_hdr_final c (by simp only [isFinal_eq, hc, decide_false, Bool.not_false]) hi',
          fun _ h => by cases h⟩

theorem write_hijacked (s : St) (n : Nat) : (write s n).1.r.hijacked = s.r.hijacked := by
  unfold write
  split
  · rfl
  · by_cases h : s.r.size = -1 <;> simp [h]

theorem write_dead {s : St} (n : Nat) (hh : s.r.hijacked = true) : write s n = (s, 0, .hijacked) := by
  unfold write
  rw [if_pos hh]

/-- `Write` of a live writer that has seen its final header: it takes what the budget allows -/
theorem under_write_wrote {u : Under} (n : Nat) (hu : u.hijacked = false) (hw : u.wrote = true) :
    u.write n = (u.take (accept u.budget n), accept u.budget n,
      if accept u.budget n < n then Err.fault else Err.ok) := by
  unfold Under.write
  rw [if_neg (by rw [hu]; decide), if_pos hw]

/-- `Write` on a recorder that has not been hijacked is one eager transfer of what the budget allows -/
theorem write_eq {s : St} (n : Nat) (hi : Inv s) (hh : s.r.hijacked = false) :
    write s n =
      ({ r := { s.r with size := bump true s.r.size (accept s.u.budget n) }, u := s.u.chunk true (accept s.u.budget n) },
        accept s.u.budget n, if accept s.u.budget n < n then Err.fault else Err.ok) := by
  have hu : s.u.hijacked = false := hi.hijacked.trans hh
  have hw := hi.wrote
  unfold write bump Under.chunk
  rw [if_neg (by rw [hh]; decide)]
  by_cases hs : s.r.size = -1
  · -- the pending header goes out first; its status is 200 by the invariant, hence final
    have h200 : (s.u.writeHeader 200).wrote = true := Bool.or_true _
    simp only [hs, decide_true, Bool.not_true] at hw
    simp only [hs, if_true, hi.fresh hs, under_write_wrote n (u := s.u.writeHeader 200) hu h200, hw, Bool.not_false,
      Bool.and_true]
    rfl
  · simp only [hs, decide_false, Bool.not_false] at hw
    simp only [hs, if_false, under_write_wrote n hu hw, hw, Bool.not_true, Bool.and_false, Bool.false_eq_true,
      if_true]

theorem write_pres (n : Nat) : Pres fun s => (write s n).1 := by
  intro s hi
  show Inv (write s n).1 ∧ (PathCond s → PathCond (write s n).1)
  cases hh : s.r.hijacked
  · rw [write_eq n hi hh]
    exact ⟨chunk_inv true nofun hi, fun _ h => absurd h (bump_ne _ hi.ge)⟩
  · rw [write_dead n hh]
    exact ⟨hi, fun hp => hp⟩

theorem copyFallback_pres (cs : List Nat) (e : Bool) : Pres fun s => (copyFallback s cs e).1 := by
  intro s hi
  show Inv (copyFallback s cs e).1 ∧ (PathCond s → PathCond (copyFallback s cs e).1)
  fun_induction copyFallback s cs e with
  | case1 => exact ⟨hi, id⟩
  | case2 _ _ _ ih => exact ih hi
  | case3 s c _ _ _ _ _ _ hw | case4 s c _ _ _ _ _ _ hw =>
    have h : Inv (write s c).1 ∧ (PathCond s → PathCond (write s c).1) := write_pres c s hi
    rwa [hw] at h
  | case5 s c _ _ _ _ _ _ hw _ _ _ _ _ hcf ih =>
    have h : Inv (write s c).1 ∧ (PathCond s → PathCond (write s c).1) := write_pres c s hi
    rw [hw] at h
    have h' := ih h.1
    rw [hcf] at h'
    exact ⟨h'.1, fun hp => h'.2 (h.2 hp)⟩

/-! ### ReadFrom on the fast path -/

/-- the recorder's size update after `n` bytes went through the writer's own `ReadFrom` -/
abbrev bumped (sz : Int) (n : Nat) : Int := bump (decide (n > 0)) sz n

theorem bump_zero (sz : Int) : bumped sz 0 = sz := rfl

theorem bump_pos (sz : Int) {a : Nat} (ha : a ≠ 0) : bumped sz a = (if sz = -1 then 0 else sz) + a :=
  if_pos (decide_eq_true (Nat.pos_of_ne_zero ha))

theorem bump_bump (sz : Int) (a n : Nat) (h : -1 ≤ sz) : bumped (bumped sz a) n = bumped sz (a + n) := by
  by_cases ha : a = 0
  · rw [ha, bump_zero, Nat.zero_add]
  · by_cases hn : n = 0
    · rw [hn, bump_zero, Nat.add_zero]
    · have hb0 : (0 : Int) ≤ if sz = -1 then 0 else sz := by
        split
        · exact Int.le_refl 0
        · exact nonneg_of_ne h ‹_›
      have hne : (if sz = -1 then 0 else sz) + (a : Int) ≠ -1 := fun e =>
        absurd (e ▸ Int.add_nonneg hb0 (Int.natCast_nonneg a)) (by decide)
      rw [bump_pos sz ha, bump_pos _ hn, if_neg hne, bump_pos sz fun h => ha (Nat.eq_zero_of_add_eq_zero_right h),
        Int.natCast_add, Int.add_assoc]

theorem lazy_inv {sz st hj} {u : Under} (a : Nat) (hi : InvU sz st hj u) :
    InvU (bumped sz a) st hj (u.chunk (decide (a > 0)) a) :=
  chunk_inv _ (fun h => Nat.eq_zero_of_not_pos (of_decide_eq_false h)) hi

theorem under_readFrom_inv {sz st hj} (cs : List Nat) (e : Bool) {u : Under} (hi : InvU sz st hj u) :
    InvU (bumped sz (u.readFrom cs e).2.1) st hj (u.readFrom cs e).1 := by
  fun_induction Under.readFrom u cs e generalizing sz with
  | case1 | case3 => exact hi
  | case2 _ _ _ ih => exact ih hi
  | case4 => exact lazy_inv _ hi
  | case5 =>
    rename_i h ih
    rw [← bump_bump _ _ _ hi.ge]
    simpa only [h] using ih (lazy_inv _ hi)

theorem readFrom_fast (sh : Shape) (h : sh.rf = true) (s : St) (cs : List Nat) (e : Bool) :
    readFrom sh s cs e =
      ({ r := { s.r with size := bumped s.r.size (s.u.readFrom cs e).2.1 }, u := (s.u.readFrom cs e).1 },
        (s.u.readFrom cs e).2.1, (s.u.readFrom cs e).2.2) := by
  unfold readFrom bumped bump
  rw [if_pos h]
  rcases s.u.readFrom cs e with ⟨u', n, err⟩
  simp only [decide_eq_true_eq]
  split <;> rfl

/-! ### the two ReadFrom paths agree -/

theorem accept_pos {b : Option Nat} {c : Nat} (hb : b ≠ some 0) (hc : c ≠ 0) : accept b c > 0 := by
  cases b with
  | none => exact Nat.pos_of_ne_zero hc
  | some k =>
    have : k ≠ 0 := fun h => hb (h ▸ rfl)
    simp only [accept]; omega

theorem accept_le (b : Option Nat) (c : Nat) : accept b c ≤ c := by
  cases b with
  | none => exact Nat.le_refl c
  | some k => exact Nat.min_le_left c k

/-- io.CopyBuffer through recorder.Write ends in the same state, with the same result, as the underlying writer's own
    ReadFrom followed by the recorder's `if n > 0` bookkeeping -/
theorem copyFallback_eq_fast (sh : Shape) (h : sh.rf = true) (cs : List Nat) (e : Bool) :
    ∀ {s : St}, PathCond s → Inv s → copyFallback s cs e = readFrom sh s cs e := by
  simp only [readFrom_fast sh h]
  induction cs with
  | nil => intro s _ _; rfl
  | cons c cs ih =>
    intro s hp hi
    rw [copyFallback, Under.readFrom]
    by_cases hc : c = 0
    · simp only [hc, if_true]; exact ih hp hi
    · simp only [hc, if_false]
      rcases Bool.eq_false_or_eq_true s.r.hijacked with hh | hh
      · rw [write_dead c hh, if_pos (hi.hijacked.trans hh)]
        rfl
      · -- a non-empty chunk on a writer that accepts a byte: the eager header of `Write` is the one `ReadFrom` sends
        obtain ⟨hb, hu⟩ := chunk_eager (u := s.u) hi.wrote fun hs => accept_pos (hp hs) hc
        rw [write_eq c hi hh, hb, hu, Under.chunk]
        simp only [hi.hijacked.trans hh, Bool.false_eq_true, if_false]
        by_cases hlt : accept s.u.budget c < c
        · simp only [hlt, if_true, ne_eq, reduceCtorEq, not_false_eq_true]
        · obtain haeq : accept s.u.budget c = c := Nat.le_antisymm (accept_le _ c) (Nat.le_of_not_lt hlt)
          rw [haeq]
          simp only [Nat.lt_irrefl, if_false, ne_eq, not_true_eq_false]
          rw [ih]
          · simp only [bump_bump _ _ _ hi.ge]
          · exact fun h => absurd h (decide_eq_true (Nat.pos_of_ne_zero hc) ▸ bump_ne c hi.ge)
          · exact lazy_inv c hi

theorem readFrom_pres (sh : Shape) (cs : List Nat) (e : Bool) : Pres fun s => (readFrom sh s cs e).1 := by
  cases h : sh.rf
  · unfold readFrom
    simp only [h, Bool.false_eq_true, if_false]
    exact copyFallback_pres cs e
  · intro s hi
    constructor
    · simp only [readFrom_fast sh h]
      exact under_readFrom_inv cs e hi
    · -- where `PathCond` holds the fast path is the fallback, which keeps `PathCond`
      intro hp
      simp only [← copyFallback_eq_fast sh h cs e hp hi]
      exact (copyFallback_pres cs e s hi).2 hp

/-! ### FlushError, the calls, runs -/

theorem flushError_pres (sh : Shape) : Pres fun s => (flushError sh s).1 := by
  have pending : Pres fun s => if s.r.size = -1 then (writeHeader s s.r.status).1 else s :=
    .ite (fun s => s.r.size = -1) (fun s hi => writeHeader_pres s.r.status s hi) .id
  unfold flushError
  cases sh.fe
  · cases sh.fl
    · exact .id
    · exact (emit_pres .flush rfl).comp pending
  · exact (emit_pres .flushE rfl).comp pending

theorem step_pres (sh : Shape) (c : Call) : Pres fun s => (step sh s c).1 := by
  cases c with
  | wh code => exact writeHeader_pres code
  | wr n => exact write_pres n
  | ws n => exact write_pres n
  | rf cs e => exact readFrom_pres sh cs e
  | fl => exact flushError_pres sh
  | hj => exact hijack_pres sh
  | pu => exact optional_pres sh.pu .push rfl
  | rd => exact optional_pres sh.dl .rdl rfl
  | wd => exact optional_pres sh.dl .wdl rfl
  | fd => exact optional_pres sh.fd .fdx rfl
  | str code n =>
    exact (write_pres n).comp ((writeHeader_pres code).comp
      (.ite (fun s => s.u.ct = .none) (setCT_pres .textPlain) .id))
  | blob code n => exact (write_pres n).comp ((writeHeader_pres code).comp (setCT_pres .blob))
  | stream code cs e => exact (readFrom_pres sh cs e).comp ((writeHeader_pres code).comp (setCT_pres .stream))
  | redir code len =>
    intro s hi
    simp only [step]
    split
    · exact Pres.id s hi
    · split
      · exact (write_pres len).comp ((writeHeader_pres code).comp (setCT_pres .html)) s hi
      · exact writeHeader_pres code s hi

theorem run_inv (sh : Shape) (cs : List Call) : ∀ {s : St}, Inv s → Inv (run sh s cs).1 := by
  induction cs with
  | nil => exact fun hi => hi
  | cons c cs ih => exact fun hi => ih (step_pres sh c _ hi).1

end Fox.Recorder
