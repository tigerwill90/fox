import FoxModel.Lemmas.Router
import FoxModel.Lemmas.Proto
/-
  Property C04 — transactions are atomic and isolated.
  Sequential part over `Fox.Model.Router` (the transaction machine that follows txn.go / fox.go), concurrent-reader
  part over `Fox.Model.Proto`, code-shape part by `decide` over `Generated/SyncOrder.lean`.
-/
namespace Fox.C04
open Fox Fox.Model Fox.Model.Router

/-- A committed or aborted write transaction refuses further use: every write and read method panics with
    ErrSettledTxn (and changes nothing), Iter panics, Snapshot returns nil, Commit and Abort are no-ops. -/
theorem guards_settled {s : State} {t : TxnId} {x : TxnSt} (hf : s.find t = some x) (hs : x.settled = true)
    (w : WOp) (q : ROp) :
    txnWrite s t w = (s, .panicSettled) ∧ txnRead s t q = (s, .panicSettled) ∧ iter s t = (s, .panicSettled) ∧
    snapshot s t = (s, .nilSnap) ∧ commit s t = (s, .done) ∧ abort s t = (s, .done) := by
  exact ⟨txnWrite_settled hf hs w, txnRead_settled hf hs q, iter_settled hf hs, snapshot_settled hf hs,
    commit_settled hf hs, abort_settled hf hs⟩

/-- Writing through a read-only transaction returns ErrReadOnlyTxn and has no effect at all; its Commit and Abort
    are no-ops (so it never touches the writer lock or the published tree). -/
theorem guards_readonly {s : State} {t : TxnId} {x : TxnSt} (hf : s.find t = some x) (hs : x.settled = false)
    (hw : x.write = false) (w : WOp) :
    txnWrite s t w = (s, .readOnly) ∧ commit s t = (s, .done) ∧ abort s t = (s, .done) := by
  exact ⟨by simp [txnWrite, hf, hs, hw], by simp [commit, hf, hw], by simp [abort, hf, hw]⟩

/-- While a write transaction is open, what it writes is invisible to the router: after any sequence of writes
    through it the published tree — hence the result of every router-level read — is what it was before the
    transaction began; and reads through the transaction see exactly its own writes applied to the state it started from. -/
theorem isolated (s : State) (hmu : s.mu = none) (ws : List WOp) (q : ROp) :
    let s1 := (begin s true).1
    let s2 := (runBody s1 s.next (ws.map .w)).1
    s2.published = s.published ∧ (rread s2 q).2 = (rread s q).2 ∧
    (txnRead s2 s.next q).2 = .v (readT (applyWs s.published ws) q) := by
  intro s1 s2
  have h1 : s1 = afterBegin s := congrArg Prod.fst (begin_write_free hmu)
  have hnc : BOp.commit ∉ ws.map .w := fun h => let ⟨_, _, e⟩ := List.mem_map.1 h; nomatch e
  have hp : s2.published = s.published := (runBody_published s1 _ _ hnc).trans (congrArg State.published h1 :)
  exact ⟨hp, congrArg (fun p => Out.v (readT p q)) hp,
    congrArg Prod.snd (txnRead_open (runBody_writes (h1 ▸ afterBegin_find s) ws) rfl q)⟩

/-- No operation of a transaction other than Commit changes the published tree (writes, reads, snapshots, iterators,
    Abort — on any transaction in any state). -/
theorem only_commit_publishes (s : State) (t : TxnId) (b : BOp) (hb : b ≠ .commit) :
    (bodyStep s t b).1.published = s.published := bodyStep_published s t b hb

/-- Commit of an open write transaction replaces the published tree by the transaction's private tree in one step,
    settles the transaction and releases the lock. There is no intermediate published state. -/
theorem commit_atomic {s : State} {t : TxnId} {x : TxnSt} (hf : s.find t = some x) (hw : x.write = true)
    (hs : x.settled = false) :
    (commit s t).1.published = x.tree ∧ (commit s t).1.mu = none ∧
    (commit s t).1.find t = some { x with settled := true } := by
  rw [commit_open hf hs hw]
  exact ⟨rfl, rfl, find_set (x := { x with settled := true }) (y := x) hf (find_id hf : x.id = t)⟩

/-- A managed write transaction whose function returns nil publishes exactly the private tree its writes produced. -/
theorem updates_commit (s : State) (hmu : s.mu = none) (ws : List WOp) :
    (updates s (ws.map .w) .ok).1.published = applyWs s.published ws := by
  have a := runBody_writes (afterBegin_find s) ws
  simp only [updates, begin_write_free hmu, effBody, finishUpdates]
  rw [abort_published, commit_open a rfl rfl]

/-- single-operation helpers (Router.Handle / Update / Delete …) are all-or-nothing one-operation transactions: the
    published tree becomes the result of the operation on the published tree (unchanged on an error), the lock is free
    afterwards. -/
theorem helper_atomic (s : State) (hmu : s.mu = none) (w : WOp) :
    (helper s w).1.published = (applyW s.published w).1 ∧ (helper s w).1.mu = none ∧
    (helper s w).2 = .w (applyW s.published w).2 := by
  have hf := afterBegin_find s
  have hw := txnWrite_open hf rfl rfl w
  have hm : Managed s.next (txnWrite (afterBegin s) s.next w).1 := managed_step (managed_begin s) (.w w)
  simp only [helper, begin_write_free hmu, hw] at hm ⊢
  cases hr : (applyW s.published w).2.isErr
  · -- success: Commit publishes the private tree, the deferred Abort finds the transaction settled
    simp only [Bool.false_eq_true, ↓reduceIte]
    exact ⟨(abort_published _ _).trans (by rw [commit_open (find_set hf rfl) rfl rfl]),
      managed_abort_mu (managed_step hm .commit), trivial⟩
  · simp only [↓reduceIte]
    exact ⟨(abort_published _ _).trans (applyW_err _ _ hr).symm, managed_abort_mu hm, trivial⟩

/-- If the function given to Updates returns an error, or panics or terminates its goroutine (runtime.Goexit) after ANY number k of its operations (and does not
    itself call Commit), none of its writes is ever published: the published tree after Updates is the one before. -/
theorem abort_invisible (s : State) (body : List BOp) (hb : BOp.commit ∉ body) (e : Ending) (he : e ≠ .ok) :
    (updates s body e).1.published = s.published := by
  cases hmu : s.mu with
  | some j => simp [updates, begin, hmu]  -- the writer lock is taken: Updates would wait, nothing runs
  | none =>
    -- the part of the body that ran holds no Commit, and the end is the deferred Abort
    rw [updates, begin_write_free hmu]
    exact (finishUpdates_published _ _ he).trans (runBody_published _ _ _ fun h => hb (mem_effBody h))

/-- the same for an explicit Abort of an unmanaged transaction after any operations -/
theorem explicit_abort_invisible (s : State) (t : TxnId) (body : List BOp) (hb : BOp.commit ∉ body) :
    (abort (runBody s t body).1 t).1.published = s.published := by
  rw [abort_published, runBody_published _ _ _ hb]

/-- and once settled the private tree can never be published later: Commit on a settled transaction is a no-op
    (`guards_settled`), and `abort` leaves it settled -/
theorem aborted_stays_settled {s : State} {t : TxnId} {x : TxnSt} (hf : s.find t = some x) (hw : x.write = true)
    (hs : x.settled = false) : ∃ y, (abort s t).1.find t = some y ∧ y.settled = true := by
  rw [abort_open hf hs hw]
  exact ⟨{ x with settled := true }, find_set (x := { x with settled := true }) (y := x) hf (find_id hf : x.id = t), rfl⟩

/-- After Updates — whether its function returned nil, returned an error, panicked or ended its goroutine (Goexit) after any prefix, and even if it
    called Commit or Abort itself — the writer lock is free and a new write transaction can begin. -/
theorem lock_released (s : State) (hmu : s.mu = none) (body : List BOp) (e : Ending) :
    (updates s body e).1.mu = none ∧ ∃ t, (begin (updates s body e).1 true).2 = .opened t := by
  have hm : (updates s body e).1.mu = none := by
    rw [updates, begin_write_free hmu]
    exact finishUpdates_mu (managed_runBody (managed_begin s) (effBody body e)) e
  exact ⟨hm, (updates s body e).1.next, by simp [begin, hm]⟩

/-- explicit Commit / Abort of an open write transaction release the lock -/
theorem lock_released_explicit {s : State} {t : TxnId} {x : TxnSt} (hf : s.find t = some x) (hw : x.write = true)
    (hs : x.settled = false) : (commit s t).1.mu = none ∧ (abort s t).1.mu = none := by
  rw [commit_open hf hs hw, abort_open hf hs hw]; exact ⟨rfl, rfl⟩

/-- while a write transaction holds the lock a second writer (transaction, Updates, helper) would wait -/
theorem second_writer_waits (s : State) {j : TxnId} (hmu : s.mu = some j) (w : WOp) (body : List BOp) (e : Ending) :
    (begin s true) = (s, .wouldBlock) ∧ helper s w = (s, .wouldBlock) ∧ (updates s body e).2.2 = .blocked := by
  simp [begin, helper, updates, hmu]

/-! ### concurrent readers (protocol model) -/

/-- In every reachable state of the interleaving model (any threads, any schedule) the value loaded by any reader or
    writer is the initial state or the final private state of a committed transaction: the replay of a prefix of the
    commit log. No reader observes part of a transaction. -/
theorem every_read_is_committed {σ : Type} {v0 : σ} {s : Proto.State σ} (h : Proto.Reach v0 s) {i : Proto.Tid}
    {ver : Nat} {v : σ} (hs : (s.thr i).seen = some (ver, v)) :
    ∃ k, ver = ((Proto.commits s).drop k).length ∧ v = Proto.replay v0 ((Proto.commits s).drop k) :=
  Proto.seen_committed h hs

/-- and the published value itself is always the replay of the complete log (never a strict prefix of a transaction's writes) -/
theorem published_is_committed {σ : Type} {v0 : σ} {s : Proto.State σ} (h : Proto.Reach v0 s) :
    s.pub.2 = Proto.replay v0 (Proto.commits s) :=
  congrArg Prod.snd (Proto.inv_reach h).pubLog

/-! ### the shape of the Go code (regenerated on every run) -/
open Fox.Generated

def b (s : String) : List Nat := s.toList.map Char.toNat
def pNotNil : List Nat := b "p != nil"

/-- the events of the function body proper (not of its deferred function) -/
def mainLine (l : List SyncItem) : List (SyncEv × SyncCtx × List Nat) :=
  (l.filter fun i => !(i.ctx == .deferred || i.ctx == .deferredRecovered)).map SyncItem.key

def deferredPart (l : List SyncItem) : List SyncItem := l.filter fun i => i.ctx == .deferred || i.ctx == .deferredRecovered

/-- the deferred function calls `recover()` -/
def recoversPanic (l : List SyncItem) : Bool := (deferredPart l).any (·.ev == .recover)

/-- a panic in flight: the deferred function aborts the transaction BEFORE it re-panics (an abort placed after the
    re-panic would not run) - whether the abort sits inside the `p != nil` branch or in front of it -/
def panicPathAborts (l : List SyncItem) : Bool :=
  ((deferredPart l).takeWhile (·.ev != .repanic)).any (·.ev == .deferAbort) && (deferredPart l).any (·.ev == .repanic)

/-- no panic in flight (return, error, runtime.Goexit): an abort outside the "recovered a panic" branch runs -/
def normalPathAborts (l : List SyncItem) : Bool :=
  (deferredPart l).any fun i => i.ev == .deferAbort && i.ctx == .deferred

/-- Commit: read-only guard (return), settled guard (return), THEN Store, THEN Unlock. Abort: the same guards, one Unlock.
    Updates / View: begin, a deferred function that recovers, aborts on the panic path before it re-panics and aborts on
    the normal path (stated by what runs on each path, not by the wording of the deferred function), the function, return
    on error BEFORE Commit (View never commits). Every single-operation helper: begin a write transaction,
    `defer txn.Abort()`, return on error, Commit. -/
theorem sync_shape :
    sync_Commit.map (fun i => (i.ev, i.ctx, i.guard, i.act)) =
      [(.guardReadOnly, .always, [], b "return"), (.guardSettled, .always, [], b "return"),
       (.store, .always, [], b "txn.fox.tree.Store(newRoot)"), (.unlock, .always, [], b "txn.fox.mu.Unlock")] ∧
    sync_Abort.map (fun i => (i.ev, i.ctx, i.guard, i.act)) =
      [(.guardReadOnly, .always, [], b "return"), (.guardSettled, .always, [], b "return"),
       (.unlock, .always, [], b "txn.fox.mu.Unlock")] ∧
    (mainLine sync_Updates =
      [(.beginWrite, .always, []), (.callFn, .always, []), (.errReturn, .always, []), (.callCommit, .always, [])] ∧
     recoversPanic sync_Updates = true ∧ panicPathAborts sync_Updates = true ∧ normalPathAborts sync_Updates = true) ∧
    (mainLine sync_View = [(.beginRead, .always, []), (.callFn, .always, [])] ∧
     recoversPanic sync_View = true ∧ panicPathAborts sync_View = true ∧ normalPathAborts sync_View = true) ∧
    [sync_Handle, sync_HandleRoute, sync_Update, sync_UpdateRoute, sync_Delete].all (fun f => f.map SyncItem.key ==
      [(.beginWrite, .always, []), (.deferAbort, .always, []), (.errReturn, .always, []), (.callCommit, .always, [])]) = true := by
  -- decoding a string literal is slow in the kernel: turn each into its list of characters first
  simp only [b]
  repeat rewrite [String.toList_ofList]
  refine ⟨by decide +kernel, by decide +kernel, by decide +kernel, by decide +kernel, by decide +kernel⟩

/-- the first two guard events of a method -/
def prologue (evs : List SyncItem) : List (SyncEv × List Nat) :=
  ((evs.filter fun i => i.ev == .guardSettled || i.ev == .guardReadOnly).take 2).map fun i => (i.ev, i.act)

/-- Every method of Txn starts with the settled guard — a panic with ErrSettledTxn for every write and read method,
    `return nil` for Snapshot, a silent return for Commit / Abort (after their read-only guard) — and every write method
    has the read-only guard (ErrReadOnlyTxn) right after it. Removing a guard from any method breaks this theorem. -/
theorem guards_in_every_method :
    sync_txnMethods.map (fun m => (m.1, prologue m.2.2)) =
      [(b "Abort", [(.guardReadOnly, b "return"), (.guardSettled, b "return")]),
       (b "Commit", [(.guardReadOnly, b "return"), (.guardSettled, b "return")]),
       (b "Delete", [(.guardSettled, b "panic(ErrSettledTxn)"), (.guardReadOnly, b "return nil, ErrReadOnlyTxn")]),
       (b "Handle", [(.guardSettled, b "panic(ErrSettledTxn)"), (.guardReadOnly, b "return nil, ErrReadOnlyTxn")]),
       (b "HandleRoute", [(.guardSettled, b "panic(ErrSettledTxn)"), (.guardReadOnly, b "return ErrReadOnlyTxn")]),
       (b "Has", [(.guardSettled, b "panic(ErrSettledTxn)")]),
       (b "Iter", [(.guardSettled, b "panic(ErrSettledTxn)")]),
       (b "Len", [(.guardSettled, b "panic(ErrSettledTxn)")]),
       (b "Lookup", [(.guardSettled, b "panic(ErrSettledTxn)")]),
       (b "Reverse", [(.guardSettled, b "panic(ErrSettledTxn)")]),
       (b "Route", [(.guardSettled, b "panic(ErrSettledTxn)")]),
       (b "Snapshot", [(.guardSettled, b "return nil")]),
       (b "Truncate", [(.guardSettled, b "panic(ErrSettledTxn)"), (.guardReadOnly, b "return ErrReadOnlyTxn")]),
       (b "Update", [(.guardSettled, b "panic(ErrSettledTxn)"), (.guardReadOnly, b "return nil, ErrReadOnlyTxn")]),
       (b "UpdateRoute", [(.guardSettled, b "panic(ErrSettledTxn)"), (.guardReadOnly, b "return ErrReadOnlyTxn")])] ∧
    -- and the guards come first: no method has a sync event or a call before them
    sync_txnMethods.all (fun m => match m.2.2 with
      | e :: _ => e.ev == .guardSettled || e.ev == .guardReadOnly
      | [] => false) = true := by
  simp only [b]
  repeat rewrite [String.toList_ofList]
  refine ⟨by decide +kernel, by decide +kernel⟩

/-! ### non-vacuity: concrete runs of the machine -/
section Example
def rA : Route := { hid := 1, pattern := [.lit 47, .lit 97] }
def rB : Route := { hid := 2, pattern := [.lit 47, .lit 98] }
def body2 : List BOp := [.w (.handle GET rA), .w (.handle GET rB)]
/-- committed: both routes; error / panic after one op or two ops: none -/
example : (updates {} body2 .ok).1.published.size = 2 := by decide +kernel
example : (updates {} body2 .err).1.published.size = 0 := by decide +kernel
example : (updates {} body2 (.panicAt 1)).1.published.size = 0 := by decide +kernel
example : (updates {} body2 (.panicAt 1)).2.2 = .panicked ∧ (updates {} body2 (.panicAt 1)).1.mu = none := by decide +kernel
example : (updates {} body2 (.goexitAt 1)).2.2 = .goexited ∧ (updates {} body2 (.goexitAt 1)).1.mu = none ∧
    (updates {} body2 (.goexitAt 1)).1.published.size = 0 := by decide +kernel
/-- inside the transaction its own writes are visible, outside they are not -/
example : (let s1 := (begin {} true).1
           let s2 := (runBody s1 0 body2).1
           (s2.published.size, s2.mu, (s2.find 0).map (·.tree.size))) = (0, some 0, some 2) := by decide +kernel
end Example

end Fox.C04
