import FoxModel.Props.C01Full
import FoxModel.Props.C01Spec
import FoxModel.Lemmas.StoreInv
/-
  Property C16 — routing a matching request allocates nothing. What is logic is proved here: the parameter buffer of a
  pooled context is allocated with capacity `maxParams` of the tree it belongs to (tree.go allocateContext), and every
  answer of the matcher on a reachable tree carries exactly `ParamsLen` = number of wildcards of the selected route
  parameters, which never exceeds that capacity — so recording the parameters of a match never grows the buffer.
  Escape analysis, sync.Pool and the allocator are runtime behaviour: measured by the `alloc` stream (AllocsPerRun).
-/
namespace Fox.C16
open Fox Fox.Model Fox.Spec Fox.C02

theorem first_mem {res : Res} {tsr : Bool} {f : Found} (h : first res tsr = some f) : (f.route, f.params) ∈ res := by
  cases res with
  | nil => cases h
  | cons x xs =>
    obtain ⟨r, ps⟩ := x
    simp only [first, Option.some.injEq] at h
    subst h; simp

theorem names_of_specAll {S : SufSet} {path : Bytes} {r : Route} {ps : Binds} (h : (r, ps) ∈ specAll S path []) :
    ∃ s, (s, r) ∈ S ∧ ps.map Prod.fst = wildNames s := by
  obtain ⟨s, bs', hm, rfl, hM⟩ := C01Spec.specAll_sound h
  exact ⟨s, hm, C01Spec.names_of_match hM⟩

theorem names_of_specHost {S : SufSet} {host path : Bytes} {r : Route} {ps : Binds}
    (h : (r, ps) ∈ specHost S host path []) : ∃ s, (s, r) ∈ S ∧ ps.map Prod.fst = wildNames s := by
  obtain ⟨s, bs', hm, rfl, hM⟩ := C01Spec.specHost_sound h
  exact ⟨s, hm, C01Spec.matchHP_names hM⟩

/-- an answer of a stage (`pathOnlyS`, `hostOnlyS`: direct, else slash-adjusted over all members or those ending in a
    literal '/') is a report of its search `run` over a subset of the members -/
theorem stage_report {run : SufSet → Bytes → Res} {S : SufSet} {path : Bytes} {f : Found}
    (h : ((first (run S path) false).orElse fun _ =>
      match adjust path with
      | none => none
      | some (p', added) => first (run (if added then flt endsWithLitSlash S else S) p') true) = some f) :
    ∃ S' p', (∀ sr ∈ S', sr ∈ S) ∧ (f.route, f.params) ∈ run S' p' := by
  cases h1 : first (run S path) false with
  | some g =>
    rw [h1] at h; cases h
    exact ⟨S, path, fun _ h => h, first_mem h1⟩
  | none =>
    rw [h1] at h
    cases ha : adjust path with
    | none => rw [ha] at h; cases h
    | some x =>
      obtain ⟨p', added⟩ := x
      rw [ha] at h
      cases added with
      | false => exact ⟨S, p', fun _ h => h, first_mem h⟩
      | true => exact ⟨_, p', fun _ h => (List.mem_filter.mp h).1, first_mem h⟩

/-- every answer of the specification names a member pattern of the answering route and binds exactly its wildcards -/
theorem routeS_answer {S : SufSet} {hostPort path : Bytes} {f : Found} (h : routeS S hostPort path = some f) :
    ∃ s, (s, f.route) ∈ S ∧ f.params.map Prod.fst = wildNames s := by
  have hP : pathOnlyS (S.filter headSlash) path [] = some f →
      ∃ s, (s, f.route) ∈ S ∧ f.params.map Prod.fst = wildNames s := fun h => by
    obtain ⟨S', p', hsub, hm⟩ := stage_report (run := fun S p => specAll S p []) h
    obtain ⟨s, hs, hn⟩ := names_of_specAll hm
    exact ⟨s, (List.mem_filter.mp (hsub _ hs)).1, hn⟩
  unfold routeS at h
  simp only at h
  split at h
  · exact hP h
  · cases hh : hostOnlyS (S.filter (fun sr => !headSlash sr)) (stripHostPort hostPort) path [] with
    | some g =>
      rw [hh] at h; cases h
      obtain ⟨S', p', hsub, hm⟩ := stage_report (run := fun S p => specHost S (stripHostPort hostPort) p []) hh
      obtain ⟨s, hs, hn⟩ := names_of_specHost hm
      exact ⟨s, (List.mem_filter.mp (hsub _ hs)).1, hn⟩
    | none => rw [hh] at h; exact hP h

/-- the answer of `routeS` behind a `found` result of `lookup` on a reachable tree -/
theorem found_routeS {t : Tree} (hg : Good t) {m hostPort path : Bytes} (hn : noDbl path = true)
    (hs : SLASH ∉ stripHostPort hostPort) {r : Route} {ps : Binds} {tsr : Bool}
    (h : lookup t.roots m hostPort path = .found r ps tsr) :
    routeS (sufsOfMethod t.roots m) hostPort path = some ⟨r, ps, tsr⟩ := by
  rw [C01.lookup_eq_spec_good hg m hostPort path hn hs] at h
  cases hr : routeS (sufsOfMethod t.roots m) hostPort path with
  | none => rw [hr] at h; cases h
  | some f =>
    rw [hr] at h
    simp only [toResult] at h
    injection h with h1 h2 h3
    subst h1 h2 h3; rfl

/-- **every answer of the matcher carries exactly ParamsLen parameters**: on a reachable-state tree, for every request
    (path without empty segment, Host without '/'), a found route comes with as many parameters as its pattern has
    wildcards — both for direct and for trailing-slash answers (tsrParams) -/
theorem params_len_eq_psLen {t : Tree} (hg : Good t) (m hostPort path : Bytes) (hn : noDbl path = true)
    (hs : SLASH ∉ stripHostPort hostPort) (r : Route) (ps : Binds) (tsr : Bool)
    (h : lookup t.roots m hostPort path = .found r ps tsr) : ps.length = r.psLen := by
  obtain ⟨s, hs, hn⟩ := routeS_answer (found_routeS hg hn hs h)
  have hp : s = r.pattern := (C01.mem_sufsOfMethod hg hs).2
  rw [← List.length_map (f := Prod.fst), hn, wildNames_length, hp]; rfl

/-! ### the tree's `maxParams` dominates the parameter count of every registered route -/

theorem psLen_of_pattern {r r' : Route} (h : r.pattern = r'.pattern) : r.psLen = r'.psLen := by
  unfold Route.psLen; rw [h]

/-- simulation invariant extended with the capacity bound -/
def Cap (t : Tree) (s : Store) : Prop := Sim t s ∧ ∀ e ∈ s, e.2.psLen ≤ t.maxParams

theorem cap_new : Cap newTree [] := ⟨sim_new, by intro e h; cases h⟩

theorem insert_maxParams {t t' : Tree} {m : Bytes} {r : Route} {c : InsCase} (h : t.insert m r = .ok (t', c)) :
    t'.maxParams = max t.maxParams r.psLen := by
  unfold Tree.insert at h
  simp only at h
  split at h
  · cases h
  · split at h
    · cases h
    · simp only [Except.ok.injEq, Prod.mk.injEq] at h
      rw [← h.1]

theorem update_maxParams {t t' : Tree} {m : Bytes} {r : Route} (h : t.update m r = some t') :
    t'.maxParams = t.maxParams := by
  unfold Tree.update at h
  split at h
  · cases h
  · split at h
    · cases h
    · simp only [Option.some.injEq] at h; rw [← h]

theorem remove_maxParams {t t' : Tree} {m : Bytes} {toks : List Tok} {old : Route} {c : RemCase}
    (h : t.remove m toks = some (t', old, c)) : t'.maxParams = t.maxParams := by
  unfold Tree.remove at h
  split at h
  · cases h
  · split at h
    · cases h
    · simp only [Option.some.injEq, Prod.mk.injEq] at h; rw [← h.1]

theorem truncate_maxParams (t : Tree) (ms : List Bytes) : (t.truncate ms).maxParams = t.maxParams := by
  unfold Tree.truncate
  split <;> rfl

/-- the capacity never shrinks, and after a successful insert it covers the inserted route -/
theorem stepModel_maxParams (t : Tree) (op : Op) :
    t.maxParams ≤ (stepModel t op).1.maxParams ∧
      ∀ m r y, op = .handle m r → t.insert m r = .ok y → r.psLen ≤ (stepModel t op).1.maxParams := by
  cases op with
  | handle m r =>
    simp only [stepModel]
    cases hi : t.insert m r with
    | error e => cases e <;> exact ⟨Nat.le_refl _, fun _ _ _ he h' => by cases he; rw [hi] at h'; cases h'⟩
    | ok y =>
      obtain ⟨t', c⟩ := y
      simp only
      rw [insert_maxParams hi]
      exact ⟨Nat.le_max_left _ _, fun _ _ _ he _ => by cases he; exact Nat.le_max_right _ _⟩
  | update m r =>
    refine ⟨?_, fun _ _ _ he => nomatch he⟩
    simp only [stepModel]
    cases hu : t.update m r with
    | none => exact Nat.le_refl _
    | some t' => exact Nat.le_of_eq (update_maxParams hu).symm
  | delete m pat =>
    refine ⟨?_, fun _ _ _ he => nomatch he⟩
    simp only [stepModel]
    cases hr : t.remove m pat with
    | none => exact Nat.le_refl _
    | some y => obtain ⟨t', old, c⟩ := y; exact Nat.le_of_eq (remove_maxParams hr).symm
  | truncate ms => exact ⟨Nat.le_of_eq (truncate_maxParams t ms).symm, fun _ _ _ he => nomatch he⟩

theorem cap_step {t : Tree} {s : Store} (op : Op) (h : Cap t s) (hv : op.valid = true) :
    Cap (stepModel t op).1 (stepSpec s op).1 := by
  refine ⟨(step_refines op h.1 hv).1, fun e he => ?_⟩
  obtain ⟨hmono, hnew⟩ := stepModel_maxParams t op
  rcases stepSpec_entry s op e he with ⟨x, hx, hp⟩ | ⟨m, r, rfl, rfl⟩
  · exact psLen_of_pattern hp ▸ Nat.le_trans (h.2 x hx) hmono
  · cases hi : t.insert m r with
    | ok y => exact hnew m r y rfl hi
    | error err =>
      -- the tree refused the route, so did the map: the entry was there before
      have href := handle_refines (m := m) h.1 hv
      rw [hi] at href
      have he' : (m, r) ∈ (s.handle m r).1 := he
      cases hs : s.handle m r with
      | mk s' o =>
        rw [hs] at href he'
        have : s' = s := by cases err <;> cases o <;> simp only at href <;> exact href.1
        exact Nat.le_trans (h.2 _ (this ▸ he')) hmono

theorem cap_run : ∀ (ops : List Op) {t : Tree} {s : Store}, Cap t s → (∀ op ∈ ops, op.valid = true) →
    Cap (runModel t ops).1 (runSpec s ops).1
  | [], _, _, h, _ => h
  | op :: ops, t, s, h, hv => by
    have h1 := cap_step op h (hv op (by simp))
    exact cap_run ops h1 (fun o ho => hv o (by simp [ho]))

/-- a route answered by the matcher is a registered route of that method -/
theorem found_is_registered {t : Tree} (hg : Good t) (m hostPort path : Bytes) (hn : noDbl path = true)
    (hs : SLASH ∉ stripHostPort hostPort) (r : Route) (ps : Binds) (tsr : Bool)
    (h : lookup t.roots m hostPort path = .found r ps tsr) : r ∈ routesOf t m := by
  obtain ⟨s, hs, _⟩ := routeS_answer (found_routeS hg hn hs h)
  exact (C01.mem_sufsOfMethod hg hs).1

/-- **C16 (logic part): the parameters of every answer fit in the pre-sized buffer.** After any history, for every
    request, the parameter list the matcher reports for the selected route (direct or trailing-slash) has exactly
    `ParamsLen` entries and that number is at most the `maxParams` with which the tree's pooled contexts are allocated
    (`make(Params, 0, t.maxParams)`): recording the parameters of a match never has to grow the buffer. -/
theorem params_fit_capacity (ops : List Op) (hv : ∀ op ∈ ops, op.valid = true)
    (m hostPort path : Bytes) (hn : noDbl path = true) (hs : SLASH ∉ stripHostPort hostPort)
    (r : Route) (ps : Binds) (tsr : Bool)
    (h : lookup (runModel newTree ops).1.roots m hostPort path = .found r ps tsr) :
    ps.length = r.psLen ∧ ps.length ≤ (runModel newTree ops).1.maxParams := by
  have hcap := cap_run ops cap_new hv
  have hg := hcap.1.good
  have hlen := params_len_eq_psLen hg m hostPort path hn hs r ps tsr h
  refine ⟨hlen, ?_⟩
  rw [hlen]
  have hreg := found_is_registered hg m hostPort path hn hs r ps tsr h
  have hperm := hcap.1.abs.1 m
  have hin : r ∈ (runSpec [] ops).1.routesOf m := hperm.mem_iff.mp hreg
  unfold Store.routesOf at hin
  simp only [List.mem_map, List.mem_filter] at hin
  obtain ⟨e, ⟨he, _⟩, rfl⟩ := hin
  exact hcap.2 e he

end Fox.C16
