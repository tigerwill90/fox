import FoxModel.Lemmas.Spec.Stage
import FoxModel.Lemmas.Spec.Eval
/-
  Properties C01 / C08 / C09, specification side: the executable routing specification `Spec.route`
  (the oracle of the differential check) means what the property texts say.
  Declarative vocabulary: `FoxModel/Spec/Match.lean`; vocabulary of the staging statements (`HostMode`, `cand`,
  `PathOutcome`, `RouteOutcome`, ...): `FoxModel/Lemmas/Spec/Stage.lean`. Helper lemmas: `FoxModel/Lemmas/SpecMeaning.lean`
  and the modules under `FoxModel/Lemmas/Spec/`.
-/
namespace Fox.C01Spec
open Fox Fox.Spec

/-! ## the enumeration produces exactly the declarative matches -/

/-- **Soundness.** Every result `(r, bs)` that the specification's search reports for `path` comes from a member
    pattern `s` of route `r` that really matches `path`, and the reported bindings are the incoming ones followed
    by that match's captures. The oracle never reports a route that does not match. -/
theorem specAll_sound {S : SufSet} {path : Bytes} {ps : Binds} {r : Route} {bs : Binds}
    (h : (r, bs) ∈ specAll S path ps) :
    ∃ s bs', (s, r) ∈ S ∧ bs = ps ++ bs' ∧ Match SLASH s path bs' := Spec.specAll_sound h

/-- **Completeness.** Every declarative match of a member pattern is reported by the search. The oracle never
    misses a matching route. -/
theorem specAll_complete {S : SufSet} {path : Bytes} {ps : Binds} {s : List Tok} {r : Route} {bs' : Binds}
    (hm : (s, r) ∈ S) (hM : Match SLASH s path bs') : (r, ps ++ bs') ∈ specAll S path ps :=
  (enumPath path).complete hm hM

/-- Soundness of the hostname search: a reported result is a member pattern that splits in front of a literal
    '/' into a host part matching the whole host (labels delimited by '.', no catch-all) and a path part matching
    the whole path. -/
theorem specHost_sound {S : SufSet} {host path : Bytes} {ps : Binds} {r : Route} {bs : Binds}
    (h : (r, bs) ∈ specHost S host path ps) :
    ∃ s bs', (s, r) ∈ S ∧ bs = ps ++ bs' ∧ MatchHP s host path bs' := Spec.specHost_sound h

/-- Every whole-pattern match of a member pattern is reported by the hostname search. -/
theorem specHost_complete {S : SufSet} {host path : Bytes} {ps : Binds} {s : List Tok} {r : Route} {bs' : Binds}
    (hm : (s, r) ∈ S) (hM : MatchHP s host path bs') : (r, ps ++ bs') ∈ specHost S host path ps :=
  (enumHost host path).complete hm hM

/-! ## what a match gives the user -/

/-- Substituting the reported values for the wildcards of the pattern reproduces the matched text exactly. -/
theorem subst_of_match {d : UInt8} {s : List Tok} {x : Bytes} {bs : Binds} (h : Match d s x bs) :
    subst s bs = some x := Spec.subst_of_match h

/-- The values are reported under the pattern's wildcard names, in pattern order. -/
theorem names_of_match {d : UInt8} {s : List Tok} {x : Bytes} {bs : Binds} (h : Match d s x bs) :
    bs.map Prod.fst = wildNames s := Spec.names_of_match h

/-- One binding per wildcard: the number of reported parameters is the number of wildcards of the pattern. -/
theorem count_of_match {d : UInt8} {s : List Tok} {x : Bytes} {bs : Binds} (h : Match d s x bs) :
    bs.length = (s.filter isWild).length := by
  rw [← wildNames_length, ← Spec.names_of_match h, List.length_map]

/-- Capture shape: every captured value is non-empty, and a `{param}` value does not contain the segment
    delimiter ('/' in the path part, '.' in the hostname part). -/
theorem caps_of_match {d : UInt8} {s : List Tok} {x : Bytes} {bs : Binds} (h : Match d s x bs) :
    CapsOK d s bs := Spec.caps_of_match h

/-- A captured value only contains bytes of the matched text; in particular a hostname parameter contains no
    '/' when the host contains none. -/
theorem values_subset {d : UInt8} {s : List Tok} {x : Bytes} {bs : Binds} (h : Match d s x bs) :
    ∀ nv ∈ bs, ∀ c ∈ nv.2, c ∈ x := Spec.values_subset h

/-- On a path without empty segments an infix catch-all `*{n}` may capture any non-empty value that does not
    start with '/' and is followed by a '/', at which the rest of the pattern continues: the remaining side
    conditions of `InfixCap` are automatic there. -/
theorem infix_rule_on_clean_paths {d : UInt8} {n v : Bytes} {ts : List Tok} {s : Bytes} {bs : Binds}
    (hv : v ≠ []) (hh : v.head? ≠ some SLASH) (hts : ts ≠ []) (hs : s.head? = some SLASH)
    (hclean : NoDbl (v ++ s)) (hM : Match d ts s bs) :
    Match d (.catchAll n :: ts) (v ++ s) ((n, v) :: bs) :=
  Match.infix (InfixCap.of_clean hv hh hs hclean) hts hs hM

/-- A whole-pattern match `(host, path)`: substituting the values into the pattern reproduces the request host
    followed by the request path. -/
theorem matchHP_subst {pat : List Tok} {host path : Bytes} {bs : Binds} (h : MatchHP pat host path bs) :
    subst pat bs = some (host ++ path) := by
  obtain ⟨hs, pp, bh, bp, rfl, _, _, h4, h5, rfl⟩ := h
  exact subst_append (Spec.subst_of_match h4) (Spec.subst_of_match h5)

/-- ... and the names are the pattern's wildcard names in pattern order (host wildcards first). -/
theorem matchHP_names {pat : List Tok} {host path : Bytes} {bs : Binds} (h : MatchHP pat host path bs) :
    bs.map Prod.fst = wildNames pat := by
  obtain ⟨hs, pp, bh, bp, rfl, _, _, h4, h5, rfl⟩ := h
  rw [List.map_append, wildNames_append, Spec.names_of_match h4, Spec.names_of_match h5]

/-- Capture shape for a hostname route: host values are non-empty and dot-free (and contain no '/' if the
    host contains none), path values are non-empty and `{param}` values slash-free. -/
theorem matchHP_caps {pat : List Tok} {host path : Bytes} {bs : Binds} (h : MatchHP pat host path bs) :
    ∃ hs pp bh bp, pat = hs ++ pp ∧ bs = bh ++ bp ∧ CapsOK DOT hs bh ∧ CapsOK SLASH pp bp ∧
      (SLASH ∉ host → ∀ nv ∈ bh, SLASH ∉ nv.2) := by
  obtain ⟨hs, pp, bh, bp, rfl, _, _, h4, h5, rfl⟩ := h
  exact ⟨hs, pp, bh, bp, rfl, rfl, Spec.caps_of_match h4, Spec.caps_of_match h5,
    fun hh nv hnv hc => hh (Spec.values_subset h4 nv hnv _ hc)⟩

/-- a host without '/' cannot consume a literal '/' of the pattern -/
theorem no_litSlash_of_match {d : UInt8} {hs : List Tok} {host : Bytes} {bh : Binds} (h : Match d hs host bh)
    (hnc : NoCatch hs) (hh : SLASH ∉ host) : Tok.lit SLASH ∉ hs := by
  induction h with
  | nil => simp
  | lit _ ih =>
    simp only [List.mem_cons, not_or] at hh ⊢
    refine ⟨fun e => hh.1 (Tok.lit.inj e), ih hnc.tail hh.2⟩
  | param _ _ _ _ ih =>
    simp only [List.mem_cons, not_or, List.mem_append] at hh ⊢
    exact ⟨by simp, ih hnc.tail hh.2⟩
  | suffix _ | «infix» _ _ _ _ _ => exact nomatch hnc.head

theorem split_unique {α} {x : α} {a a' b b' : List α} (h : a ++ b = a' ++ b') (hb : b.head? = some x)
    (hb' : b'.head? = some x) (ha : x ∉ a) (ha' : x ∉ a') : a = a' ∧ b = b' := by
  -- one of `a`, `a'` extends the other by some `c`; a non-empty `c` would begin with `x`
  rcases List.append_eq_append_iff.1 h with ⟨c, rfl, rfl⟩ | ⟨c, rfl, rfl⟩
  · cases c with
    | nil => exact ⟨(List.append_nil a).symm, rfl⟩
    | cons y c =>
      obtain rfl : y = x := Option.some.inj hb
      exact absurd (List.mem_append_right a (List.mem_cons_self ..)) ha'
  · cases c with
    | nil => exact ⟨List.append_nil a', rfl⟩
    | cons y c =>
      obtain rfl : y = x := Option.some.inj hb'
      exact absurd (List.mem_append_right a' (List.mem_cons_self ..)) ha

/-- If the host contains no '/', the host/path split of a whole-pattern match is the *first* literal '/' of the
    pattern. -/
theorem matchHP_split_unique {pat : List Tok} {host path : Bytes} {bs : Binds} (h : MatchHP pat host path bs)
    (hh : SLASH ∉ host) {hs pp : List Tok} (hp : pat = hs ++ pp) (hhead : pp.head? = some (.lit SLASH))
    (hno : Tok.lit SLASH ∉ hs) :
    NoCatch hs ∧ ∃ bh bp, Match DOT hs host bh ∧ Match SLASH pp path bp ∧ bs = bh ++ bp := by
  obtain ⟨hs', pp', bh, bp, rfl, h2, h3, h4, h5, rfl⟩ := h
  obtain ⟨rfl, rfl⟩ := C01Spec.split_unique hp h2 hhead (no_litSlash_of_match h4 h3 hh) hno
  exact ⟨h3, bh, bp, h4, h5, rfl⟩

/-- For a hostname route whose recorded split (`hostToks`) is in front of the first literal '/' of its pattern,
    and a host without '/', matching the request with the recorded split (`MatchReq`) is the same as the
    split-agnostic `MatchHP` that the specification's search computes. -/
theorem matchReq_iff_matchHP {r : Route} {host path : Bytes} {bs : Binds} (hr : r.hostToks ≠ 0)
    (hsplit : r.pathPart.head? = some (.lit SLASH)) (hno : Tok.lit SLASH ∉ r.hostPart) (hh : SLASH ∉ host) :
    MatchReq r host path bs ↔ MatchHP r.pattern host path bs := by
  have hp : r.pattern = r.hostPart ++ r.pathPart := (List.take_append_drop _ _).symm
  constructor
  · intro h
    simp only [MatchReq, hr, if_false] at h
    obtain ⟨h1, h2, bh, bp, h3, h4, h5⟩ := h
    exact ⟨_, _, bh, bp, hp, h1, h2, h3, h4, h5⟩
  · intro h
    simp only [MatchReq, hr, if_false]
    obtain ⟨h1, h2⟩ := matchHP_split_unique h hh hp hsplit hno
    exact ⟨hsplit, h1, h2⟩

/-- A request matched by a route reproduces the request text: the path for a path-only route, host followed by
    path for a hostname route. -/
theorem matchReq_subst {r : Route} {host path : Bytes} {bs : Binds} (h : MatchReq r host path bs) :
    subst r.pattern bs = some (if r.hostToks = 0 then path else host ++ path) := by
  unfold MatchReq at h
  split at h
  · rename_i h0; rw [if_pos h0]; exact Spec.subst_of_match h
  · rename_i h0; rw [if_neg h0]
    obtain ⟨_, _, bh, bp, h3, h4, rfl⟩ := h
    have hp : r.pattern = r.hostPart ++ r.pathPart := (List.take_append_drop _ _).symm
    rw [hp]
    exact subst_append (Spec.subst_of_match h3) (Spec.subst_of_match h4)

/-! ## priority -/

/-- The choice order is a total order on traces (so "smallest trace" is meaningful). -/
theorem traceLe_total_order :
    (∀ a, traceLe a a) ∧ (∀ a b c, traceLe a b → traceLe b c → traceLe a c) ∧
    (∀ a b, traceLe a b ∨ traceLe b a) ∧ (∀ a b, traceLe a b → traceLe b a → a = b) :=
  ⟨traceLe_refl, fun _ _ _ => traceLe_trans, traceLe_total, fun _ _ => traceLe_antisymm⟩

/-- **Priority.** For a name-coherent route set, the first result of the specification's search is a
    highest-priority match: at the first position where two matches make different choices the winner took
    static text rather than a `{param}`, a `{param}` rather than a catch-all, a shorter infix capture rather
    than a longer one, an infix catch-all rather than a catch-all to the end - and a lower-priority choice is
    taken only when every higher-priority choice at that position fails to complete (backtracking). -/
theorem specAll_head_isBest {R : List Route} (hR : CoherentRoutes R) {path : Bytes} {r : Route} {bs : Binds}
    {tl : Res} (h : specAll (sufsOf R) path [] = (r, bs) :: tl) : IsBest R path r bs :=
  (enumPath path).head_isBest hR h

/-- the same for hostname routes -/
theorem specHost_head_isBest {R : List Route} (hR : CoherentRoutes R) {host path : Bytes} {r : Route}
    {bs : Binds} {tl : Res} (h : specHost (sufsOf R) host path [] = (r, bs) :: tl) :
    IsBestHP R host path r bs :=
  (enumHost host path).head_isBest hR h

/-- The whole enumeration is in non-decreasing trace order (statement on the trace-instrumented copy
    `specAllT` of the search, whose projection is `specAll`). -/
theorem specAll_sorted {S : SufSet} (hS : Coherent S) (path : Bytes) (ps : Binds) :
    untag (specAllT S path ps) = specAll S path ps ∧
    (specAllT S path ps).Pairwise (fun x y => traceLe x.2.2 y.2.2) :=
  ⟨untag_specAllT S path ps, specAllT_sorted path S ps hS⟩

/-- Local form of the priority rule, valid for every route set (coherent or not): the search at a non-empty
    path is the concatenation static branch ++ `{param}` branch ++ infix catch-all branch (leftmost '/' first)
    ++ suffix catch-all, so its first result is taken from the first non-empty branch in this order. -/
theorem specAll_branches (S : SufSet) (b : UInt8) (rest : Bytes) (ps : Binds) :
    specAll S (b :: rest) ps =
      specAll (advLit b S) rest ps
      ++ (if segEnd SLASH (b :: rest) = 0 then [] else
           (paramNames S).flatMap fun n =>
             specAll (advParamNamed n S) ((b :: rest).drop (segEnd SLASH (b :: rest)))
               (ps ++ [(n, (b :: rest).take (segEnd SLASH (b :: rest)))]))
      ++ (if b = SLASH then [] else (infixNames S).flatMap fun n => specInfix (advInfixNamed n S) n [b] rest ps)
      ++ suffixCatch S (b :: rest) ps := specAll_cons S b rest ps

/-! ## staging of `Spec.route` (C08, C09) -/

theorem endsWithLitSlash_iff (r : Route) :
    endsWithLitSlash r = true ↔ r.pattern.getLast? = some (.lit SLASH) :=
  beq_iff_eq

theorem mem_cand_added {R : List Route} {r : Route} :
    r ∈ cand R true ↔ r ∈ R ∧ r.pattern.getLast? = some (.lit SLASH) := by
  simp only [cand, if_true, List.mem_filter, endsWithLitSlash_iff]

/-- **Staging of the specification, unconditional form**: whatever `Spec.route` answers is a genuine match
    (`HitH`/`HitP`) of the stage that applies, found in the documented stage order. -/
theorem route_outcome_hit (rs : List Route) (hostPort path : Bytes) :
    RouteOutcome HitH HitP rs hostPort path (route rs hostPort path) :=
  route_outcome_of rs hostPort path (fun _ p _ _ _ h => (enumHost _ p).head_hit h) fun _ p _ _ _ h => (enumPath p).head_hit h

/-- **Staging of the specification** (C01 "hostname routes before path-only ones", C08, C09): for a
    name-coherent route set, `Spec.route` answers
    * in hostname mode: the best direct hostname match if there is one; else the best slash-adjusted hostname
      match if there is one; else what the path-only stage answers;
    * the path-only stage: the best direct match; else the best slash-adjusted match; else nothing. -/
theorem route_outcome {rs : List Route} (hc : CoherentRoutes rs) (hostPort path : Bytes) :
    RouteOutcome IsBestHP IsBest rs hostPort path (route rs hostPort path) :=
  route_outcome_of rs hostPort path
    (fun added _ _ _ _ h => specHost_head_isBest (cand_coherent (hc.filter _) added) h)
    fun added _ _ _ _ h => specAll_head_isBest (cand_coherent (hc.filter _) added) h

/-- the ways an answer of `Spec.route` arises: from the hostname stage (in hostname mode), directly or slash-adjusted;
    or from the path-only stage, in hostname mode only after the hostname stage found nothing -/
theorem route_answer_cases {rs : List Route} {hostPort path : Bytes} {f : Found} (h : route rs hostPort path = some f) :
    (HostMode rs hostPort ∧
      ((f.tsr = false ∧ HitH (hostRoutes rs) (stripHostPort hostPort) path f.route f.params) ∨
       (f.tsr = true ∧ NoDirectH (hostRoutes rs) (stripHostPort hostPort) path ∧ ∃ p' added,
          adjust path = some (p', added) ∧ HitH (cand (hostRoutes rs) added) (stripHostPort hostPort) p' f.route f.params))) ∨
    ((HostMode rs hostPort → NoDirectH (hostRoutes rs) (stripHostPort hostPort) path ∧
        NoTsrH (hostRoutes rs) (stripHostPort hostPort) path) ∧
      PathOutcome HitP (pathRoutes rs) path (some f)) := by
  have ho := route_outcome_hit rs hostPort path
  rw [h] at ho
  by_cases hm : HostMode rs hostPort
  · rcases ho.1 hm with ⟨f', h1, ht, hq⟩ | ⟨hn, f', h1, ht, hq⟩ | ⟨hn, hn2, hp⟩
    · cases h1; exact Or.inl ⟨hm, Or.inl ⟨ht, hq⟩⟩
    · cases h1; exact Or.inl ⟨hm, Or.inr ⟨ht, hn, hq⟩⟩
    · exact Or.inr ⟨fun _ => ⟨hn, hn2⟩, hp⟩
  · exact Or.inr ⟨fun hm' => absurd hm' hm, ho.2 hm⟩

theorem isHostRoute_of_mem {rs : List Route} {r : Route} (h : r ∈ hostRoutes rs) : isHostRoute r = true :=
  (List.mem_filter.1 h).2

/-- **Direct before slash-adjusted** (C08): if some route of the stage that applies matches the request
    directly, `Spec.route` answers with `tsr = false` and the best such match. -/
theorem route_direct_first {rs : List Route} (hc : CoherentRoutes rs) (hostPort path : Bytes) :
    (HostMode rs hostPort → ¬ NoDirectH (hostRoutes rs) (stripHostPort hostPort) path →
      ∃ f, route rs hostPort path = some f ∧ f.tsr = false ∧
        IsBestHP (hostRoutes rs) (stripHostPort hostPort) path f.route f.params) ∧
    (¬ HostMode rs hostPort → ¬ NoDirectP (pathRoutes rs) path →
      ∃ f, route rs hostPort path = some f ∧ f.tsr = false ∧ IsBest (pathRoutes rs) path f.route f.params) := by
  have ho := route_outcome hc hostPort path
  refine ⟨fun hm hex => ?_, fun hm hex => ?_⟩
  · rcases ho.1 hm with ⟨f, h1, h2, h3⟩ | ⟨hn, _⟩ | ⟨hn, _⟩
    · exact ⟨f, h1, h2, h3⟩
    · exact absurd hn hex
    · exact absurd hn hex
  · have hp := ho.2 hm
    cases h : route rs hostPort path with
    | none => rw [h] at hp; exact absurd hp.1 hex
    | some f =>
      rw [h] at hp
      rcases hp with ⟨h2, h3⟩ | ⟨_, hn, _⟩
      · exact ⟨f, rfl, h2, h3⟩
      · exact absurd hn hex

/-- **A trailing-slash answer only without a direct match** (C08): if `Spec.route` answers with `tsr = true`
    then in hostname mode no hostname route matches the request directly, and if the answering route is a
    path-only route no path-only route matches the path directly. -/
theorem route_tsr_only_if_no_direct {rs : List Route} {hostPort path : Bytes} {f : Found}
    (h : route rs hostPort path = some f) (ht : f.tsr = true) :
    (HostMode rs hostPort → NoDirectH (hostRoutes rs) (stripHostPort hostPort) path) ∧
    (isHostRoute f.route = false → NoDirectP (pathRoutes rs) path) := by
  rcases route_answer_cases h with ⟨hm, ⟨ht', _⟩ | ⟨_, hn, p', added, _, hq⟩⟩ | ⟨hH, ⟨ht', _⟩ | ⟨_, hn, _⟩⟩
  · rw [ht] at ht'; cases ht'
  · exact ⟨fun _ => hn, fun hf => by rw [isHostRoute_of_mem (mem_cand hq.1)] at hf; cases hf⟩
  · rw [ht] at ht'; cases ht'
  · exact ⟨fun hm => (hH hm).1, fun _ => hn⟩

/-- **Hostname routes before path-only routes; path-only routes are the fallback** (C09): in hostname mode a
    path-only route answers only if no hostname route matches the request directly and none matches it
    slash-adjusted. -/
theorem route_host_before_path {rs : List Route} {hostPort path : Bytes} {f : Found}
    (h : route rs hostPort path = some f) (hf : isHostRoute f.route = false) (hm : HostMode rs hostPort) :
    NoDirectH (hostRoutes rs) (stripHostPort hostPort) path ∧ NoTsrH (hostRoutes rs) (stripHostPort hostPort) path := by
  rcases route_answer_cases h with ⟨_, ⟨_, hq⟩ | ⟨_, _, p', added, _, hq⟩⟩ | ⟨hH, _⟩
  · rw [isHostRoute_of_mem hq.1] at hf; cases hf
  · rw [isHostRoute_of_mem (mem_cand hq.1)] at hf; cases hf
  · exact hH hm

/-- **A method without hostname routes ignores the Host** (C09). -/
theorem route_pathonly_ignores_host {rs : List Route} (h : hostRoutes rs = []) (host1 host2 path : Bytes) :
    route rs host1 path = route rs host2 path := by
  rw [route_pathMode (fun hm => hm.1 h), route_pathMode (fun hm => hm.1 h)]

/-- **No answer exactly when nothing matches**: `Spec.route` answers `none` iff (in hostname mode) no hostname
    route matches directly or slash-adjusted and no path-only route matches directly or slash-adjusted. -/
theorem route_none_iff (rs : List Route) (hostPort path : Bytes) :
    route rs hostPort path = none ↔
      (HostMode rs hostPort → NoDirectH (hostRoutes rs) (stripHostPort hostPort) path ∧
        NoTsrH (hostRoutes rs) (stripHostPort hostPort) path) ∧
      NoDirectP (pathRoutes rs) path ∧ NoTsrP (pathRoutes rs) path := by
  constructor
  · intro h
    have ho := route_outcome_hit rs hostPort path
    rw [h] at ho
    by_cases hm : HostMode rs hostPort
    · rcases ho.1 hm with ⟨f', h1, _⟩ | ⟨_, f', h1, _⟩ | ⟨hn, hn2, hp⟩
      · simp at h1
      · simp at h1
      · exact ⟨fun _ => ⟨hn, hn2⟩, hp⟩
    · exact ⟨fun hm' => absurd hm' hm, ho.2 hm⟩
  · rintro ⟨hH, hP1, hP2⟩
    cases h : route rs hostPort path with
    | none => rfl
    | some f =>
      exfalso
      rcases route_answer_cases h with ⟨hm, ⟨_, hq⟩ | ⟨_, _, p', added, ha, hq⟩⟩ | ⟨_, ⟨_, hq⟩ | ⟨_, _, p', added, ha, hq⟩⟩
      · exact (hH hm).1 _ hq.1 _ hq.2
      · exact (hH hm).2 p' added ha _ hq.1 _ hq.2
      · exact hP1 _ hq.1 _ hq.2
      · exact hP2 p' added ha _ hq.1 _ hq.2

/-- the answering route is one of `rs`; with `tsr = false` it matches the request as is, with `tsr = true` it
    matches the slash-adjusted path (and ends in a literal '/' if a slash was added). A hostname route answers
    only in hostname mode and matches the stripped host; a path-only route matches the path whatever the host. -/
def AnswerOK (rs : List Route) (hostPort path : Bytes) (f : Found) : Prop :=
  f.route ∈ rs ∧ ∃ p', ((f.tsr = false ∧ p' = path) ∨ (f.tsr = true ∧ ∃ added, adjust path = some (p', added) ∧
      (added = true → f.route.pattern.getLast? = some (.lit SLASH)))) ∧
    ((isHostRoute f.route = true ∧ HostMode rs hostPort ∧
        MatchHP f.route.pattern (stripHostPort hostPort) p' f.params) ∨
     (isHostRoute f.route = false ∧ Match SLASH f.route.pattern p' f.params))

/-- **The answer is a registered route that matches** (C01), see `AnswerOK`. -/
theorem route_sound {rs : List Route} {hostPort path : Bytes} {f : Found} (h : route rs hostPort path = some f) :
    AnswerOK rs hostPort path f := by
  have hadd : ∀ {R : List Route} {added : Bool}, f.route ∈ cand R added →
      (added = true → f.route.pattern.getLast? = some (.lit SLASH)) := by
    intro R added hmem ha; subst ha; exact (mem_cand_added.1 hmem).2
  rcases route_answer_cases h with ⟨hm, ⟨ht, hq⟩ | ⟨ht, _, p', added, ha, hq⟩⟩ | ⟨_, ⟨ht, hq⟩ | ⟨ht, _, p', added, ha, hq⟩⟩
  · have := List.mem_filter.1 hq.1
    exact ⟨this.1, path, Or.inl ⟨ht, rfl⟩, Or.inl ⟨this.2, hm, hq.2⟩⟩
  · have := List.mem_filter.1 (mem_cand hq.1)
    exact ⟨this.1, p', Or.inr ⟨ht, added, ha, hadd hq.1⟩, Or.inl ⟨this.2, hm, hq.2⟩⟩
  · have := List.mem_filter.1 hq.1
    exact ⟨this.1, path, Or.inl ⟨ht, rfl⟩, Or.inr ⟨by simpa using this.2, hq.2⟩⟩
  · have := List.mem_filter.1 (mem_cand hq.1)
    exact ⟨this.1, p', Or.inr ⟨ht, added, ha, hadd hq.1⟩, Or.inr ⟨by simpa using this.2, hq.2⟩⟩

/-! ### irrelevant routes (C08) -/

/-- the route `r` is irrelevant for the request: it matches neither the request nor its slash-adjusted form
    (for an added slash only patterns ending in a literal '/' count) - as a hostname route against the stripped
    host, as a path-only route against the path alone -/
def Irrelevant (r : Route) (hostPort path : Bytes) : Prop :=
  if isHostRoute r = true then
    (∀ bs, ¬ MatchHP r.pattern (stripHostPort hostPort) path bs) ∧
    (∀ p' added, adjust path = some (p', added) → (added = true → endsWithLitSlash r = true) →
      ∀ bs, ¬ MatchHP r.pattern (stripHostPort hostPort) p' bs)
  else
    (∀ bs, ¬ Match SLASH r.pattern path bs) ∧
    (∀ p' added, adjust path = some (p', added) → (added = true → endsWithLitSlash r = true) →
      ∀ bs, ¬ Match SLASH r.pattern p' bs)

/-- **Irrelevant routes never change the outcome** (C08): for a name-coherent route set, registering (anywhere
    in the list) a route that matches neither the request nor its slash-adjusted form leaves the answer of
    `Spec.route` unchanged. -/
theorem route_irrelevant {R1 R2 : List Route} {r : Route} {hostPort path : Bytes}
    (hc : CoherentRoutes (R1 ++ r :: R2)) (hirr : Irrelevant r hostPort path) :
    route (R1 ++ r :: R2) hostPort path = route (R1 ++ R2) hostPort path := by
  unfold Irrelevant at hirr
  rw [route_eq_orElse, route_eq_orElse, pathOnly_eq_stage, pathOnly_eq_stage]
  unfold hostRoutes pathRoutes
  rw [stage_filter_irrelevant (run := fun rs p => specHost (sufsOf rs) (stripHostPort hostPort) p []) isHostRoute
        (fun p => ∀ bs, ¬ MatchHP r.pattern (stripHostPort hostPort) p bs)
        (fun A B p hcAB hd => (enumHost _ p).irrelevant hcAB hd) hc (fun hp => by rwa [if_pos hp] at hirr),
    stage_filter_irrelevant (run := fun rs p => specAll (sufsOf rs) p []) (fun r => !isHostRoute r)
        (fun p => ∀ bs, ¬ Match SLASH r.pattern p bs)
        (fun A B p hcAB hd => (enumPath p).irrelevant hcAB hd) hc
        (fun hp => by rwa [if_neg (Bool.eq_false_iff.1 ((Bool.not_eq_true' _).mp hp))] at hirr)]

/-! ### `adjust` -/

/-- no trailing-slash action for the path "/" -/
theorem adjust_root : adjust [SLASH] = none := by simp [adjust]

theorem adjust_eq_none_iff (path : Bytes) : adjust path = none ↔ path = [SLASH] := by
  unfold adjust; split
  · simp [*]
  · split <;> simp [*]

/-- a path `p/` (other than "/") is adjusted by removing exactly that one slash -/
theorem adjust_remove (p : Bytes) (hp : p ≠ []) : adjust (p ++ [SLASH]) = some (p, false) := by
  have h1 : p ++ [SLASH] ≠ [SLASH] := by
    intro h
    have := congrArg List.length h
    simp at this
    exact hp this
  simp [adjust, h1, endsWithSlash]

/-- a path not ending in '/' is adjusted by adding exactly one slash -/
theorem adjust_add (p : Bytes) (hp : p.getLast? ≠ some SLASH) : adjust p = some (p ++ [SLASH], true) := by
  have h1 : p ≠ [SLASH] := by intro h; subst h; simp at hp
  simp [adjust, h1, endsWithSlash, hp]

/-- every adjustment is one of the two above -/
theorem adjust_cases {path p' : Bytes} {added : Bool} (h : adjust path = some (p', added)) :
    (added = false ∧ path = p' ++ [SLASH] ∧ p' ≠ []) ∨
    (added = true ∧ p' = path ++ [SLASH] ∧ path.getLast? ≠ some SLASH) := by
  unfold adjust at h
  split at h
  · cases h
  · rename_i h1
    split at h
    · rename_i h2
      obtain ⟨rfl, rfl⟩ := Prod.mk.inj (Option.some.inj h)
      obtain ⟨ys, rfl⟩ := List.getLast?_eq_some_iff.1 (beq_iff_eq.1 h2)
      rw [List.dropLast_concat]
      exact Or.inl ⟨rfl, rfl, fun h0 => h1 (by rw [h0]; rfl)⟩
    · rename_i h2
      obtain ⟨rfl, rfl⟩ := Prod.mk.inj (Option.some.inj h)
      exact Or.inr ⟨rfl, rfl, fun hl => h2 (beq_iff_eq.2 hl)⟩

/-! ### `stripHostPort` (C09: "with any port and one trailing dot removed") -/

/-- remove one trailing dot -/
def trimDot (x : Bytes) : Bytes := if x.getLast? = some DOT then x.dropLast else x

theorem trimDot_dot (h : Bytes) : trimDot (h ++ [DOT]) = h := by simp [trimDot]

theorem trimDot_id (h : Bytes) (hd : h.getLast? ≠ some DOT) : trimDot h = h := by simp [trimDot, hd]

/-- a host without ':' only loses one trailing dot -/
theorem stripHostPort_noPort (h : Bytes) (hc : COLON ∉ h) : stripHostPort h = trimDot h := by
  unfold stripHostPort trimDot
  by_cases h0 : h = []
  · subst h0; simp
  · simp [h0, hc]

theorem findIdx_append_cons {l : Bytes} {c : UInt8} (hc : c ∉ l) (r : Bytes) :
    (l ++ c :: r).findIdx (· == c) = l.length := by
  induction l with
  | nil => simp only [List.nil_append, List.findIdx_cons, beq_self_eq_true, cond_true, List.length_nil]
  | cons x l ih =>
    have hx : (x == c) = false := beq_eq_false_iff_ne.2 fun e => hc (e ▸ List.mem_cons_self ..)
    simp only [List.cons_append, List.findIdx_cons, hx, cond_false, ih fun h => hc (List.mem_cons_of_mem _ h),
      List.length_cons]

theorem findIdx_rev_port (h port : Bytes) (hp : COLON ∉ port) :
    ((h ++ COLON :: port).reverse.findIdx (· == COLON)) = port.length := by
  rw [List.reverse_append, List.reverse_cons, List.append_assoc, List.singleton_append,
    findIdx_append_cons (fun hm => hp (List.mem_reverse.1 hm)), List.length_reverse]

/-- `host:port` (no brackets, a single colon): the final ":port" is dropped, then one trailing dot -/
theorem stripHostPort_port (h port : Bytes) (hc : COLON ∉ h) (hl : 91 ∉ h) (hr : 93 ∉ h)
    (pc : COLON ∉ port) (pl : 91 ∉ port) (pr : 93 ∉ port) :
    stripHostPort (h ++ COLON :: port) = trimDot h := by
  -- the text does not begin with '[': with this at hand `simp` discards the bracket branch of the inner `match`
  have hhead : ∀ tl, h ++ COLON :: port = 91 :: tl → False := by
    intro tl e
    cases h with
    | nil => exact absurd (List.cons.inj e).1 (by decide)
    | cons c h' => exact hl ((List.cons.inj e).1 ▸ List.mem_cons_self ..)
  have hi : (h ++ COLON :: port).length - 1 - port.length = h.length := by simp
  have c1 : (91 : UInt8) ≠ COLON := by decide
  have c2 : (93 : UInt8) ≠ COLON := by decide
  unfold stripHostPort
  simp only [findIdx_rev_port h port pc, hi, List.take_left' rfl]
  simp [hc, hl, hr, pl, pr, c1, c2, trimDot]

/-- `[ipv6]:port`: brackets and port are dropped (the address itself may contain colons) -/
theorem stripHostPort_ipv6 (a port : Bytes) (al : 91 ∉ a) (ar : 93 ∉ a)
    (pc : COLON ∉ port) (pl : 91 ∉ port) (pr : 93 ∉ port) :
    stripHostPort (91 :: a ++ 93 :: COLON :: port) = trimDot a := by
  have hj := findIdx_rev_port (91 :: a ++ [93]) port pc
  rw [← List.append_cons] at hj
  have he : (91 :: a ++ 93 :: COLON :: port).findIdx (· == 93) = a.length + 1 :=
    findIdx_append_cons (l := 91 :: a)
      (fun hm => (List.mem_cons.1 hm).elim (fun e => absurd e (by decide)) ar) _
  -- the last colon stands right after the first ']'
  have hi : (91 :: a ++ 93 :: COLON :: port).length - 1 - port.length = a.length + 1 + 1 := by
    simp only [List.length_cons, List.length_append]; omega
  have c1 : (91 : UInt8) ≠ COLON := by decide
  have c2 : (93 : UInt8) ≠ COLON := by decide
  have c3 : (91 : UInt8) ≠ 93 := by decide
  unfold stripHostPort
  simp only [hj, he, hi]
  simp [al, pl, pr, c1, c2, c3, trimDot]

/-- a port-free host without trailing dot is left unchanged (so stripping is idempotent on its results for
    port-free, dot-free hosts) -/
theorem stripHostPort_id (h : Bytes) (hc : COLON ∉ h) (hd : h.getLast? ≠ some DOT) : stripHostPort h = h := by
  rw [stripHostPort_noPort h hc, trimDot_id h hd]

/-- exactly one trailing dot is removed from a port-free host -/
theorem stripHostPort_dot (h : Bytes) (hc : COLON ∉ h) : stripHostPort (h ++ [DOT]) = h := by
  rw [stripHostPort_noPort _ (by simp [hc]; decide), trimDot_dot]

/-! ## non-vacuity: concrete instances of the hypotheses -/
namespace Ex

/-- "/a/x" -/
def rAX : Route := { hid := 1, pattern := [.lit 47, .lit 97, .lit 47, .lit 120] }
/-- "/{p}/y" -/
def rPY : Route := { hid := 2, pattern := [.lit 47, .param [112], .lit 47, .lit 121] }
/-- "/*{c}/x" (infix catch-all) -/
def rInf : Route := { hid := 3, pattern := [.lit 47, .catchAll [99], .lit 47, .lit 120] }
/-- "/*{c}" (suffix catch-all) -/
def rSuf : Route := { hid := 4, pattern := [.lit 47, .catchAll [99]] }
/-- "{s}.ex/p" (hostname route, host part = 4 tokens) -/
def rHost : Route := { hid := 5, pattern := [.param [115], .lit 46, .lit 101, .lit 120, .lit 47, .lit 112], hostToks := 4 }
/-- "/p/" -/
def rPS : Route := { hid := 6, pattern := [.lit 47, .lit 112, .lit 47] }

/-- request path "/a/y" -/
def pAY : Bytes := [47, 97, 47, 121]

/-- backtracking: on "/a/y" the static branch "/a/…" is entered first, fails at "x" ≠ "y", and the search
    falls back to `{p}`; the result binds p = "a" -/
example : specAll (sufsOf [rAX, rPY]) pAY [] = [(rPY, [([112], [97])])] := by
  rw [specAll_eq_run]; decide +kernel

example : CoherentRoutes [rAX, rPY, rInf, rSuf] := by decide

/-- hence `specAll_head_isBest` applies non-trivially -/
example : IsBest [rAX, rPY] pAY rPY [([112], [97])] :=
  specAll_head_isBest (by decide) (tl := []) (by rw [specAll_eq_run]; decide +kernel)

/-- priority + infix: on "/a/b/x" both "/*{c}/x" (c = "a/b") and "/*{c}" (c = "a/b/x") match; the infix one wins -/
example : specAll (sufsOf [rSuf, rInf]) [47, 97, 47, 98, 47, 120] [] =
    [(rInf, [([99], [97, 47, 98])]), (rSuf, [([99], [97, 47, 98, 47, 120])])] := by
  rw [specAll_eq_run]; decide +kernel

/-- a declarative infix match built by hand: "/*{c}/x" matches "/a/b/x" with c = "a/b" -/
example : Match SLASH rInf.pattern [47, 97, 47, 98, 47, 120] [([99], [97, 47, 98])] :=
  .lit (Match.infix (v := [97, 47, 98]) (s := [47, 120]) (by decide) (by simp) rfl (.lit (.lit .nil)))

/-- hostname: "{s}.ex/p" matches host "a.ex", path "/p" with s = "a" -/
example : MatchReq rHost [97, 46, 101, 120] [47, 112] [([115], [97])] := by
  simp only [MatchReq, rHost, Route.pathPart, Route.hostPart]
  refine ⟨by simp [SLASH], by decide, [([115], [97])], [], ?_, .lit (.lit .nil), rfl⟩
  exact Match.param (v := [97]) (s := [46, 101, 120]) (by simp) (by decide) (by simp [DOT]) (.lit (.lit (.lit .nil)))

example : specHost (sufsOf [rHost]) [97, 46, 101, 120] [47, 112] [] = [(rHost, [([115], [97])])] := by
  rw [specHost_eq_run]; decide +kernel

/-- host "a.ex:80" -/
def hAex80 : Bytes := [97, 46, 101, 120, 58, 56, 48]

example : stripHostPort hAex80 = [97, 46, 101, 120] := by decide
example : stripHostPort [97, 46, 101, 120, 46] = [97, 46, 101, 120] := by decide
/-- "[::1]:80" ↦ "::1" -/
example : stripHostPort [91, 58, 58, 49, 93, 58, 56, 48] = [58, 58, 49] := by decide

/-- hostname mode, direct hostname match (hypotheses of `route_direct_first`, first part) -/
example : HostMode [rHost, rPS] hAex80 ∧ ¬ NoDirectH (hostRoutes [rHost, rPS]) (stripHostPort hAex80) [47, 112] := by
  refine ⟨⟨by decide, by decide⟩, ?_⟩
  rw [← specHost_nil_iff, specHost_eq_run]; decide +kernel

/-- slash-adjusted answer: only "/p/" is registered, the request is "/p" -/
example : route [rPS] [] [47, 112] = some ⟨rPS, [], true⟩ := by
  simp only [route, pathOnly, specAll_eq_run, specHost_eq_run]; decide +kernel

/-- hostname mode, host does not match, the path-only route is the fallback (hypotheses of
    `route_host_before_path`) -/
example : route [rHost, rPS] [98, 46, 111] [47, 112, 47] = some ⟨rPS, [], false⟩ ∧
    isHostRoute rPS = false ∧ HostMode [rHost, rPS] [98, 46, 111] := by
  refine ⟨?_, by decide, by decide, by decide⟩
  simp only [route, pathOnly, specAll_eq_run, specHost_eq_run]; decide +kernel

/-- an irrelevant route (hypotheses of `route_irrelevant`): "/a/x" for the request "/p" next to "/p/" -/
example : CoherentRoutes ([rPS] ++ rAX :: []) ∧ Irrelevant rAX [] [47, 112] := by
  refine ⟨by decide, ?_⟩
  unfold Irrelevant
  rw [if_neg (by decide)]
  refine ⟨fun bs => ?_, fun p' added ha hcond bs => ?_⟩
  · have : NoDirectP [rAX] [47, 112] := specAll_nil_iff.1 (by rw [specAll_eq_run]; decide +kernel)
    exact this rAX (List.mem_singleton_self _) bs
  · rw [show adjust [47, 112] = some ([47, 112, 47], true) by decide] at ha
    obtain ⟨_, rfl⟩ := Prod.mk.inj (Option.some.inj ha)
    exact absurd (hcond rfl) (by decide)

/-! ### why `CoherentRoutes` is assumed (route sets the router itself rejects) -/

/-- "/{a}/{c}" -/
def rAC : Route := { hid := 7, pattern := [.lit 47, .param [97], .lit 47, .param [99]] }
/-- "/{b}/x" -/
def rBX : Route := { hid := 8, pattern := [.lit 47, .param [98], .lit 47, .lit 120] }
/-- "/{b}/dead" (only the first letter matters here: "/{b}/d") -/
def rBD : Route := { hid := 9, pattern := [.lit 47, .param [98], .lit 47, .lit 100] }

example : ¬ CoherentRoutes [rAC, rBX] := by decide

/-- with two different parameter names at the same position the enumeration goes name by name, so on "/p/x"
    the first result is "/{a}/{c}" although "/{b}/x" makes the more specific (static) choice later on -/
example : specAll (sufsOf [rAC, rBX]) [47, 112, 47, 120] [] =
    [(rAC, [([97], [112]), ([99], [120])]), (rBX, [([98], [112])])] := by
  rw [specAll_eq_run]; decide +kernel

/-- ... and registering the non-matching "/{b}/d" in front changes the order of the names and thereby the
    first result: `route_irrelevant` needs coherence -/
example : specAll (sufsOf [rBD, rAC, rBX]) [47, 112, 47, 120] [] =
    [(rBX, [([98], [112])]), (rAC, [([97], [112]), ([99], [120])])] := by
  rw [specAll_eq_run]; decide +kernel

/-- "{s}/p" as a hostname pattern -/
def rSP : Route := { hid := 10, pattern := [.param [115], .lit 47, .lit 112], hostToks := 1 }

/-- a Host header that contains '/' (never produced by a well-formed request): the hostname search only knows
    '.' as delimiter, so `{s}` captures "a/b". This is why the '/'-freeness of host parameter values is stated
    under the hypothesis `SLASH ∉ host` (`matchHP_caps`, `matchReq_iff_matchHP`). -/
example : specHost (sufsOf [rSP]) [97, 47, 98] [47, 112] [] = [(rSP, [([115], [97, 47, 98])])] := by
  rw [specHost_eq_run]; decide +kernel

/-- "/{a}bc": a parameter extends to the end of its segment, so this pattern does not match "/xbc" -/
example : specAll (sufsOf [({ hid := 11, pattern := [.lit 47, .param [97], .lit 98, .lit 99] } : Route)])
    [47, 120, 98, 99] [] = [] := by rw [specAll_eq_run]; decide +kernel

/-- an infix catch-all does not capture across an empty segment: "/*{c}/x" does not match "/a//b/x" -/
example : specAll (sufsOf [rInf]) [47, 97, 47, 47, 98, 47, 120] [] = [] := by rw [specAll_eq_run]; decide +kernel

end Ex

end Fox.C01Spec
