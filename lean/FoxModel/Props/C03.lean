import FoxModel.Model.Heap
import FoxModel.Generated.Writes
/-
  Property C03 — a published routing state never changes (snapshot immutability).

  Over the heap model of a write transaction (Model/Heap.lean): every in-place write performed by the copy-on-write
  search, and every in-place write that insert / update / remove perform afterwards on `p`, `pp`, `ppp` or on nodes they
  have just built, targets a cell allocated since the last snapshot. Hence the cells that existed when a snapshot was
  taken — everything an Iter, a read-only Txn, a Txn.Snapshot or a request being served can reach — are bit-for-bit the
  same after any later sequence of writes, snapshots, commits and aborts, including transactions that overflow the
  writable-node cache (the LRU only ever holds private cells, whatever it evicts) and the single-operation helpers that
  do not cache at all.
-/
namespace Fox.C03
open Fox Fox.Heap

/-- invariant of a transaction: the frozen mark lies within the heap and the LRU only holds cells allocated since the last
    snapshot -/
def Inv (st : St) : Prop := st.frozen ≤ st.heap.length ∧ ∀ w ∈ st.writable, st.frozen ≤ w

def Private (st : St) (q : Option Nat) : Prop := ∀ x, q = some x → st.frozen ≤ x

theorem private_some {st : St} {a : Nat} : Private st (some a) ↔ st.frozen ≤ a :=
  ⟨fun h => h a rfl, fun h _ hx => Option.some.inj hx ▸ h⟩

theorem private_none (st : St) : Private st none := nofun

theorem setChild_length (heap : List Cell) (p idx child : Nat) : (setChild heap p idx child).length = heap.length := by
  unfold setChild; split
  · exact List.length_set
  · rfl

theorem setChild_take (heap : List Cell) (p idx child n : Nat) (h : n ≤ p) :
    (setChild heap p idx child).take n = heap.take n := by
  unfold setChild; split
  · exact List.take_set_of_le h
  · rfl

/-- `st` comes from `o` by writes to private cells only: the frozen mark and every frozen cell are those of `o`, and the
    LRU holds private cells only. Whatever a transaction does between two snapshots keeps this relation to a fixed `o`. -/
structure Keeps (o st : St) : Prop where
  inv : Inv st
  frozen : st.frozen = o.frozen
  heap : st.heap.take o.frozen = o.heap.take o.frozen

namespace Keeps

theorem refl {st : St} (h : Inv st) : Keeps st st := ⟨h, rfl, rfl⟩

variable {o st : St} (k : Keeps o st)
include k

theorem le_length : o.frozen ≤ st.heap.length := k.frozen ▸ k.inv.1

theorem writable : ∀ w ∈ st.writable, o.frozen ≤ w := k.frozen ▸ k.inv.2

/-! The writes everything else is made of: allocation, `updateEdge` on a private cell, a new LRU of private cells, a new
    roots slice. -/

theorem alloc (c : Cell) : Keeps o (Heap.alloc st c).1 :=
  ⟨⟨by simp only [Heap.alloc, List.length_append]; exact Nat.le_add_right_of_le k.inv.1, k.inv.2⟩, k.frozen,
   (List.take_append_of_le_length k.le_length).trans k.heap⟩

theorem setChild {q : Nat} (hq : o.frozen ≤ q) (idx child : Nat) :
    Keeps o { st with heap := Heap.setChild st.heap q idx child } :=
  ⟨⟨(setChild_length ..).symm ▸ k.inv.1, k.inv.2⟩, k.frozen, (setChild_take _ _ _ _ _ hq).trans k.heap⟩

theorem setWritable {l : List Nat} (hl : ∀ w ∈ l, o.frozen ≤ w) : Keeps o { st with writable := l } :=
  ⟨⟨k.inv.1, k.frozen ▸ hl⟩, k.frozen, k.heap⟩

theorem setRoots (rs : List (Bytes × Nat)) : Keeps o { st with roots := rs } := ⟨k.inv, k.frozen, k.heap⟩

theorem addWritable {id : Nat} (hid : o.frozen ≤ id) : Keeps o (Heap.addWritable st id) :=
  -- an overflowing LRU only drops entries
  iteInduction (fun _ => k.setWritable fun w hw =>
    (List.mem_cons.1 (List.mem_of_mem_take hw)).elim (· ▸ hid) (k.writable w)) fun _ => k

end Keeps

section Search
variable {o st : St} (k : Keeps o st) {par : Option Nat} (hp : Private o par) {writes : List Nat}
  (hw : ∀ w ∈ writes, o.frozen ≤ w)
include k hp hw

theorem link_spec (m : Bytes) (pslot cp : Nat) :
    Keeps o (link m st par pslot cp writes).1 ∧ ∀ w ∈ (link m st par pslot cp writes).2, o.frozen ≤ w := by
  cases par with
  | none => exact ⟨k.setRoots _, hw⟩
  | some q => exact ⟨k.setChild (hp q rfl) pslot cp, List.forall_mem_cons.2 ⟨hp q rfl, hw⟩⟩

/-- one visit: the cell it yields is private, a clone is linked into a private parent, the frozen part is untouched -/
theorem visit_spec (m : Bytes) (current pslot : Nat) {r : St × Nat × List Nat}
    (hr : visit m st current pslot par writes = r) : Keeps o r.1 ∧ o.frozen ≤ r.2.1 ∧ ∀ w ∈ r.2.2, o.frozen ≤ w := by
  unfold visit at hr
  split at hr <;> subst hr
  next hc =>
    -- a hit: `current` is in the LRU, hence private; the LRU is only reordered
    have hcur := k.writable current (List.elem_iff.1 hc)
    exact ⟨k.setWritable (List.forall_mem_cons.2 ⟨hcur, fun w hw => k.writable w (List.mem_filter.1 hw).1⟩), hcur, hw⟩
  next =>
    -- a miss: the clone is the next cell to be allocated
    have kc : Keeps o (cloneOf st current).1 := (k.alloc _).addWritable k.le_length
    exact ⟨(link_spec kc hp hw m pslot _).1, k.le_length, (link_spec kc hp hw m pslot _).2⟩

end Search

/-- the invariant of the search loop, on the state and what it would return now: only private cells were written since
    `o`, the parents held are private -/
def Searched (o : St) (r : St × Found) : Prop :=
  Keeps o r.1 ∧ Private o r.2.p ∧ Private o r.2.pp ∧ Private o r.2.ppp ∧ ∀ w ∈ r.2.writes, o.frozen ≤ w

theorem cow_searched {o : St} (m : Bytes) (fuel : Nat) : ∀ {st : St} (current pslot : Nat) {p pp ppp : Option Nat}
    (path : List Tok) {writes : List Nat}, Searched o (st, ⟨current, p, pp, ppp, writes⟩) →
    Searched o (cow fuel m st current pslot p pp ppp path writes) := by
  induction fuel with
  | zero => intro _ _ _ _ _ _ _ _ h; exact h
  | succ fuel ih =>
    intro st current pslot p pp ppp path writes h
    unfold cow
    split
    · exact h
    next t ts =>
      split
      · exact h
      next slot next _ =>
        obtain ⟨k, hp, hpp, _, hw⟩ := h
        obtain ⟨kv, hcp, hw1⟩ := visit_spec k hp hw m current pslot rfl
        generalize visit m st current pslot p writes = v at kv hcp hw1
        -- the clone becomes `p`, the parents move up one place
        have hv : Searched o (v.1, ⟨next, some v.2.1, p, pp, v.2.2⟩) := ⟨kv, private_some.2 hcp, hp, hpp, hw1⟩
        exact iteInduction (fun _ => hv) fun _ => ih next slot _ hv

/-- **the copy-on-write search never writes a frozen cell**, whatever the tree, the path, the state of the LRU (also
    when it overflows and evicts) and with or without caching; the parents `p`, `pp`, `ppp` it returns are private. -/
theorem cow_spec (fuel : Nat) (m : Bytes) : ∀ (st : St) (current pslot : Nat) (p pp ppp : Option Nat) (path : List Tok)
    (writes : List Nat), Inv st → Private st p → Private st pp → Private st ppp → (∀ w ∈ writes, st.frozen ≤ w) →
    Inv (cow fuel m st current pslot p pp ppp path writes).1 ∧
    (cow fuel m st current pslot p pp ppp path writes).1.frozen = st.frozen ∧
    (cow fuel m st current pslot p pp ppp path writes).1.heap.take st.frozen = st.heap.take st.frozen ∧
    Private st (cow fuel m st current pslot p pp ppp path writes).2.p ∧
    Private st (cow fuel m st current pslot p pp ppp path writes).2.pp ∧
    Private st (cow fuel m st current pslot p pp ppp path writes).2.ppp ∧
    (∀ w ∈ (cow fuel m st current pslot p pp ppp path writes).2.writes, st.frozen ≤ w) := by
  intro st current pslot p pp ppp path writes h hp hpp hppp hw
  obtain ⟨k, d⟩ := cow_searched m fuel current pslot path ⟨.refl h, hp, hpp, hppp, hw⟩
  exact ⟨k.inv, k.frozen, k.heap, d⟩

/-- what the write sites of insert / update / remove are allowed to do after a search that returned `f`, `base` being
    the heap size before the operation: overwrite a child slot of `p`, `pp`, `ppp` or of a node built by this very
    operation; remember a node built by this operation as writable; allocate; install a new roots slice. `writes_tie` is what
    says that the Go code does nothing else -/
def allowed (f : Found) (base : Nat) : Mut → Bool
  | .updateEdge t _ _ => f.p == some t || f.pp == some t || f.ppp == some t || decide (base ≤ t)
  | .addWritable id => decide (base ≤ id)
  | _ => true

/-- a write that is not `allowed` is skipped, so that the theorems below speak of every list `muts` -/
def applyMuts (f : Found) (base : Nat) (st : St) (muts : List Mut) : St :=
  muts.foldl (fun s mu => if allowed f base mu then applyMut s mu else s) st

/-- one step of a transaction's life -/
inductive Step where
  /-- Handle / Update / Delete through the transaction: copy-on-write search from the root cell, then the writes -/
  | write (m : Bytes) (root : Nat) (path : List Tok) (muts : List Mut)
  /-- Truncate: only a new roots slice and new empty root cells -/
  | truncate (cells : List Cell) (rs : List (Bytes × Nat))
  /-- Iter / Snapshot / Commit / a new transaction: everything allocated so far may now be shared -/
  | freeze

def runStep (st : St) : Step → St
  | .write m root path muts =>
    let r := cow (path.length + 1) m st root 0 none none none path []
    applyMuts r.2 st.heap.length r.1 muts
  | .truncate cells rs => { cells.foldl (fun s c => (alloc s c).1) st with roots := rs }
  | .freeze => freeze st

def run (st : St) (steps : List Step) : St := steps.foldl runStep st

section WriteSites
/-! `o` is the state of the last snapshot: what the search found, and every cell from `base` on, is private with respect to
    its frozen mark. -/
variable {f : Found} {base : Nat} {o : St} (hp : Private o f.p) (hpp : Private o f.pp) (hppp : Private o f.ppp)
  (hb : o.frozen ≤ base)
include hp hpp hppp hb

theorem applyMut_spec {st : St} (k : Keeps o st) {mu : Mut} (ha : allowed f base mu = true) :
    Keeps o (applyMut st mu) := by
  cases mu with
  | allocNode c => exact k.alloc c
  | updateEdge t s c =>
    refine k.setChild ?_ s c
    simp only [allowed, Bool.or_eq_true, beq_iff_eq, decide_eq_true_eq] at ha
    rcases ha with ((h1 | h1) | h1) | h1
    · exact hp t h1
    · exact hpp t h1
    · exact hppp t h1
    · exact Nat.le_trans hb h1
  | newRoots rs => exact k.setRoots rs
  | addWritable id => exact k.addWritable (Nat.le_trans hb (of_decide_eq_true ha))

theorem applyMuts_spec (muts : List Mut) {st : St} (k : Keeps o st) : Keeps o (applyMuts f base st muts) :=
  muts.foldlRecOn _ k fun _ ks _ _ => iteInduction (applyMut_spec hp hpp hppp hb ks) fun _ => ks

end WriteSites

/-- the frozen cells of `st` are frozen in `st'` and unchanged: what a reader of `st` needs of any later state -/
def Stable (st st' : St) : Prop :=
  Inv st' ∧ st.frozen ≤ st'.frozen ∧ st'.heap.take st.frozen = st.heap.take st.frozen

namespace Stable

theorem of_keeps {o st : St} (k : Keeps o st) : Stable o st := ⟨k.inv, Nat.le_of_eq k.frozen.symm, k.heap⟩

theorem refl {st : St} (h : Inv st) : Stable st st := ⟨h, Nat.le_refl _, rfl⟩

theorem trans {s1 s2 s3 : St} (a : Stable s1 s2) (b : Stable s2 s3) : Stable s1 s3 := by
  refine ⟨b.1, Nat.le_trans a.2.1 b.2.1, ?_⟩
  -- the cells frozen in `s1` are among those frozen in `s2`
  have := congrArg (List.take s1.frozen) b.2.2
  rw [List.take_take, List.take_take, Nat.min_eq_left a.2.1] at this
  exact this.trans a.2.2

end Stable

theorem inv_freeze (st : St) : Inv (freeze st) := ⟨Nat.le_refl _, nofun⟩

/-- between two snapshots a transaction writes private cells only, whatever it does -/
theorem runStep_keeps {o st : St} (k : Keeps o st) {step : Step} (hs : step ≠ .freeze) : Keeps o (runStep st step) := by
  cases step with
  | write m root path muts =>
    obtain ⟨kc, hp, hpp, hppp, _⟩ := cow_searched m (path.length + 1) root 0 path (writes := [])
      ⟨k, private_none o, private_none o, private_none o, nofun⟩
    exact applyMuts_spec hp hpp hppp k.le_length muts kc
  | truncate cells rs => exact (cells.foldlRecOn _ k fun _ ks c _ => ks.alloc c).setRoots rs
  | freeze => exact absurd rfl hs

/-- one step never changes a frozen cell, keeps the invariant and never lowers the frozen mark -/
theorem runStep_spec (st : St) (step : Step) (h : Inv st) :
    Inv (runStep st step) ∧ st.frozen ≤ (runStep st step).frozen ∧
    (runStep st step).heap.take st.frozen = st.heap.take st.frozen := by
  cases step with
  | freeze => exact ⟨inv_freeze st, h.1, rfl⟩
  | _ => exact Stable.of_keeps (runStep_keeps (.refl h) nofun)

/-- **frozen cells are stable under any continuation of the transaction's life** -/
theorem frozen_stable (steps : List Step) : ∀ (st : St), Inv st →
    Inv (run st steps) ∧ st.frozen ≤ (run st steps).frozen ∧ (run st steps).heap.take st.frozen = st.heap.take st.frozen :=
  fun _ h => steps.foldlRecOn runStep (Stable.refl h) fun s hs step _ => hs.trans (runStep_spec s step hs.1)

/-- **C03: a snapshot is frozen.** Whatever an Iter, a read-only Txn, a Txn.Snapshot, a committed tree or a request
    being served can reach is the heap as it was when the snapshot was taken; after any later sequence of writes
    (with any search paths, any LRU capacity incl. 0 and overflow, cached or not), truncations, further snapshots,
    commits and aborts, every one of those cells is unchanged. -/
theorem snapshot_stable (st : St) (h : Inv st) (steps : List Step) :
    (run (freeze st) steps).heap.take st.heap.length = st.heap :=
  -- `freeze st` satisfies the invariant whatever `st` is, and its frozen mark is the size of the heap
  (frozen_stable steps (freeze st) (inv_freeze st)).2.2.trans List.take_length

/-- taking a snapshot changes neither the heap nor the roots: all it does to the transaction is to reset the private set
    (`frozen`, `writable`) -/
theorem freeze_is_transparent (st : St) : (freeze st).heap = st.heap ∧ (freeze st).roots = st.roots := ⟨rfl, rfl⟩

/-- **tie to the Go sources** (regenerated on every run). Every write site of tree.go / node.go / txn.go / iter.go and of
    `newTree` is recorded by the *origin* of the node written to - followed through local variables and through the
    parameters of helper functions to their call sites, so that the names of functions and variables do not matter:
    the only in-place write of a child slot is `updateEdge` (assigning `children[id]` of its receiver); outside the
    copy-on-write search (modelled statement by statement: `cow`, where it is called on `pp` with the clone `cp`) it is
    called only on the nodes of the cloned search path (`result.p` / `.pp` / `.ppp` of copyOnWriteSearch) - all of them
    targets `allowed` permits - and links in only nodes built in the same transaction; every other assignment to a node
    field initialises a node that was just built (`newNode`, `newNodeFromRef`, `new(node)`); only the clones of the
    search and freshly built nodes are added to the writable cache; every slice of nodes that is mutated in place (index
    assignment, shifting `append`, `clear`, `copy` into, `slices.SortFunc` in `newNode` - followed through locals, append
    chains, helper parameters and helper results) was made by the same step (`make`, a literal, `getEdges`), never a
    re-slice of or an append onto `t.root` / a node's `children`; snapshot, clone and commit reset the cache. A write site
    of any other origin anywhere (a node of the published tree, `result.matched`, an unknown expression) breaks this
    theorem. -/
theorem writes_tie :
    Generated.updateEdgeReceivers = ["cow|pp", "searched.p", "searched.pp", "searched.ppp"] ∧
    Generated.updateEdgeArgs = ["built", "cow|cp"] ∧
    Generated.nodeFieldAssignsNotBuilt = ["updateEdge-receiver.children[]"] ∧
    Generated.writableAdds = ["built", "clone"] ∧
    Generated.sliceMutations = ["made"] ∧
    Generated.writableResets = ["tXn.clone", "tXn.commit", "tXn.snapshot"] :=
  ⟨rfl, rfl, rfl, rfl, rfl, rfl⟩

/-! ### non-vacuity: a concrete transaction that clones a path, links the clones in place and overflows a 1-slot LRU -/
section Example
def c (k : List Tok) (cs : List Nat) : Cell := ⟨k, none, cs⟩
/-- root(0) → "/a"(1) → "/b"(2) -/
def st0 : St := { heap := [c [] [1], c [.lit 47, .lit 97] [2], c [.lit 47, .lit 98] []], frozen := 3, writable := [],
                  roots := [([71, 69, 84], 0)], cap := 1 }
example : Inv st0 := ⟨by decide, nofun⟩
-- the search for /a/b/c clones the root and "/a" (cells 3 and 4), links 4 into 3 in place, and leaves cells 0-2 alone
example : (cow 10 [71, 69, 84] st0 0 0 none none none [.lit 47, .lit 97, .lit 47, .lit 98, .lit 47, .lit 99] []).2.writes = [3]
  := by decide +kernel
example : ((cow 10 [71, 69, 84] st0 0 0 none none none [.lit 47, .lit 97, .lit 47, .lit 98, .lit 47, .lit 99] []).1.heap.take 3
  == st0.heap) = true := by decide +kernel
end Example

end Fox.C03
