import FoxModel.Lemmas.Instances
import FoxModel.Model.Serve
/-
  Property C11 — unserved requests get the right 404 / 405 / OPTIONS answer and Allow header.
  Theorems over `Fox.Model.special` (the part of ServeHTTP after the route dispatch, fox.go) — the model is tied to the Go
  code by the `serve` stream, which also checks (model-free) that the context is scrubbed in every special handler.
-/
namespace Fox.C11
open Fox Fox.Model

/-- what the Allow loops of ServeHTTP accept for a method: a direct match, or a trailing-slash match on a route that
    ignores trailing slashes -/
def looseServes : Result → Bool
  | .found r _ tsr => !tsr || r.ignoreTS
  | _ => false

/-- what dispatch really serves for method `x` (property C08): additionally never a trailing-slash match for CONNECT
    or for the root path -/
def strictServes (res : Result) (x urlPath : Bytes) : Bool :=
  match res with
  | .found r _ tsr => !tsr || (r.ignoreTS && x != CONNECT && urlPath != [SLASH])
  | _ => false

theorem allows_fst (rs : Roots) (x host path : Bytes) : (allows rs x host path).1 = looseServes (lookup rs x host path) := by
  unfold allows looseServes
  cases lookup rs x host path <;> rfl

/-- the F17 marker of the Allow loops: a trailing-slash match on an ignore-trailing-slash route, for the probe method
    CONNECT -/
theorem allows_snd {rs : Roots} {x host path : Bytes} :
    (allows rs x host path).2 = true ↔
      x = CONNECT ∧ ∃ r ps, lookup rs x host path = .found r ps true ∧ r.ignoreTS = true := by
  unfold allows
  constructor
  · intro h
    cases hl : lookup rs x host path with
    | none => rw [hl] at h; cases h
    | bad => rw [hl] at h; cases h
    | found r ps tsr =>
      rw [hl] at h
      cases tsr with
      | false => cases h
      | true =>
        have h' : (r.ignoreTS && x == CONNECT) = true := h
        rw [Bool.and_eq_true, beq_iff_eq] at h'
        exact ⟨h'.2, r, ps, rfl, h'.1⟩
  · rintro ⟨rfl, r, ps, hl, hi⟩
    rw [hl]
    show (true && r.ignoreTS && CONNECT == CONNECT) = true
    rw [hi]
    rfl

theorem filterMap_fst {α β} (l : List α) (p : α → Bool) (f : α → β) (g : α → Bool) :
    (l.filterMap fun x => if p x then some (f x, g x) else none).map (·.1) = (l.filter p).map f := by
  induction l with
  | nil => rfl
  | cons a l ih =>
    rw [List.filterMap_cons, List.filter_cons]
    cases p a with
    | true => exact congrArg (f a :: ·) ih
    | false => exact ih

/-- the list an Allow loop builds: the roots whose method passes `q` and the Allow test, each with its F17 marker -/
def probes (rs : Roots) (host path : Bytes) (q : Bytes → Bool) : List (Bytes × Bool) :=
  rs.filterMap fun a =>
    if q a.1 && (allows rs a.1 host path).1 then some (a.1, (allows rs a.1 host path).2) else none

theorem optionsHits_of_ne {rs : Roots} {host path : Bytes} (hp : path ≠ [STAR]) :
    optionsHits rs host path = probes rs host path fun _ => true :=
  if_neg (mt beq_iff_eq.1 hp)

theorem noMethodHits_eq (rs : Roots) (m host path : Bytes) :
    noMethodHits rs m host path = probes rs host path fun x => !(x == m) := by
  unfold noMethodHits
  show _ = rs.filterMap fun a =>
    if !(a.1 == m) && (allows rs a.1 host path).1 then some (a.1, (allows rs a.1 host path).2) else none
  congr
  funext a
  cases a.1 == m <;> rfl

section
variable {rs : Roots} {host path : Bytes} {q : Bytes → Bool}

theorem probes_names :
    (probes rs host path q).map (·.1) = (rs.filter fun x => q x.1 && looseServes (lookup rs x.1 host path)).map (·.1) := by
  unfold probes
  rw [filterMap_fst]
  simp only [allows_fst]

theorem mem_probes {x : Bytes} {b : Bool} :
    (x, b) ∈ probes rs host path q ↔
      (∃ n, (x, n) ∈ rs) ∧ (q x && (allows rs x host path).1) = true ∧ b = (allows rs x host path).2 := by
  unfold probes
  rw [List.mem_filterMap]
  constructor
  · rintro ⟨⟨z, n⟩, hz, h⟩
    by_cases hp : (q z && (allows rs z host path).1) = true
    · rw [if_pos hp] at h
      cases h
      exact ⟨⟨n, hz⟩, hp, rfl⟩
    · rw [if_neg hp] at h
      cases h
  · rintro ⟨⟨n, hn⟩, hp, rfl⟩
    exact ⟨(x, n), hn, if_pos hp⟩

end

/-- the methods listed by the OPTIONS branch for an ordinary target: exactly the methods (in root order) for which the
    matcher finds a route that serves the host and path loosely -/
theorem optionsHits_methods (rs : Roots) (host path : Bytes) (hp : path ≠ [STAR]) :
    (optionsHits rs host path).map (·.1) =
      ((rs.filter fun x => looseServes (lookup rs x.1 host path)).map (·.1)) := by
  rw [optionsHits_of_ne hp, probes_names]
  simp only [Bool.true_and]

/-- for the target "*": every method other than OPTIONS that has routes -/
theorem optionsHits_star (rs : Roots) (host : Bytes) :
    (optionsHits rs host [STAR]).map (·.1) =
      ((rs.filter fun x => x.1 != OPTIONS && !x.2.children.isEmpty).map (·.1)) := by
  unfold optionsHits
  simp [Function.comp_def]

/-- and none of them carries the marker -/
theorem star_untagged (rs : Roots) (host : Bytes) : (optionsHits rs host [STAR]).any (·.2) = false := by
  unfold optionsHits
  simp

/-- the methods listed by the 405 branch: the *other* methods that serve loosely -/
theorem noMethodHits_methods (rs : Roots) (m host path : Bytes) :
    (noMethodHits rs m host path).map (·.1) =
      ((rs.filter fun x => !(x.1 == m) && looseServes (lookup rs x.1 host path)).map (·.1)) := by
  rw [noMethodHits_eq, probes_names]

/-- **the answer depends only on the router options** (and on which methods serve): OPTIONS with automatic replies ⇒
    options handler with Allow = listed methods + OPTIONS, or no-route if none; otherwise with method-not-allowed ⇒
    no-method handler with Allow = the other listed methods (+ OPTIONS when automatic replies are on and it is not
    listed), or no-route if none; otherwise no-route -/
theorem special_decision (cfg : Cfg) (rs : Roots) (m host path : Bytes) :
    special cfg rs m host path =
      if m == OPTIONS && cfg.autoOptions then
        (if (optionsHits rs host path).isEmpty then { kind := .noRoute }
         else { kind := .options, allow := (optionsHits rs host path).map (·.1) ++ [OPTIONS],
                tags := if (optionsHits rs host path).any (·.2) then ["allow-connect-tsr"] else [] })
      else if cfg.noMethod then
        (if (noMethodHits rs m host path).isEmpty then { kind := .noRoute }
         else { kind := .noMethod,
                allow := (noMethodHits rs m host path).map (·.1) ++
                  (if cfg.autoOptions && !((noMethodHits rs m host path).any (·.1 == OPTIONS)) then [OPTIONS] else []),
                tags := if (noMethodHits rs m host path).any (·.2) then ["allow-connect-tsr"] else [] })
      else { kind := .noRoute } := by
  unfold special optionsOutcome noMethodOutcome
  rfl

/-- the shape the automatic OPTIONS answer and the 405 answer share: handler `k` when the Allow loop found methods
    (listed with `extra` appended, tagged when a hit carries the F17 marker), the no-route handler otherwise -/
def hitsOutcome (k : Kind) (hits : List (Bytes × Bool)) (extra : List Bytes) : Outcome :=
  if hits.isEmpty then { kind := .noRoute }
  else { kind := k, allow := hits.map (·.1) ++ extra, tags := if hits.any (·.2) then ["allow-connect-tsr"] else [] }

section
variable {cfg : Cfg} {rs : Roots} {m host path : Bytes}

theorem autoOptions_iff : (m == OPTIONS && cfg.autoOptions) = true ↔ m = OPTIONS ∧ cfg.autoOptions = true := by
  rw [Bool.and_eq_true, beq_iff_eq]

theorem special_options (h : m = OPTIONS ∧ cfg.autoOptions = true) :
    special cfg rs m host path = hitsOutcome .options (optionsHits rs host path) [OPTIONS] :=
  if_pos (autoOptions_iff.2 h)

theorem special_noMethod (h : ¬(m = OPTIONS ∧ cfg.autoOptions = true)) (hn : cfg.noMethod = true) :
    special cfg rs m host path =
      hitsOutcome .noMethod (noMethodHits rs m host path)
        (if cfg.autoOptions && !((noMethodHits rs m host path).any (·.1 == OPTIONS)) then [OPTIONS] else []) :=
  (if_neg (mt autoOptions_iff.1 h)).trans (if_pos hn)

theorem special_noRoute (h : ¬(m = OPTIONS ∧ cfg.autoOptions = true)) (hn : cfg.noMethod = false) :
    special cfg rs m host path = { kind := .noRoute } :=
  (if_neg (mt autoOptions_iff.1 h)).trans (if_neg (by rw [hn]; exact Bool.false_ne_true))

end

/-- the OPTIONS / 405 / 404 part never serves a route nor redirects, and its handlers see neither a route nor
    parameters -/
theorem special_unmatched (cfg : Cfg) (rs : Roots) (m host path : Bytes) :
    ((special cfg rs m host path).kind = .options ∨ (special cfg rs m host path).kind = .noMethod ∨
      (special cfg rs m host path).kind = .noRoute) ∧
    (special cfg rs m host path).route = none ∧ (special cfg rs m host path).params = [] := by
  by_cases h : m = OPTIONS ∧ cfg.autoOptions = true
  · rw [special_options h]
    cases optionsHits rs host path with
    | nil => exact ⟨Or.inr (Or.inr rfl), rfl, rfl⟩
    | cons y ys => exact ⟨Or.inl rfl, rfl, rfl⟩
  · cases hn : cfg.noMethod with
    | false => rw [special_noRoute h hn]; exact ⟨Or.inr (Or.inr rfl), rfl, rfl⟩
    | true =>
      rw [special_noMethod h hn]
      cases noMethodHits rs m host path with
      | nil => exact ⟨Or.inr (Or.inr rfl), rfl, rfl⟩
      | cons y ys => exact ⟨Or.inr (Or.inl rfl), rfl, rfl⟩

theorem special_kind_ne (cfg : Cfg) (rs : Roots) (m host path : Bytes) :
    (special cfg rs m host path).kind ≠ .route ∧ (special cfg rs m host path).kind ≠ .redirect := by
  rcases (special_unmatched cfg rs m host path).1 with h | h | h <;> rw [h] <;> exact ⟨nofun, nofun⟩

/-- with both options off every unserved request goes to the no-route handler -/
theorem special_plain (cfg : Cfg) (rs : Roots) (m host path : Bytes) (h1 : cfg.autoOptions = false) (h2 : cfg.noMethod = false) :
    (special cfg rs m host path).kind = .noRoute ∧ (special cfg rs m host path).allow = [] := by
  rw [special_noRoute (fun h => by rw [h1] at h; cases h.2) h2]
  exact ⟨rfl, rfl⟩

/-- Allow never lists the request's own method in a 405 answer -/
theorem noMethod_excludes_own (rs : Roots) (m host path : Bytes) : m ∉ (noMethodHits rs m host path).map (·.1) := by
  rw [noMethodHits_methods]
  intro h
  simp only [List.mem_map, List.mem_filter, Bool.and_eq_true, Bool.not_eq_true'] at h
  obtain ⟨x, ⟨_, hx, _⟩, rfl⟩ := h
  simp at hx

/-- **the only way Allow can list a method that does not serve the request** (recorded finding F17): the loose test of
    the Allow loops differs from what dispatch serves exactly for a trailing-slash match on an ignore-trailing-slash
    route when the method is CONNECT or the path is "/" -/
theorem loose_vs_strict (res : Result) (x urlPath : Bytes) :
    looseServes res ≠ strictServes res x urlPath ↔
      ∃ r ps, res = .found r ps true ∧ r.ignoreTS = true ∧ (x = CONNECT ∨ urlPath = [SLASH]) := by
  constructor
  · intro h
    cases res with
    | none => exact absurd rfl h
    | bad => exact absurd rfl h
    | found r ps tsr =>
      cases tsr with
      | false => exact absurd rfl h
      | true =>
        have h' : r.ignoreTS ≠ (r.ignoreTS && x != CONNECT && urlPath != [SLASH]) := h
        cases hi : r.ignoreTS with
        | false => rw [hi] at h'; exact absurd rfl h'
        | true =>
          refine ⟨r, ps, rfl, hi, ?_⟩
          by_cases hc : x = CONNECT
          · exact Or.inl hc
          · by_cases hu : urlPath = [SLASH]
            · exact Or.inr hu
            · rw [hi, bne_iff_ne.2 hc, bne_iff_ne.2 hu] at h'
              exact absurd rfl h'
  · rintro ⟨r, ps, rfl, hi, hg⟩
    show r.ignoreTS ≠ (r.ignoreTS && x != CONNECT && urlPath != [SLASH])
    rw [hi]
    rcases hg with rfl | rfl
    · nofun
    · rw [Bool.and_comm]
      nofun

/-- what dispatch serves, the Allow loops list -/
theorem loose_of_strict {res : Result} {x urlPath : Bytes} (h : strictServes res x urlPath = true) :
    looseServes res = true := by
  cases res with
  | none => exact h
  | bad => exact h
  | found r ps tsr =>
    cases tsr with
    | false => rfl
    | true =>
      have h' : (r.ignoreTS && x != CONNECT && urlPath != [SLASH]) = true := h
      rw [Bool.and_eq_true, Bool.and_eq_true] at h'
      exact h'.1.1

/-- and conversely outside the case of `loose_vs_strict` -/
theorem strict_of_loose {res : Result} {x urlPath : Bytes} (h : looseServes res = true)
    (hn : ¬∃ r ps, res = .found r ps true ∧ r.ignoreTS = true ∧ (x = CONNECT ∨ urlPath = [SLASH])) :
    strictServes res x urlPath = true :=
  Decidable.not_not.1 (mt (loose_vs_strict res x urlPath).1 hn) ▸ h

end Fox.C11
