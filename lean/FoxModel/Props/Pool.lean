import FoxModel.Generated.Pool
/-
  Properties C12, C14, C16 - the discipline of pooled objects, regenerated on every run.

  Request contexts come from `tree.ctx` (a `sync.Pool`), copy buffers from `copyBufPool`. foxfacts walks the control-flow
  graph of every function and function literal of the root package that obtains an object from a pool and classifies
  each acquisition (extract/facts_pool.go): on every path to an exit the object is given back exactly once (`Put`, a put
  helper or `Close`, directly or deferred) and not used afterwards (`released-once`), or handed to the caller in a
  return statement (`escapes`). Releasing twice, releasing and then using the object (or a local derived from it),
  leaving a path without release, deferring a release inside a loop, acquiring outside a closure what the closure
  releases - each is a different verdict and breaks this theorem. The fact is the set of verdict kinds, not the list of
  sites, so moving code between functions or renaming does not affect it.
-/
namespace Fox.Pool

/-- every pooled object obtained anywhere in the root package is released exactly once on every path, or returned to the caller -/
theorem pool_discipline :
    (Generated.poolVerdicts.all fun v => v == "escapes" || v == "released-once") = true ∧
    Generated.poolOffenders = [] ∧ 0 < Generated.poolAcquisitions := by
  decide +kernel

end Fox.Pool
