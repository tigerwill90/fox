import FoxModel.Generated.Consts
import FoxModel.Spec.Clean
import FoxModel.Model.Clean
import FoxModel.Lemmas.CleanSpec
import FoxModel.Lemmas.CleanModel
import FoxModel.Generated.Clean
/-
  Property C17 — CleanPath returns the canonical path.

  First the lexical definition `Spec.Clean.clean` alone: its results are `Canonical`, the canonical paths are its fixed points, and
  when the result ends with a slash. Then the index/buffer model of path.go, which equals `clean` on every input
  (Lemmas/CleanModel), so that all of this holds of `CleanPath`; and the guard `path == CleanPath(path)` of `ServeHTTP`.
-/
namespace Fox.C17
open Fox Fox.Spec.Clean

/-- the constant of path.go (regenerated on every run) is the one the model documents -/
theorem stackBufSize_tie : Generated.c_stackBufSize = (Model.Clean.stackBufSize : Int) ∧
    Generated.cleanPathStackBuf = (Model.Clean.stackBufSize : Int) := by decide

/-- For every input the lexical result is in canonical form: the root, or "/" followed by proper elements (non-empty,
    not ".", not "..", slash-free) joined by single slashes, with at most one trailing slash. -/
theorem clean_canonical (p : Bytes) : Canonical (clean p) := by
  unfold clean
  by_cases h : stack p = []
  · simp [h, Canonical]
  · right
    refine ⟨stack p, h, stack_good p, ?_⟩
    simp only [h, if_false]
    cases wantsTrailing p <;> simp

/-- Uniqueness: a canonical path is its own canonical form (cleaning changes nothing on it). -/
theorem clean_of_canonical {q : Bytes} (hq : Canonical q) : clean q = q := by
  rcases hq with rfl | ⟨st, hne, hgood, hq⟩
  · decide
  · have hns : ∀ e ∈ st, SLASH ∉ e := fun e he => (hgood e he).noslash
    have hlast : GoodElem (st.getLast hne) := hgood _ (List.getLast_mem hne)
    rcases hq with rfl | rfl
    · have hsp : splitSlash (join st) = [] :: st := splitSlash_join hns
      have hstack : stack (join st) = st := by
        simp [stack, hsp, push_nil, foldl_push_of_good hgood]
      have htr : wantsTrailing (join st) = false := by
        simp [wantsTrailing, hsp, List.getLast?_cons, List.getLast?_eq_some_getLast hne, hlast.ne_nil, hlast.2.1]
      simp [clean, hstack, hne, htr]
    · have hsp := splitSlash_join_slash hns
      have hstack : stack (join st ++ [SLASH]) = st := by
        simp [stack, hsp, push_nil, foldl_push_of_good hgood]
      have htr : wantsTrailing (join st ++ [SLASH]) = true := by
        unfold wantsTrailing
        rw [hsp, List.getLast?_append]
        simp
      simp [clean, hstack, hne, htr]

/-- CleanPath's specification is idempotent. -/
theorem clean_idem (p : Bytes) : clean (clean p) = clean p :=
  clean_of_canonical (clean_canonical p)

/-- The canonical paths are exactly the fixed points of cleaning: this is the test `path == CleanPath(path)`. -/
theorem canonical_iff_fixed (q : Bytes) : Canonical q ↔ clean q = q :=
  ⟨clean_of_canonical, fun h => h ▸ clean_canonical q⟩

/-- Two canonical paths with the same canonical form are equal (the canonical form is unique). -/
theorem canonical_unique {q₁ q₂ : Bytes} (h₁ : Canonical q₁) (h₂ : Canonical q₂) (h : clean q₁ = clean q₂) : q₁ = q₂ := by
  rw [clean_of_canonical h₁, clean_of_canonical h₂] at h
  exact h

/-- Trailing slash: unless the result is the root, it ends with a slash exactly when the last element of the input
    (after splitting on '/') is empty or ".". -/
theorem clean_trailing_iff (p : Bytes) (hroot : clean p ≠ [SLASH]) :
    (clean p).getLast? = some SLASH ↔
      ((splitSlash p).getLast? = some [] ∨ (splitSlash p).getLast? = some [DOT]) := by
  have hne : stack p ≠ [] := by
    intro h; apply hroot; simp [clean, h]
  have hw : wantsTrailing p = true ↔
      ((splitSlash p).getLast? = some [] ∨ (splitSlash p).getLast? = some [DOT]) := by
    simp [wantsTrailing]
  rw [← hw]
  unfold clean
  simp only [hne, if_false]
  cases hwt : wantsTrailing p
  · simp
    exact getLast?_join_ne_slash hne (stack_good p)
  · simp

/-- the last element of the split is empty exactly when the input is empty or ends with a slash -/
theorem lastElem_nil_iff (p : Bytes) :
    (splitSlash p).getLast? = some [] ↔ (p = [] ∨ p.getLast? = some SLASH) := Spec.Clean.lastElem_nil_iff p

/-- the last element of the split is "." exactly when the input is "." or ends with "/." -/
theorem lastElem_dot_iff (p : Bytes) :
    (splitSlash p).getLast? = some [DOT] ↔ (p = [DOT] ∨ ∃ x, p = x ++ [SLASH, DOT]) := lastElem_iff (by decide) p

/-! ### the code of path.go (index/buffer model) against the lexical definition -/

/-- The single-pass cleaner of path.go (indices `r`/`w`, lazily materialised buffer, `bufApp`, the backtracking scan of
    the '..' case; every index, slice and buffer write checked) returns exactly the lexical canonical form, for every
    byte string of every length. Proved by the loop invariant `Model.Clean.Inv`. -/
theorem cleanPath_eq_spec (p : Bytes) : Model.Clean.cleanPath p = .ok (clean p) :=
  Model.Clean.cleanPath_eq_spec p

/-- No index, slice or buffer write of CleanPath is ever out of range: CleanPath never panics. -/
theorem cleanPath_total (p : Bytes) : Model.Clean.cleanPath p ≠ .panic := by
  rw [cleanPath_eq_spec]; intro h; cases h

/-- CleanPath returns a canonical path for every input. -/
theorem cleanPath_canonical (p : Bytes) : ∃ q, Model.Clean.cleanPath p = .ok q ∧ Canonical q :=
  ⟨clean p, cleanPath_eq_spec p, clean_canonical p⟩

/-- CleanPath is idempotent: applied to its own result it returns that result. -/
theorem cleanPath_idem (p q : Bytes) (h : Model.Clean.cleanPath p = .ok q) : Model.Clean.cleanPath q = .ok q := by
  rw [cleanPath_eq_spec] at h
  injection h with h
  rw [cleanPath_eq_spec, ← h, clean_idem]

/-- The guard `path == CleanPath(path)` that fox.go puts in front of the trailing-slash redirect holds exactly for
    the canonical paths: a redirect is only ever issued for a request path that is already in canonical form. -/
theorem redirect_guard_iff (path : Bytes) : Model.Clean.cleanPath path = .ok path ↔ Canonical path := by
  rw [cleanPath_eq_spec, canonical_iff_fixed]
  constructor
  · intro h; injection h
  · intro h; rw [h]

/-- ServeHTTP (regenerated from fox.go on every run): `tsrRedirect` is called at exactly one site, and that site is
    inside an `if` whose condition has the conjunct `path == CleanPath(path)`, `path` being the string the lookup ran on. -/
theorem redirect_guard_tie :
    Generated.tsrRedirectCallSites = 1 ∧ Generated.tsrRedirectGuardedByClean = true ∧
    Generated.tsrLookupArgIsPath = true := by decide

/-! ### non-vacuity -/

-- "/a/./b/../../c/" ↦ "/c/", "a/.." ↦ "/", "/../a//b/." ↦ "/a/b/"
example : clean [47, 97, 47, 46, 47, 98, 47, 46, 46, 47, 46, 46, 47, 99, 47] = [47, 99, 47] := by decide
example : clean [97, 47, 46, 46] = [47] := by decide
example : clean [47, 46, 46, 47, 97, 47, 47, 98, 47, 46] = [47, 97, 47, 98, 47] := by decide
example : Canonical [SLASH, 97, SLASH] := (canonical_iff_fixed _).mpr (by decide)
example : ¬ Canonical [SLASH, DOT, DOT, SLASH, 97] := fun h => absurd ((canonical_iff_fixed _).mp h) (by decide)

end Fox.C17
