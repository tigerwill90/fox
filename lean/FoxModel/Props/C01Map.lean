import FoxModel.Lemmas.StoreInv
import FoxModel.Props.C01Spec
import FoxModel.Props.C01Full
/-
  Property C01 (with C07, C08, C09) end to end on the *sequential map*: after any history of Handle / Update / Delete /
  Truncate the router routes every request exactly as the documented rules (`Spec.route`) applied to the list of routes
  that the sequential map (`Spec.Store`, property C02) holds for the request's method.

  `Props/C01Full.lean` evaluates the specification on the suffix set stored in the tree (tree order: children sorted by
  key). Here that order is shown to be irrelevant: the map's conflict rule makes the registered patterns name-coherent,
  a match is determined by its choice trace, so the highest-priority match is unique and the specification's answer is
  a function of the *set* of registered routes (`Lemmas/SpecPerm.lean`).
-/
namespace Fox.C01
open Fox Fox.Model Fox.Spec Fox.C02

/-! ### the conflict rule gives name coherence; a match is determined by its trace -/

/-- The conflict relation of `Handle` is symmetric. -/
theorem conflictWith_symm (a b : List Tok) : conflictWith a b = conflictWith b a := Spec.conflictWith_symm a b

/-- A route list in which no two patterns conflict (the rule `Handle` enforces) is name-coherent - the hypothesis of
    the priority theorems of `Props/C01Spec.lean`. -/
theorem coherent_of_noConflict {R : List Route} (h : NoConfl R) : CoherentRoutes R := Spec.coherent_of_noConflict h

/-- **A match is determined by its choices.** If two non-conflicting patterns match the same text and make the same
    choice at every token (static / `{param}` / infix catch-all with the same capture length / suffix catch-all), they
    are the same pattern and capture the same values. (Name coherence `cohPair` alone is not enough: `/*{a}` and
    `/*{b}` are coherent, match the same paths with the same trace, and differ; the conflict rule excludes the pair.) -/
theorem best_unique {d : UInt8} {s s' : List Tok} {p : Bytes} {bs bs' : Binds}
    (h1 : Match d s p bs) (h2 : Match d s' p bs') (hc : conflictWith s s' = false)
    (ht : trace s bs = trace s' bs') : s = s' ∧ bs = bs' := Spec.best_unique h1 h2 hc ht

/-- the same for whole patterns `host/path` matched against a request `(host, path)` -/
theorem best_unique_hp {s s' : List Tok} {host path : Bytes} {bs bs' : Binds}
    (h1 : MatchHP s host path bs) (h2 : MatchHP s' host path bs') (hc : conflictWith s s' = false)
    (ht : trace s bs = trace s' bs') : s = s' ∧ bs = bs' := Spec.best_unique_hp h1 h2 hc ht

/-- **The highest-priority match is unique**: two `IsBest` answers over route lists with the same members (no
    conflicting patterns, one route per pattern) are the same route with the same parameters. -/
theorem isBest_unique {R R' : List Route} (hc : NoConfl R) (hi : PatInj R) (hmem : ∀ r, r ∈ R ↔ r ∈ R')
    {path : Bytes} {r r' : Route} {bs bs' : Binds} (h : IsBest R path r bs) (h' : IsBest R' path r' bs') :
    r = r' ∧ bs = bs' := Spec.isBest_unique hc hi hmem h h'

/-- the same for hostname routes -/
theorem isBestHP_unique {R R' : List Route} (hc : NoConfl R) (hi : PatInj R) (hmem : ∀ r, r ∈ R ↔ r ∈ R')
    {host path : Bytes} {r r' : Route} {bs bs' : Binds} (h : IsBestHP R host path r bs)
    (h' : IsBestHP R' host path r' bs') : r = r' ∧ bs = bs' := Spec.isBestHP_unique hc hi hmem h h'

/-! ### the specification is a function of the set of routes -/

/-- The first result of the specification's path search does not depend on the order (or multiplicity) in which the
    routes are listed. -/
theorem specAll_head_perm {R R' : List Route} (hc : NoConfl R) (hi : PatInj R) (hmem : ∀ r, r ∈ R ↔ r ∈ R')
    (path : Bytes) : (specAll (Spec.sufsOf R) path []).head? = (specAll (Spec.sufsOf R') path []).head? :=
  Spec.specAll_head_perm hc hi hmem path

/-- the same for the hostname search -/
theorem specHost_head_perm {R R' : List Route} (hc : NoConfl R) (hi : PatInj R) (hmem : ∀ r, r ∈ R ↔ r ∈ R')
    (host path : Bytes) :
    (specHost (Spec.sufsOf R) host path []).head? = (specHost (Spec.sufsOf R') host path []).head? :=
  Spec.specHost_head_perm hc hi hmem host path

/-- **`Spec.route` depends only on the set of registered routes** (hostname stage, path stage, both trailing-slash
    directions included), for route lists without conflicting patterns and with one route per pattern. -/
theorem route_perm {R R' : List Route} (hc : NoConfl R) (hi : PatInj R) (hmem : ∀ r, r ∈ R ↔ r ∈ R')
    (hostPort path : Bytes) : Spec.route R hostPort path = Spec.route R' hostPort path :=
  Spec.route_congr hc hi hmem hostPort path

/-- For routes whose recorded host/path split (`hostToks`) is in front of the first literal '/' of the pattern, the
    suffix-set form `routeS` used by the refinement theorem is the specification `Spec.route` on the route list. -/
theorem routeS_sufsOf {rs : List Route} (h : ∀ r ∈ rs, splitOk r = true) (hostPort path : Bytes) :
    routeS (Spec.sufsOf rs) hostPort path = Spec.route rs hostPort path := Spec.routeS_sufsOf h hostPort path

/-! ### the invariants of the sequential map along a history -/

/-- what the route handed to `Handle` / `Update` must satisfy for routing: its recorded host/path split is in front of
    the first literal '/' of its pattern (true for every route the parser builds; `validPattern` implies it) -/
def opSplitOk : Op → Bool
  | .handle _ r => splitOk r
  | .update _ r => splitOk r
  | _ => true

/-- the hypothesis on `Update` only (for `Handle` it follows from `Op.valid`) -/
def updSplitOk : Op → Bool
  | .update _ r => splitOk r
  | _ => true

theorem splitOk_of_valid {r : Route} (h : validPattern r = true) : splitOk r = true := by
  have := (validPattern_iff r).1 h
  simp [splitOk, this.2.1, this.2.2.1]

theorem opSplitOk_of {op : Op} (hv : op.valid = true) (hu : updSplitOk op = true) : opSplitOk op = true := by
  cases op with
  | handle m r => exact splitOk_of_valid hv
  | update m r => exact hu
  | delete m pat => rfl
  | truncate ms => rfl

theorem stepSpec_inv {s : Store} (op : Op) (h1 : NoConflict s) (h2 : SplitOk s) (hv : opSplitOk op = true) :
    NoConflict (stepSpec s op).1 ∧ SplitOk (stepSpec s op).1 := by
  cases op with
  | handle m r => exact ⟨h1.handle m r, h2.handle m hv⟩
  | update m r => exact ⟨h1.update m r, h2.update m hv⟩
  | delete m pat => exact ⟨h1.sub (delete_sub s m pat), h2.sub (delete_sub s m pat)⟩
  | truncate ms => exact ⟨h1.sub (truncate_sub s ms), h2.sub (truncate_sub s ms)⟩

theorem runSpec_inv : ∀ (ops : List Op) {s : Store}, NoConflict s → SplitOk s → (∀ op ∈ ops, opSplitOk op = true) →
    NoConflict (runSpec s ops).1 ∧ SplitOk (runSpec s ops).1
  | [], s, h1, h2, _ => ⟨h1, h2⟩
  | op :: ops, s, h1, h2, hv => by
    have := stepSpec_inv op h1 h2 (hv op (List.mem_cons_self ..))
    exact runSpec_inv ops this.1 this.2 (fun o ho => hv o (List.mem_cons_of_mem _ ho))

/-- **The conflict rule is an invariant of the sequential map**: after any history, no two patterns registered for
    the same method conflict, and every stored route has its host/path split in front of its first literal '/'. -/
theorem store_noConflict (ops : List Op) (hs : ∀ op ∈ ops, opSplitOk op = true) :
    NoConflict (runSpec [] ops).1 ∧ SplitOk (runSpec [] ops).1 :=
  runSpec_inv ops (fun e he => by cases he) (fun e he => by cases he) hs

/-- hence the routes the map holds for a method are name-coherent: the priority theorems of `Props/C01Spec.lean`
    (`route_outcome`, `route_direct_first`, ...) apply to `Spec.route` on every reachable map -/
theorem store_coherent (ops : List Op) (hs : ∀ op ∈ ops, opSplitOk op = true) (m : Bytes) :
    CoherentRoutes ((runSpec [] ops).1.routesOf m) :=
  Spec.coherent_of_noConflict ((store_noConflict ops hs).1.routesOf m)

/-! ### end to end -/

/-- lookup = `Spec.route` on the map's routes, for every tree/map pair related by the C02 simulation whose map
    satisfies the two routing invariants -/
theorem lookup_eq_route_of_sim {t : Tree} {s : Store} (h : Sim t s) (hc : NoConflict s) (hsp : SplitOk s)
    (m hostPort path : Bytes) (hn : noDbl path = true) (hs : SLASH ∉ stripHostPort hostPort) :
    lookup t.roots m hostPort path = toResult (Spec.route (s.routesOf m) hostPort path) := by
  have hmem : ∀ r, r ∈ s.routesOf m ↔ r ∈ routesOf t m := fun r => ((h.abs.1 m).mem_iff).symm
  rw [lookup_eq_spec_good h.good m hostPort path hn hs, sufsOfMethod_eq h.good m,
    Spec.routeS_sufsOf (fun r hr => hsp.routesOf m r ((hmem r).2 hr)),
    ← Spec.route_congr (hc.routesOf m) (patInj_routesOf h.store m) hmem]

/-- **C01 / C07 / C08 / C09 end to end, on the sequential map.** After *any* history of Handle / Update / Delete /
    Truncate (every `Handle` pattern being one the parser accepts, every `Update` route carrying the host/path split
    of its pattern), for every method, every Host without '/' (after stripping port and trailing dot) and every request
    path without empty segment, the route, the parameters and the trailing-slash flag returned by the model of
    `roots.lookup` on the radix tree are exactly those of the documented routing rules `Spec.route` applied to the list
    of routes that the sequential map holds for that method: hostname routes before path-only routes; at every position
    static text before `{param}` before `*{catch-all}`, with backtracking; a direct match before a slash-adjusted one.
    The shape of the tree, the order of its children and the order of registration play no role. -/
theorem routing_correct_on_the_sequential_map (ops : List Op) (hv : ∀ op ∈ ops, op.valid = true)
    (hu : ∀ op ∈ ops, updSplitOk op = true)
    (m hostPort path : Bytes) (hn : noDbl path = true) (hs : SLASH ∉ stripHostPort hostPort) :
    lookup (runModel newTree ops).1.roots m hostPort path =
      toResult (Spec.route ((runSpec [] ops).1.routesOf m) hostPort path) := by
  have hinv := store_noConflict ops (fun op hop => opSplitOk_of (hv op hop) (hu op hop))
  exact lookup_eq_route_of_sim (C02_refines ops hv).1 hinv.1 hinv.2 m hostPort path hn hs

/-- **C07: the registered set determines the routing.** Two histories (in any order, with any intermediate updates,
    deletions and truncations) whose final maps hold the same routes for method `m` route every request of that method
    identically: same route, same parameters, same trailing-slash flag. -/
theorem same_routes_same_routing (ops1 ops2 : List Op)
    (hv1 : ∀ op ∈ ops1, op.valid = true) (hu1 : ∀ op ∈ ops1, updSplitOk op = true)
    (hv2 : ∀ op ∈ ops2, op.valid = true) (hu2 : ∀ op ∈ ops2, updSplitOk op = true)
    (m : Bytes) (hsame : ∀ r, r ∈ (runSpec [] ops1).1.routesOf m ↔ r ∈ (runSpec [] ops2).1.routesOf m)
    (hostPort path : Bytes) (hn : noDbl path = true) (hs : SLASH ∉ stripHostPort hostPort) :
    lookup (runModel newTree ops1).1.roots m hostPort path =
      lookup (runModel newTree ops2).1.roots m hostPort path := by
  rw [routing_correct_on_the_sequential_map ops1 hv1 hu1 m hostPort path hn hs,
    routing_correct_on_the_sequential_map ops2 hv2 hu2 m hostPort path hn hs]
  have hinv := store_noConflict ops1 (fun op hop => opSplitOk_of (hv1 op hop) (hu1 op hop))
  rw [Spec.route_congr (hinv.1.routesOf m) (patInj_routesOf (C02_refines ops1 hv1).1.store m) hsame]

/-- permutation form of the hypothesis -/
theorem perm_routes_same_routing (ops1 ops2 : List Op)
    (hv1 : ∀ op ∈ ops1, op.valid = true) (hu1 : ∀ op ∈ ops1, updSplitOk op = true)
    (hv2 : ∀ op ∈ ops2, op.valid = true) (hu2 : ∀ op ∈ ops2, updSplitOk op = true)
    (m : Bytes) (hperm : ((runSpec [] ops1).1.routesOf m).Perm ((runSpec [] ops2).1.routesOf m))
    (hostPort path : Bytes) (hn : noDbl path = true) (hs : SLASH ∉ stripHostPort hostPort) :
    lookup (runModel newTree ops1).1.roots m hostPort path =
      lookup (runModel newTree ops2).1.roots m hostPort path :=
  same_routes_same_routing ops1 ops2 hv1 hu1 hv2 hu2 m (fun _ => hperm.mem_iff) hostPort path hn hs

/-! ### non-vacuity -/

/-- the hypotheses hold for the example history of C02 (Handle, conflicting Handle, duplicate Handle, hostname Handle,
    Update, two Deletes, Truncate) -/
example : (∀ op ∈ exOps, op.valid = true) ∧ (∀ op ∈ exOps, updSplitOk op = true) := by decide

/-- two registration orders of the same three routes -/
def exA : List Op := [.handle GET exR1, .handle GET exR3, .handle GET C01Spec.Ex.rSuf]
def exB : List Op := [.handle GET C01Spec.Ex.rSuf, .handle GET exR3, .handle GET exR1]
example : (∀ op ∈ exA ++ exB, op.valid = true) ∧ (∀ op ∈ exA ++ exB, updSplitOk op = true) := by decide
example : (runSpec [] exA).1.routesOf GET ≠ (runSpec [] exB).1.routesOf GET ∧
    ((runSpec [] exA).1.routesOf GET).Perm ((runSpec [] exB).1.routesOf GET) := by decide

/-- the `Update` hypothesis cannot be dropped: `Update` with a route that carries the pattern of a registered path
    route but claims a hostname part makes `Spec.route` on the map treat it as a hostname route -/
example : updSplitOk (.update GET { exR1 with hostToks := 1 }) = false := by decide

end Fox.C01
