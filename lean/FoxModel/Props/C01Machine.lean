import FoxModel.Lemmas.MachineHost
import FoxModel.Lemmas.MachineLazy
import FoxModel.Props.C01Map
import FoxModel.Util
/-
  Property C01 (with C07, C08, C09), stated on the matcher *as the Go code runs it*.

  `Model/Machine.lean` is the state machine of node.go: `lookupByPath` / `lookupByDomain` with their registers, the
  explicit stack of skipped alternatives (`*c.skipNds`), the parameter buffer `*c.params` that is truncated on
  backtracking, the "first trailing-slash candidate wins" registers, the early return on the first direct match, the
  recursive sub-lookups of infix catch-alls and of the hostname→path hand-over, and the staging of `roots.lookup`.
  The correspondence streams compare *this* machine with the implementation (`M=` of the `ops` and `routable` streams).

  The theorems below say that the machine computes exactly the enumerating model (`Model.lookup`) that the refinement
  theorems of Props/C01, C01Full, C01Map, C08, C09 are about - so all of them hold of the machine, for every reachable
  state, every request and every content of the recycled buffers the machine starts with.
-/
namespace Fox.C01
open Fox Fox.Model Fox.Spec Fox.C02

/-- **lookupByPath** (stack machine) on a well-formed node = first direct match of the enumerating walk, else its first
    trailing-slash candidate. The rendering of the explicit stack as a recursion is proved, not assumed. -/
theorem machine_path_refines {target : Node} (hw : wfNode target = true) (path : Bytes) (ps0 : Binds) :
    Machine.lookupByPath target path ps0 = pick (pathEvents target path ps0) :=
  lookupByPath_eq_pick hw path ps0

/-- **lookupByDomain** (stack machine, with the path sub-lookup below the "/" child of a fully matched hostname and the
    propagation of its first trailing-slash candidate) = the enumerating hostname walk. -/
theorem machine_host_refines {root : Node} (hw : wfKids root.children = true)
    (hd : nodupB (kindsOf root.children) = true) (host path : Bytes) (hne : host ≠ []) :
    Machine.lookupByDomain root host path = pick (hostWalk root [] host path []) :=
  lookupByDomain_eq_pick hw hd host path hne

/-- **roots.lookup** of the machine = `Model.lookup`, on every well-formed forest, for every method, Host and path
    (no restriction on the request: empty segments, odd Hosts, '{' and '*' in the path included). -/
theorem machine_lookup_eq_model {rs : Roots} (hw : wfRoots rs = true) (m hostPort path : Bytes) :
    Machine.lookup rs m hostPort path = Model.lookup rs m hostPort path :=
  machine_lookup_eq hw m hostPort path

/-- the same in every state reachable by a history of valid operations -/
theorem machine_lookup_eq_model_reachable (ops : List Op) (hv : ∀ op ∈ ops, op.valid = true) (m hostPort path : Bytes) :
    Machine.lookup (runModel newTree ops).1.roots m hostPort path =
      Model.lookup (runModel newTree ops).1.roots m hostPort path :=
  machine_lookup_eq (C02_reachable_wf ops hv).1 m hostPort path

/-- **C01 / C07 / C08 / C09 end to end for the machine.** After any history of Handle / Update / Delete / Truncate, for
    every method, every Host without '/' and every path without empty segment, the state machine of `roots.lookup`
    returns exactly the route, the parameters and the trailing-slash flag of the documented routing rules `Spec.route`
    applied to the routes the sequential map holds for that method. -/
theorem machine_routing_correct_on_the_sequential_map (ops : List Op) (hv : ∀ op ∈ ops, op.valid = true)
    (hu : ∀ op ∈ ops, updSplitOk op = true)
    (m hostPort path : Bytes) (hn : noDbl path = true) (hs : SLASH ∉ stripHostPort hostPort) :
    Machine.lookup (runModel newTree ops).1.roots m hostPort path =
      toResult (Spec.route ((runSpec [] ops).1.routesOf m) hostPort path) := by
  rw [machine_lookup_eq_model_reachable ops hv]
  exact routing_correct_on_the_sequential_map ops hv hu m hostPort path hn hs

/-- **C07 for the machine**: two histories with the same final set of routes for a method are routed identically. -/
theorem machine_same_routes_same_routing (ops1 ops2 : List Op)
    (hv1 : ∀ op ∈ ops1, op.valid = true) (hu1 : ∀ op ∈ ops1, updSplitOk op = true)
    (hv2 : ∀ op ∈ ops2, op.valid = true) (hu2 : ∀ op ∈ ops2, updSplitOk op = true)
    (m : Bytes) (hsame : ∀ r, r ∈ (runSpec [] ops1).1.routesOf m ↔ r ∈ (runSpec [] ops2).1.routesOf m)
    (hostPort path : Bytes) (hn : noDbl path = true) (hs : SLASH ∉ stripHostPort hostPort) :
    Machine.lookup (runModel newTree ops1).1.roots m hostPort path =
      Machine.lookup (runModel newTree ops2).1.roots m hostPort path := by
  rw [machine_lookup_eq_model_reachable ops1 hv1, machine_lookup_eq_model_reachable ops2 hv2]
  exact same_routes_same_routing ops1 ops2 hv1 hu1 hv2 hu2 m hsame hostPort path hn hs

/-- the parameters a lookup starts with are kept in front of the ones it records (`walk_prefix` is the same fact about
    the walk, which the proofs of the hostname hand-over and of the catch-all sub-lookups use) -/
theorem machine_path_keeps_prefix {target : Node} (hw : wfNode target = true) (path : Bytes) (ps0 : Binds) :
    Machine.lookupByPath target path ps0 = (Machine.lookupByPath target path []).pre ps0 := by
  rw [lookupByPath_eq_pick hw, lookupByPath_eq_pick hw, ← pickC_none_eq_pick, ← pickC_none_eq_pick]
  unfold pathEvents
  rw [walk_prefix, pickC_none_map_pre]

/-- **The lazy entry points agree with the recording ones** (C01: "ServeHTTP, Lookup, Reverse and the iterator Reverse, on
    the router and on transactions, all agree on that selection"; C11: the Allow-header loops). `roots.lookup` run with
    `lazy = true` (Router.Reverse, Txn.Reverse, Iter.Reverse, the 405 / OPTIONS loops of ServeHTTP: no parameter is
    recorded, `paramCnt` is not advanced) returns the same route and the same trailing-slash flag as the run with
    `lazy = false` (ServeHTTP, Lookup), on every forest - well-formed or not -, for every method, Host and path: both runs
    move through the tree in lock step (`lazy_run_all`, `host_lazy_sim_all`: 27 + 19 cases). -/
theorem machine_lazy_agrees (rs : Roots) (m hostPort path : Bytes) :
    forget (Machine.lookup rs m hostPort path true) = forget (Machine.lookup rs m hostPort path false) :=
  machine_lookup_lazy rs m hostPort path

/-- hence, after any history, the lazy lookup selects exactly the route and the flag of the documented rules -/
theorem machine_lazy_routing_correct_on_the_sequential_map (ops : List Op) (hv : ∀ op ∈ ops, op.valid = true)
    (hu : ∀ op ∈ ops, updSplitOk op = true)
    (m hostPort path : Bytes) (hn : noDbl path = true) (hs : SLASH ∉ stripHostPort hostPort) :
    forget (Machine.lookup (runModel newTree ops).1.roots m hostPort path true) =
      forget (toResult (Spec.route ((runSpec [] ops).1.routesOf m) hostPort path)) := by
  rw [machine_lazy_agrees, machine_routing_correct_on_the_sequential_map ops hv hu m hostPort path hn hs]

/-- **A lazy lookup records nothing** (C12: the Allow loops run on the request's own pooled context and must not expose
    anything in it): the lazy `lookupByPath` never appends to the parameter buffer and never advances `paramCnt`, so every
    re-slice `(*c.params)[:skipped.paramCnt]` on backtracking is a genuine truncation; started on the emptied buffer it
    reports no parameter at all. (`lazy_run_all`, the same induction over the machine's recursion, for a property of
    parameter lists that truncation preserves; `lazy_trunc_all` is its instance "a truncation of the initial buffer".) -/
theorem machine_lazy_records_nothing (target : Node) (path : Bytes) (r : Route) (ps : Binds) (t : Bool)
    (h : Machine.lookupByPath target path [] true = .found r ps t) : ps = [] :=
  lookupByPath_lazy_records_nothing target path r ps t h

end Fox.C01

/-! ### non-vacuity: the machine really backtracks, truncates and keeps a trailing-slash candidate on concrete trees -/
namespace Fox.C01.MachineEx
open Fox Fox.Model Fox.Spec Fox.C02 Fox.Util

def mk (hid : Nat) (s : String) : Route :=
  match tokenize (ascii s) with
  | some toks => { hid := hid, pattern := toks, hostToks := toks.findIdx (· == Tok.lit SLASH) }
  | none => { hid := hid, pattern := [] }

/-- /a/{x}/c/d · /a/b/{z}/e · /a/*{w} · /{p}/b/c/x · a.{h}.io/q/ : static-before-param-before-catch-all
    with two nested backtracks, a hostname route and a trailing-slash candidate -/
def hist : List Op :=
  [.handle GET (mk 1 "/a/{x}/c/d"), .handle GET (mk 2 "/a/b/{z}/e"), .handle GET (mk 3 "/a/*{w}"),
   .handle GET (mk 4 "/{p}/b/c/x"), .handle GET (mk 5 "a.{h}.io/q/"), .handle GET (mk 6 "/a/b/c/")]

-- the hypotheses of the theorems above hold for this history (evaluated: `tokenize` is a well-founded recursion)
#guard hist.all (fun op => op.valid) && hist.all (fun op => updSplitOk op)
#guard wfRoots (runModel newTree hist).1.roots

def rs : Roots := (runModel newTree hist).1.roots

-- /a/b/c/d : static b fails at /e, backtrack to {x}=b → /c/d matches route 1 with the parameter recorded after truncation
#guard (match Machine.lookup rs GET [] (ascii "/a/b/c/d") with
        | .found r ps false => r.hid == 1 && ps == [(ascii "x", ascii "b")] | _ => false)
-- /a/b/c/y : both fail, the catch-all takes the rest
#guard (match Machine.lookup rs GET [] (ascii "/a/b/c/y") with
        | .found r ps false => r.hid == 3 && ps == [(ascii "w", ascii "b/c/y")] | _ => false)
-- /a/b/c : the candidate "add a slash" (route 6) is kept while the search goes on and finds the catch-all directly
#guard (match Machine.lookup rs GET [] (ascii "/a/b/c") with
        | .found r _ false => r.hid == 3 | _ => false)
-- hostname stage with a trailing-slash candidate that wins over the path-only fallback
#guard (match Machine.lookup rs GET (ascii "a.zz.io:8080") (ascii "/q") with
        | .found r ps true => r.hid == 5 && ps == [(ascii "h", ascii "zz")] | _ => false)
-- a path byte '{' is searched among the static children and lands on the param child (explored twice, same answer)
#guard (match Machine.lookup rs GET [] (ascii "/{/b/c/x") with
        | .found r ps false => r.hid == 4 && ps == [(ascii "p", ascii "{")] | _ => false)
-- the lazy run (Reverse, Allow loops) selects the same routes and records nothing
#guard [("", "/a/b/c/d"), ("", "/a/b/c/y"), ("", "/a/b/c"), ("a.zz.io:8080", "/q"), ("", "/{/b/c/x"), ("", "/zz")].all fun (h, p) =>
  forget (Machine.lookup rs GET (ascii h) (ascii p) true) == forget (Machine.lookup rs GET (ascii h) (ascii p) false) &&
  (match Machine.lookup rs GET (ascii h) (ascii p) true with | .found _ ps _ => ps.isEmpty | _ => true)
-- and on all of them machine = enumerating model = specification
#guard [("", "/a/b/c/d"), ("", "/a/b/c/y"), ("", "/a/b/c"), ("a.zz.io:8080", "/q"), ("", "/{/b/c/x"), ("", "/zz")].all fun (h, p) =>
  Machine.lookup rs GET (ascii h) (ascii p) == Model.lookup rs GET (ascii h) (ascii p) &&
  Model.lookup rs GET (ascii h) (ascii p) == toResult (Spec.route ((runSpec [] hist).1.routesOf GET) (ascii h) (ascii p))

end Fox.C01.MachineEx
