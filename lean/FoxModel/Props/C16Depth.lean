import FoxModel.Lemmas.TreeOps
/-
  Property C16, the capacity *hints*. `allocateContext` (tree.go) gives the stack of skipped alternatives of a pooled
  context the initial capacity `tree.depth`, and iter.go sizes its stack with the same number. `depth` is maintained by
  `updateMaxDepth(result.depth + addDepth)` on insertion: the number of edges followed to the place of the insertion.
  It is a hint, not a bound: splitting a node pushes the whole subtree below it one level down without `depth` learning
  about it, so the tree can be higher than `depth` says (witness below, replayed on the implementation: the `depth=`
  field of the tree dump is compared by the ops / hist / bulk streams in every case, and the Go program of
  DESIGN §4-C16 prints height 4, depth 3 for the same history). This is why no theorem "stack ≤ depth" is stated (it is
  false, in the model and in the code), why the stack may grow on the first requests of a fresh context, and why the
  property - and `testing.AllocsPerRun` of the alloc stream - speak about the steady state.
-/
namespace Fox.C16
open Fox Fox.Model Fox.C02

mutual
/-- number of edges on the longest path below a node -/
def height : Node → Nat
  | .mk _ _ cs => heightKids cs
def heightKids : List Node → Nat
  | [] => 0
  | c :: cs => max (height c + 1) (heightKids cs)
end

/-- GET /ab, /abcd, /abcdef (a chain three edges deep), then /a: the node "/ab" is split -/
def depthHist : List Op :=
  [.handle GET { hid := 1, pattern := [.lit 47, .lit 97, .lit 98] },
   .handle GET { hid := 2, pattern := [.lit 47, .lit 97, .lit 98, .lit 99, .lit 100] },
   .handle GET { hid := 3, pattern := [.lit 47, .lit 97, .lit 98, .lit 99, .lit 100, .lit 101, .lit 102] },
   .handle GET { hid := 4, pattern := [.lit 47, .lit 97] }]

/-- `depth` is only a hint: after this history the GET tree is four edges deep while `depth` is three -/
theorem depth_is_a_hint_not_a_bound :
    ∃ h : List Op, (∀ op ∈ h, op.valid = true) ∧
      (runModel newTree h).1.depth < ((methodRoot (runModel newTree h).1.roots GET).map height).getD 0 :=
  ⟨depthHist, by decide, by decide⟩

#guard (runModel newTree depthHist).1.depth == 3
#guard ((methodRoot (runModel newTree depthHist).1.roots GET).map height) == some 4

/-! what does hold: `depth` never decreases (a running maximum; deletions and truncations do not lower it) -/

theorem insert_depth {t t' : Tree} {m : Bytes} {r : Route} {c : InsCase} (h : t.insert m r = .ok (t', c)) :
    t.depth ≤ t'.depth := by
  unfold Tree.insert at h
  simp only at h
  split at h
  · cases h
  · split at h
    · cases h
    · simp only [Except.ok.injEq, Prod.mk.injEq] at h
      rw [← h.1]; exact Nat.le_max_left _ _

theorem update_depth {t t' : Tree} {m : Bytes} {r : Route} (h : t.update m r = some t') : t'.depth = t.depth := by
  unfold Tree.update at h
  split at h
  · cases h
  · split at h
    · cases h
    · simp only [Option.some.injEq] at h; rw [← h]

theorem remove_depth {t t' : Tree} {m : Bytes} {toks : List Tok} {old : Route} {c : RemCase}
    (h : t.remove m toks = some (t', old, c)) : t'.depth = t.depth := by
  unfold Tree.remove at h
  split at h
  · cases h
  · split at h
    · cases h
    · simp only [Option.some.injEq, Prod.mk.injEq] at h; rw [← h.1]

theorem truncate_depth (t : Tree) (ms : List Bytes) : (t.truncate ms).depth = t.depth := by
  unfold Tree.truncate
  split <;> rfl

theorem step_depth (t : Tree) (op : Op) : t.depth ≤ (stepModel t op).1.depth := by
  cases op with
  | handle m r =>
    dsimp only [stepModel]
    split
    · next hi => exact insert_depth hi
    · exact Nat.le_refl _
    · exact Nat.le_refl _
  | update m r =>
    dsimp only [stepModel]
    split
    · next hu => exact Nat.le_of_eq (update_depth hu).symm
    · exact Nat.le_refl _
  | delete m pat =>
    dsimp only [stepModel]
    split
    · next hr => exact Nat.le_of_eq (remove_depth hr).symm
    · exact Nat.le_refl _
  | truncate ms => exact Nat.le_of_eq (truncate_depth t ms).symm

/-- over any history the capacity hint only grows -/
theorem depth_monotone (t : Tree) (ops : List Op) : t.depth ≤ (runModel t ops).1.depth := by
  induction ops generalizing t with
  | nil => exact Nat.le_refl _
  | cons op ops ih => exact Nat.le_trans (step_depth t op) (ih _)

end Fox.C16
