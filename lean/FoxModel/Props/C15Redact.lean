import FoxModel.Lemmas.Redact
import FoxModel.Props.C15
/-
  Property C15 (last sentence) at byte level: "the diagnostic record … never contains the values of credential-bearing
  headers, however their names are capitalised".

  `Model/Redact` is the dump loop of recovery.go on bytes (`bytes.Cut`, `iterutil.SplitBytesSeq` with "\r\n",
  `bytes.IndexByte(':')`, the list comparison). For the dump of ANY request - any request line, any number of headers,
  any names without ':' / CR / LF, any values without "\r\n" (lone CR or LF allowed) -:

  * `dump_is_redacted_line_by_line` - the text written is the request line followed by every header line, the value of
    a listed header replaced by `<redacted>`;
  * `record_independent_of_credentials` - two requests that differ only in the values of listed headers produce the same
    text: nothing of such a value reaches the record (non-interference; stronger than "the value does not occur", which
    a value that happens to equal another header's could not satisfy);
  * Props/C15 `redaction`, `redaction_only_sensitive` - which names are listed: the credential headers, in any
    capitalisation, and no others.

  Tie to the code: stream `recovery` compares the dump section of every logged record byte for byte with
  `redactDump (mkDump …)` of the request it sent (`dump=` field).
-/
namespace Fox.C15.Redact
open Fox.Recovery Fox.Recovery.Redact

/-- the loop writes the request line and, line by line, the headers with the values of listed headers withheld -/
theorem dump_is_redacted_line_by_line (rl : Str) (hs : List (Str × Str)) (hrl : noCRLF rl = true)
    (hok : ∀ h ∈ hs, headerOk h = true) :
    redactDump (mkDump rl hs) = rl ++ hs.flatMap (fun h => CRLF ++ shown h) ++ CRLF ++ CRLF :=
  redactDump_mkDump rl hs hrl hok

/-- same names, same values wherever the name is not listed -/
def SameButCredentials : List (Str × Str) → List (Str × Str) → Prop
  | [], [] => True
  | h :: hs, h' :: hs' => h.1 = h'.1 ∧ (redacted h.1 = false → h.2 = h'.2) ∧ SameButCredentials hs hs'
  | _, _ => False

theorem shown_eq {hs hs' : List (Str × Str)} (h : SameButCredentials hs hs') :
    hs.flatMap (fun h => CRLF ++ shown h) = hs'.flatMap (fun h => CRLF ++ shown h) := by
  fun_induction SameButCredentials hs hs' with
  | case1 => rfl
  | case2 a hs b hs' ih =>
    obtain ⟨n, v⟩ := a
    obtain ⟨_, v'⟩ := b
    obtain ⟨rfl, hv, hrest⟩ := h
    have : shown (n, v) = shown (n, v') := by
      unfold shown
      cases hr : redacted n
      · obtain rfl : v = v' := hv hr
        rfl
      · rfl
    rw [List.flatMap_cons, List.flatMap_cons, ih hrest, this]
  | case3 => exact h.elim

/-- **no credential reaches the record**: requests that differ only in the values of listed headers are logged alike -/
theorem record_independent_of_credentials (rl : Str) (hs hs' : List (Str × Str)) (hrl : noCRLF rl = true)
    (hok : ∀ h ∈ hs, headerOk h = true) (hok' : ∀ h ∈ hs', headerOk h = true) (hsame : SameButCredentials hs hs') :
    redactDump (mkDump rl hs) = redactDump (mkDump rl hs') := by
  rw [redactDump_mkDump rl hs hrl hok, redactDump_mkDump rl hs' hrl hok', shown_eq hsame]

/-! ### examples (the hypotheses are satisfiable; the loop computes) -/

def s (x : String) : Str := x.toList.map Char.toNat

theorem s_ofList (l : List Char) : s (String.ofList l) = l.map Char.toNat := C15.a_ofList l

example : redactDump (mkDump (s "GET /r/42 HTTP/1.1") [(s "Host", s "exa\rmple.com"), (s "AUTHORIZATION", s "Bearer abc"),
      (s "X-Request-Id", s "7")]) =
    s "GET /r/42 HTTP/1.1\r\nHost: exa\rmple.com\r\nAUTHORIZATION: <redacted>\r\nX-Request-Id: 7\r\n\r\n" := by
  repeat rw [s_ofList]
  decide +kernel
example : headerOk (s "AUTHORIZATION", s "Bearer abc") = true ∧ noCRLF (s "exa\rmple.com") = true := by
  repeat rw [s_ofList]
  decide
example : SameButCredentials [(s "Cookie", s "a=1"), (s "Accept", s "x")] [(s "Cookie", s "b=2"), (s "Accept", s "x")] := by
  repeat rw [s_ofList]
  refine ⟨rfl, ?_, rfl, fun _ => rfl, trivial⟩
  decide

end Fox.C15.Redact
