import FoxModel.Lemmas.LookupSpec
import FoxModel.Props.C02
/-
  Property C01 / C08 / C09 — the routing claim at full strength, for every router state reachable by any history of
  Handle / Update / Delete / Truncate:  lookup = routing specification.
-/
namespace Fox.C01
open Fox Fox.Model Fox.Spec Fox.C02

/-- in a reachable tree the suffix set below a method root is the pattern list of the routes stored there -/
theorem sufsOfMethod_eq {t : Tree} (hg : Good t) (m : Bytes) :
    sufsOfMethod t.roots m = Spec.sufsOf (routesOf t m) := by
  unfold sufsOfMethod routesOf
  cases hm : methodRoot t.roots m with
  | none => rfl
  | some root =>
    simp only
    obtain ⟨x, hx, rfl⟩ := methodRoot_mem hm
    have hroot := (hg.roots x hx).wf
    simp only [wfRoot, Bool.and_eq_true, List.isEmpty_iff, Option.isNone_iff_eq_none] at hroot
    have hk : x.2.key = [] := hroot.1.1.1
    have hr : x.2.route = none := hroot.1.1.2
    have hS : sufsNode x.2 = sufsKids x.2.children := by
      rw [sufsNode_eq, sufsFrom_eq, hk, hr]; simp [routeSuf]
    have hp := (hg.roots x hx).pats
    rw [hS] at hp
    rw [routesNode_eq, hS]
    unfold Spec.sufsOf
    rw [List.map_map]
    conv => lhs; rw [← List.map_id (sufsKids x.2.children)]
    apply List.map_congr_left
    intro sr hsr
    obtain ⟨a, b⟩ := sr
    have := (hp _ hsr).1
    simp only at this
    simp [this]

theorem mem_sufsOfMethod {t : Tree} (hg : Good t) {m : Bytes} {sr : List Tok × Route}
    (h : sr ∈ sufsOfMethod t.roots m) : sr.2 ∈ routesOf t m ∧ sr.1 = sr.2.pattern :=
  Spec.mem_sufsOf.1 (sufsOfMethod_eq hg m ▸ h)

/-- the `LastOK` hypothesis of the trailing-slash refinement follows from the reachable-tree invariant `Good` -/
theorem lastOK_of_good {t : Tree} (hg : Good t) {m : Bytes} {root : Node} (hm : methodRoot t.roots m = some root) :
    LastOK (sufsKids root.children) := by
  intro sr hsr _
  have : sr ∈ sufsOfMethod t.roots m := by unfold sufsOfMethod; rw [hm]; exact hsr
  rw [(mem_sufsOfMethod hg this).2]

/-- **lookup = specification on every tree satisfying the reachable-state invariant** -/
theorem lookup_eq_spec_good {t : Tree} (hg : Good t) (m hostPort path : Bytes)
    (hn : noDbl path = true) (hs : SLASH ∉ stripHostPort hostPort) :
    lookup t.roots m hostPort path = toResult (routeS (sufsOfMethod t.roots m) hostPort path) := by
  unfold sufsOfMethod
  cases hm : methodRoot t.roots m with
  | none => rw [lookup_no_root hm]; simp only [routeS_nil]; rfl
  | some root =>
    simp only
    exact lookup_eq_spec t.roots m hostPort path root hm (wfRoots_root hg.wfRoots hm)
      (hostOkRoots_root hg.hostOkRoots hm) (lastOK_of_good hg hm) hn hs

/-- **C01 / C08 / C09, for every reachable router state.** After *any* history of Handle / Update / Delete / Truncate
    (every registered pattern being one the parser accepts), for every method, every Host that contains no '/' after
    stripping port and trailing dot, and every request path without empty segment, the route, the parameters and the
    trailing-slash flag returned by the model of `roots.lookup` are exactly those of the routing specification
    (`Spec.routeS`: hostname routes before path-only routes; at each position static text before `{param}` before
    `*{catch-all}` with backtracking; direct match before slash-adjusted match; slash removed, or added against a literal
    '/' of the pattern) evaluated on the patterns stored for that method. No bound on the number of routes, the depth of
    the tree, the length of the history or of the request. -/
theorem routing_correct_on_every_reachable_state (ops : List Op) (hv : ∀ op ∈ ops, op.valid = true)
    (m hostPort path : Bytes) (hn : noDbl path = true) (hs : SLASH ∉ stripHostPort hostPort) :
    lookup (runModel newTree ops).1.roots m hostPort path =
      toResult (routeS (sufsOfMethod (runModel newTree ops).1.roots m) hostPort path) :=
  lookup_eq_spec_good (C02_refines ops hv).1.good m hostPort path hn hs

end Fox.C01
