import FoxModel.Lemmas.LRU
import FoxModel.Lemmas.LRURing
import FoxModel.Model.Heap
/-
  Property C03 — the writable-node cache of a write transaction (internal/simplelru).

  `copyOnWriteSearch` writes a node in place when `t.writable.Get(node)` says the transaction owns it, and clones it
  otherwise. The heap model of C03 (Model/Heap) carries that cache as the list `writable`; here the cache itself is
  modelled (Model/LRU: every exported operation of lru.go on a recency list) and the one fact C03 needs of it is a
  theorem: **a "present" answer only ever names a key that was added since the cache was created or purged** - for every
  sequence of operations and every capacity. Also: the keys stay distinct and within the capacity, an `Add` beyond the
  capacity evicts exactly the least recently used entry, and what the heap model does to its `writable` list (a new id in
  front, cut to the capacity; a hit moved to the front) is what `add` of an absent key and `get` of a present key do to
  the key list of this cache.

  Tie to the code: stream `lru` drives the real cache through hook `VerifLRURun` (random operation sequences at small
  capacities; Add / Get sequences of a transaction at the real capacity, well past it) against `Model/LRU.run`; stream
  `bulk` runs single transactions that clone more nodes than the cache holds.
-/
namespace Fox.C03.Cache
open Fox Fox.LRU

/-- **No false "present".** After any operations on a fresh cache, every key it holds was added since the last purge. -/
theorem present_only_if_added (cap : Nat) (ops : List Op) :
    ∀ k ∈ (run (empty cap) ops).1.keysMRU, k ∈ added ops :=
  (run_inv ops (empty cap) [] (inv_empty cap)).added

/-- the same for the answers: `Get`, `Contains` and `Peek` report "present" only for such keys -/
theorem answers_sound (cap : Nat) (ops : List Op) (k : Nat) :
    (((run (empty cap) ops).1.get k).2.isSome = true → k ∈ added ops) ∧
    ((run (empty cap) ops).1.contains k = true → k ∈ added ops) ∧
    (((run (empty cap) ops).1.peek k).isSome = true → k ∈ added ops) := by
  have h := present_only_if_added cap ops
  exact ⟨fun hg => h k ((peek_some_iff _ k).mp (get_snd _ k ▸ hg)), fun hc => h k ((contains_iff _ k).mp hc),
    fun hp => h k ((peek_some_iff _ k).mp hp)⟩

/-- **Bounded, without duplicates**, after any operations -/
theorem bounded (cap : Nat) (ops : List Op) :
    (run (empty cap) ops).1.keysMRU.Nodup ∧ (run (empty cap) ops).1.len ≤ (run (empty cap) ops).1.cap :=
  have h := run_inv ops (empty cap) [] (inv_empty cap)
  ⟨h.nodup, h.bound⟩

/-- **Eviction order**: adding a new key to a full cache drops exactly the least recently used entry -/
theorem add_evicts_least_recent (c : LRU) (k v : Nat) (hk : c.contains k = false) (hfull : c.len = c.cap) :
    (c.add k v).2 = true ∧ (c.add k v).1.items = ((k, v) :: c.items).dropLast := by
  rw [add_miss hk, if_pos (hfull ▸ Nat.lt_succ_self c.len)]
  exact ⟨rfl, rfl⟩

/-- a `Get` hit makes the entry the most recently used and changes nothing else -/
theorem get_moves_to_front (c : LRU) (k v : Nat) (h : c.peek k = some v) :
    (c.get k).1.items = (k, v) :: without c.items k ∧ (c.get k).2 = some v := by
  rw [get_hit h]; exact ⟨rfl, rfl⟩

/-- adding a key the cache does not hold puts it in front and cuts the key list to the capacity: the expression
    `Model/Heap.addWritable` computes on `writable` when it remembers a freshly cloned node -/
theorem heap_writable_is_cache (c : LRU) (id v : Nat) (hnew : c.contains id = false) (hlen : c.len ≤ c.cap) :
    (c.add id v).1.keysMRU = (id :: c.keysMRU).take c.cap := by
  rw [add_miss hnew]
  split
  · next hgt =>
    -- the list is full: dropping the last of `cap + 1` entries keeps the first `cap`
    have hl : c.items.length = c.cap := Nat.le_antisymm hlen (Nat.le_of_lt_succ hgt)
    show (((id, v) :: c.items).dropLast).map (·.1) = (id :: c.keysMRU).take c.cap
    rw [List.map_dropLast, List.dropLast_eq_take, ← hl, List.length_map]
    rfl
  · next hle =>
    refine (List.take_of_length_le ?_).symm
    show (((id, v) :: c.items).map (·.1)).length ≤ c.cap
    rw [List.length_map]; exact Nat.le_of_not_gt hle

/-- **a hit in `copyOnWriteSearch` (Model/Heap.visit)**: the key list of the cache after `Get` of a key it holds is the
    key in front of the others - what the heap model does with its `writable` list -/
theorem heap_visit_is_cache_get (c : LRU) (k : Nat) (h : c.contains k = true) :
    (c.get k).1.keysMRU = k :: c.keysMRU.filter (· != k) ∧ (c.get k).2.isSome = true := by
  obtain ⟨v, hv⟩ := Option.isSome_iff_exists.mp (contains_eq_peek c k ▸ h)
  rw [get_hit hv]
  exact ⟨congrArg (k :: ·) (keys_without c.items k), rfl⟩

/-! ### the pointer structure of list.go

  `Model/LRURing` is list.go statement by statement: a ring of entries with `next` / `prev` pointers that may be nil and
  a sentinel, `insert` / `Remove` / `move` / `MoveToFront` / `PushFront` / `Back`, and `LRU.Add` / `LRU.Get` of lru.go on
  top of them with the `items` map. Reading a nil pointer makes an operation fail. -/

/-- **`LRU.Get` on the ring** is `get` of the list model, and keeps the ring well formed -/
theorem ring_get {r : Ring.Ring} {order : List Nat} (h : Ring.Inv r order) (k : Nat) :
    ∃ r' order', Ring.get r k = some (r', ((Ring.absOf r order).get k).2) ∧ Ring.Inv r' order' ∧
      Ring.absOf r' order' = ((Ring.absOf r order).get k).1 :=
  Ring.get_refines h k

/-- **`LRU.Add` on the ring** is `add` of the list model (an existing key is moved to the front by pointer surgery; a new
    entry is linked in after the sentinel and, beyond the capacity, `Back()` is unlinked and its key deleted) -/
theorem ring_add {r : Ring.Ring} {order : List Nat} (h : Ring.Inv r order) (k v : Nat) :
    ∃ r' order', Ring.add r k v = some (r', ((Ring.absOf r order).add k v).2) ∧ Ring.Inv r' order' ∧
      Ring.absOf r' order' = ((Ring.absOf r order).add k v).1 :=
  Ring.add_refines h k v

/-- **Any Add / Get traffic of a transaction**, of any length and at any capacity, on a fresh cache: the pointer
    structure never dereferences nil, stays a well-formed ring, answers exactly as the list model does and holds what the
    list model holds -/
theorem ring_never_fails_and_is_the_list (cap : Nat) (ops : List Ring.TOp) :
    ∃ r' order', Ring.run (Ring.new cap) ops = some (r', (run (empty cap) (ops.map Ring.TOp.toOp)).2) ∧
      Ring.Inv r' order' ∧ Ring.absOf r' order' = (run (empty cap) (ops.map Ring.TOp.toOp)).1 := by
  have := Ring.run_refines ops (Ring.inv_new cap)
  rwa [Ring.abs_new] at this

/-- hence a `Get` hit on the real structure names a key that was added: the two layers composed -/
theorem ring_present_only_if_added (cap : Nat) (ops : List Ring.TOp) (k : Nat) :
    ∃ r', Ring.run (Ring.new cap) ops = some (r', (run (empty cap) (ops.map Ring.TOp.toOp)).2) ∧
      ∀ r'' out, Ring.get r' k = some (r'', some out) → k ∈ added (ops.map Ring.TOp.toOp) := by
  obtain ⟨r', order', hrun, hinv, habs⟩ := ring_never_fails_and_is_the_list cap ops
  exact ⟨r', hrun, fun _ _ hg => present_only_if_added cap _ k (habs ▸ Ring.get_some_mem hinv hg)⟩

example : (run (empty 2) [.add 1 10, .add 2 20, .get 1, .add 3 30, .contains 2, .keys]).2 =
    [.bool false, .bool false, .val (some 10), .bool true, .bool false, .list [1, 3]] := by decide +kernel
example : added [.add 1 10, .purge, .add 2 20, .get 1] = [2] := by decide

/-- the ring model computes: three adds into a cache of two, a hit, the contents read off the pointers -/
example : ((Ring.run (Ring.new 2) [.add 1 10, .add 2 20, .get 1, .add 3 30, .get 2]).map (·.2)) =
    some [.bool false, .bool false, .val (some 10), .bool true, .val none] := by decide +kernel
example : ((Ring.run (Ring.new 2) [.add 1 10, .add 2 20, .get 1, .add 3 30]).bind fun p => Ring.contents p.1) =
    some [(3, 30), (1, 10)] := by decide +kernel

end Fox.C03.Cache
