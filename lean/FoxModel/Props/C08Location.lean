import FoxModel.Lemmas.Location.Resolve
import FoxModel.Lemmas.Location.Guard
import FoxModel.Props.C17
/-
  Property C08, the `Location` of the trailing-slash redirect: the relative reference that
  `defaultRedirectTrailingSlashHandler` writes resolves (RFC 3986 §5.2) against the request URL to the request path with
  the trailing slash adjusted, on the same scheme and authority, with the query string kept.
-/
namespace Fox.C08.Loc
open Fox Fox.Model.Location Fox.RFC3986 Fox.Spec.Clean

/-- the guard of the serving model (`Model.onTsr`: `path == cleanRef path`) holds exactly for the canonical paths -/
theorem cleanRef_fixed_iff (p : Bytes) : p = Model.cleanRef p ↔ Canonical p := by
  rw [cleanRef_eq_clean, C17.canonical_iff_fixed]; exact eq_comm

end Fox.C08.Loc

namespace Fox.C08
open Fox Fox.Model.Location Fox.RFC3986 Fox.Spec.Clean Fox.C08.Loc

/-- The request paths a redirect is issued for, (a)–(d) of `CleanEscaped`, are exactly the fixed points of the path cleaner other
    than the root: `Canonical` is the canonical form of property C17 (`C17.canonical_iff_fixed`: `Canonical q ↔ clean q = q`). -/
theorem cleanEscaped_iff_canonical (e : Bytes) :
    CleanEscaped e ↔ Canonical e ∧ e ≠ [SLASH] ∧ QMARK ∉ e ∧ HASH ∉ e := by
  by_cases hr : e.head? = some SLASH
  · -- (c) and (d) are the conditions of `canonical_cons_iff` on the elements behind the leading slash
    obtain ⟨t, rfl⟩ := List.head?_eq_some_iff.mp hr
    have hseg : segments (SLASH :: t) = [] :: splitSlash t := splitSlash_cons_slash t
    have hds : hasDoubleSlash (SLASH :: t) = false ↔ [] ∉ (splitSlash t).dropLast := by
      rw [← Bool.not_eq_true, hasDoubleSlash_iff, splitSlash_cons_slash, List.tail_cons]
    rw [canonical_cons_iff]
    constructor
    · intro h
      exact ⟨⟨fun hm => h.noDot (hseg ▸ List.mem_cons_of_mem _ hm), fun hm => h.noDotDot (hseg ▸ List.mem_cons_of_mem _ hm),
        hds.mp h.noEmpty⟩, h.notRoot, h.noQuery, h.noFragment⟩
    · intro ⟨⟨h1, h2, h3⟩, hr, hq, hf⟩
      exact ⟨rfl, hr, hds.mpr h3, by rw [hseg]; simpa using h1, by rw [hseg]; simpa using h2, hq, hf⟩
  · exact ⟨fun h => absurd h.rooted hr, fun h => absurd (canonical_rooted h.1) hr⟩

/-- … and exactly the strings that pass the guard `path == CleanPath(path)` of `ServeHTTP` (the model of `CleanPath` of C17) and the
    guard `r.URL.Path != "/"`. -/
theorem cleanEscaped_iff_cleanPath (e : Bytes) :
    CleanEscaped e ↔ Model.Clean.cleanPath e = .ok e ∧ e ≠ [SLASH] ∧ QMARK ∉ e ∧ HASH ∉ e := by
  rw [cleanEscaped_iff_canonical, C17.redirect_guard_iff]

/-- … and exactly the strings that pass the guard `path == cleanRef path` of the serving model (`Model.onTsr`, `Spec.serve`). -/
theorem cleanEscaped_iff_cleanRef (e : Bytes) :
    CleanEscaped e ↔ e = Model.cleanRef e ∧ e ≠ [SLASH] ∧ QMARK ∉ e ∧ HASH ∉ e := by
  rw [cleanEscaped_iff_canonical, cleanRef_fixed_iff]

/-- a redirected path is "/" ++ proper elements joined by "/", with or without a final "/" … -/
theorem shape_of_cleanEscaped {e : Bytes} (h : CleanEscaped e) : Shape e :=
  shape_of_canonical ((cleanEscaped_iff_canonical e).mp h).1 h.notRoot

/-- … and the last element has neither '?' nor '#' -/
theorem lastElem_of_cleanEscaped {e : Bytes} (he : CleanEscaped e) :
    ∃ (st : List Bytes) (b : Bytes), (∀ s ∈ st, GoodElem s) ∧ LastElem b ∧
      (e = join st ++ SLASH :: b ∨ e = join st ++ SLASH :: b ++ [SLASH]) := by
  obtain ⟨st, b, hst, hb, hshape⟩ := shape_of_cleanEscaped he
  exact ⟨st, b, hst, ⟨hb, fun h => he.noQuery (mem_of_mem_last hshape h), fun h => he.noFragment (mem_of_mem_last hshape h)⟩,
    hshape⟩

/-- **The Location resolves to the adjusted path.** For every escaped request path `e` a redirect is issued for (it starts with '/',
    is not "/", has no empty, "." or ".." element, and neither '?' nor '#'), every query string `q` without '#', and whatever the
    query `q0` the client has on record for the request URL: resolving the reference `location e q` (what `localRedirect` computes,
    before `hexEscapeNonASCII`) against `scheme://authority` ++ `e` by RFC 3986 §5.2 gives the same scheme and authority, the path
    `FixTrailingSlash(e)`, no fragment, and the query `q` — where an empty `q` means that no '?' is written, so that the target has
    *no* query component (RFC: undefined; the client then requests the bare path). -/
theorem location_resolves {e q : Bytes} (he : CleanEscaped e) (hq : HASH ∉ q) (q0 : Option Bytes) :
    resolve e q0 (location e q) =
      { sameOrigin := true, path := fixTrailingSlash e, query := if q = [] then none else some q, fragment := none } := by
  obtain ⟨st, b, hst, hlast, hshape⟩ := lastElem_of_cleanEscaped he
  have hb := hlast.good
  rcases hshape with rfl | rfl
  · rw [resolves_noslash hst hb.noslash hlast hq, fix_noslash hb.noslash hb.ne_nil]
  · rw [resolves_slash hst hb hlast hq, fix_slash]

/-- the reference written by the handler: a plain first segment ("b" without ':', "." or ".."), a '/', and the rest -/
theorem location_form {e : Bytes} (he : CleanEscaped e) (q : Bytes) :
    ∃ seg r, PlainSeg seg ∧ location e q = seg ++ SLASH :: r := by
  obtain ⟨st, b, _, hlast, hshape⟩ := lastElem_of_cleanEscaped he
  have hb := hlast.good
  unfold location
  rcases hshape with rfl | rfl
  · rw [target_noslash hb.noslash hb.ne_nil]
    unfold guardColon
    by_cases hcol : COLON ∈ b
    · rw [if_pos hcol]; exact ⟨[DOT], _, plain_dot, withQuery_cons [DOT] (b ++ [SLASH]) q⟩
    · rw [if_neg hcol]; exact ⟨b, _, hlast.plain hcol, withQuery_cons b [] q⟩
  · rw [target_slash hb.noslash hb.ne_nil]
    exact ⟨[DOT, DOT], _, plain_dotdot, withQuery_cons [DOT, DOT] b q⟩

/-- **The Location is never an absolute URI nor a network-path reference** (the repair of F08), for every query string whatsoever:
    it has no scheme (§3.1 grammar), no scheme in the liberal reading of the Appendix B expression either (any non-empty run before
    the first ':'), no authority, and its first segment (the bytes before the first of `: / ? #`) is non-empty and is followed by '/',
    so it contains no ':' (Go's `url.Parse` rejects a first path segment with a colon). -/
theorem location_never_absolute {e : Bytes} (he : CleanEscaped e) (q : Bytes) :
    (parseRef (location e q)).scheme = none ∧ (parseRef (location e q)).authority = none ∧
    looseSchemeOf (location e q) = none ∧
    firstSegment (location e q) ≠ [] ∧
    ((location e q).drop (firstSegment (location e q)).length).head? = some SLASH := by
  obtain ⟨seg, r, hseg, hl⟩ := location_form he q
  obtain ⟨h1, h2, h3⟩ := noScheme_of_noColon (hseg.not_mem rfl) hseg.ne (hseg.not_mem rfl) r
  rw [hl, firstSegment_eq hseg r]
  exact ⟨h1, h2, h3, hseg.ne, by simp⟩

/-- for every string: `FixTrailingSlash` appends one '/' or removes one '/' -/
theorem fixTrailingSlash_cases (e : Bytes) : fixTrailingSlash e = e ++ [SLASH] ∨ e = fixTrailingSlash e ++ [SLASH] := by
  rcases fix_split e with ⟨x, hx, rfl⟩ | ⟨_, h⟩
  · right; rw [fix_concat hx]
  · left; exact h

theorem Loc.fix_has_elem {e : Bytes} (h : ∃ c ∈ e, c ≠ SLASH) : ∃ c ∈ fixTrailingSlash e, c ≠ SLASH := by
  obtain ⟨c, hc, hcs⟩ := h
  refine ⟨c, ?_, hcs⟩
  rcases fixTrailingSlash_cases e with h | h
  · rw [h]; exact List.mem_append_left _ hc
  · rw [h] at hc
    exact (List.mem_append.mp hc).resolve_right fun h => hcs (List.mem_singleton.mp h)

/-- **The F08 repair, unconditionally.** For *every* string `e` with a byte other than '/' (clean or not, escaped or not) and every
    query string: the Location has no scheme (strict or liberal reading) and no authority, so the redirect can only stay on the
    origin of the request. (For the strings consisting of slashes only, `path.Base` is "/" and the Location is "//": see `LocEx`.) -/
theorem location_never_absolute_any {e : Bytes} (he : ∃ c ∈ e, c ≠ SLASH) (q : Bytes) :
    (parseRef (location e q)).scheme = none ∧ (parseRef (location e q)).authority = none ∧
    looseSchemeOf (location e q) = none := by
  obtain ⟨hbne, hbs⟩ := pathBase_elem (fix_has_elem he)
  have hform : ∃ pre post, COLON ∉ pre ∧ pre ≠ [] ∧ SLASH ∉ pre ∧ redirectTarget e = pre ++ SLASH :: post := by
    unfold redirectTarget
    split
    · unfold guardColon
      by_cases hcol : COLON ∈ pathBase (fixTrailingSlash e)
      · exact ⟨[DOT], pathBase (fixTrailingSlash e) ++ [SLASH], plain_dot.not_mem rfl, plain_dot.ne, plain_dot.not_mem rfl,
          by simp [hcol]⟩
      · exact ⟨pathBase (fixTrailingSlash e), [], hcol, hbne, hbs, by simp [hcol]⟩
    · exact ⟨[DOT, DOT], pathBase (fixTrailingSlash e), plain_dotdot.not_mem rfl, plain_dotdot.ne, plain_dotdot.not_mem rfl, rfl⟩
  obtain ⟨pre, post, h1, h2, h3, ht⟩ := hform
  unfold location
  rw [ht, withQuery_cons]
  exact noScheme_of_noColon h1 h2 h3 _

/-- `FixTrailingSlash(e)` and `e` differ by exactly one trailing '/': one of them is the other followed by '/', and the shorter one
    does not end in '/'. -/
theorem location_adjusts_slash {e : Bytes} (he : CleanEscaped e) :
    (fixTrailingSlash e = e ++ [SLASH] ∧ e.getLast? ≠ some SLASH) ∨
    (e = fixTrailingSlash e ++ [SLASH] ∧ (fixTrailingSlash e).getLast? ≠ some SLASH) := by
  obtain ⟨st, b, _, hb, hshape⟩ := shape_of_cleanEscaped he
  rcases hshape with rfl | rfl
  · exact Or.inl ⟨fix_noslash hb.noslash hb.ne_nil _, getLast?_append_slash_ne_slash hb.noslash hb.ne_nil _⟩
  · right; rw [fix_slash]; exact ⟨rfl, getLast?_append_slash_ne_slash hb.noslash hb.ne_nil _⟩

/-- `FixTrailingSlash` is an involution on every non-empty string that does not end in "//" (or is "//"); the empty string and
    e.g. "/a//" are not restored -/
theorem fixTrailingSlash_involutive {e : Bytes} (hne : e ≠ []) (hdd : ∀ x, x ≠ [] → e ≠ x ++ [SLASH, SLASH]) :
    fixTrailingSlash (fixTrailingSlash e) = e := by
  rcases fix_split e with ⟨x, hx, rfl⟩ | ⟨_, h⟩
  · rw [fix_concat hx]
    rcases fix_split x with ⟨y, hy, rfl⟩ | ⟨_, h⟩
    · exact absurd (by simp) (hdd y hy)
    · exact h
  · rw [h, fix_concat hne]

theorem fixTrailingSlash_involutive_of_clean {e : Bytes} (he : CleanEscaped e) : fixTrailingSlash (fixTrailingSlash e) = e := by
  obtain ⟨st, b, _, hb, hshape⟩ := shape_of_cleanEscaped he
  rcases hshape with rfl | rfl
  · rw [fix_noslash hb.noslash hb.ne_nil, fix_slash]
  · rw [fix_slash, fix_noslash hb.noslash hb.ne_nil]

/-! ### the header value: `hexEscapeNonASCII` -/

/-- `hexEscapeNonASCII` is the identity on ASCII input (`URL.EscapedPath` is always ASCII; `URL.RawQuery` need not be). -/
theorem hexEscapeNonASCII_ascii {s : Bytes} (h : isASCII s = true) : hexEscapeNonASCII s = s := by
  induction s with
  | nil => rfl
  | cons b s ih =>
    rw [show isASCII (b :: s) = (decide (b < 128) && isASCII s) from rfl, Bool.and_eq_true, decide_eq_true_eq] at h
    show hexEscapeByte b ++ hexEscapeNonASCII s = b :: s
    rw [ih h.2, hexEscapeByte_ascii h.1]; rfl

theorem Loc.hexEscape_withQuery {t : Bytes} (ht : isASCII t = true) (q : Bytes) :
    hexEscapeNonASCII (withQuery t q) = withQuery t (hexEscapeNonASCII q) := by
  unfold withQuery
  by_cases hq : q = []
  · rw [if_pos hq, if_pos (hexEscape_eq_nil.mpr hq)]
    exact hexEscapeNonASCII_ascii ht
  · rw [if_neg hq, if_neg (mt hexEscape_eq_nil.mp hq), hexEscape_append, hexEscapeNonASCII_ascii ht]
    rfl

/-- On an ASCII path the header value is the Location computed with the escaped query: escaping only touches the query. -/
theorem locationHeader_eq {e : Bytes} (he : CleanEscaped e) (ha : isASCII e = true) (q : Bytes) :
    locationHeader e q = location e (hexEscapeNonASCII q) := by
  unfold locationHeader location
  exact hexEscape_withQuery (isASCII_target (shape_of_cleanEscaped he) ha) q

/-- **The header value resolves to the adjusted path**, with the query string kept up to the %-escaping of its non-ASCII bytes
    (for an ASCII query: kept byte for byte). -/
theorem locationHeader_resolves {e q : Bytes} (he : CleanEscaped e) (ha : isASCII e = true) (hq : HASH ∉ q) (q0 : Option Bytes) :
    resolve e q0 (locationHeader e q) =
      { sameOrigin := true, path := fixTrailingSlash e,
        query := if q = [] then none else some (hexEscapeNonASCII q), fragment := none } := by
  rw [locationHeader_eq he ha, location_resolves he (hexEscape_noHash hq)]
  simp only [hexEscape_eq_nil]

theorem locationHeader_never_absolute {e : Bytes} (he : CleanEscaped e) (ha : isASCII e = true) (q : Bytes) :
    (parseRef (locationHeader e q)).scheme = none ∧ (parseRef (locationHeader e q)).authority = none ∧
    looseSchemeOf (locationHeader e q) = none := by
  rw [locationHeader_eq he ha]
  have := location_never_absolute he (hexEscapeNonASCII q)
  exact ⟨this.1, this.2.1, this.2.2.1⟩

/-- the redirect as the serving model issues it (`Model.onTsr`: `path == cleanRef path`, and the request is not for "/"), for a request
    whose escaped path is the string the lookup ran on -/
theorem location_resolves_of_guard {e q : Bytes} (hguard : e = Model.cleanRef e) (hroot : e ≠ [SLASH])
    (hqm : QMARK ∉ e) (hf : HASH ∉ e) (hq : HASH ∉ q) (q0 : Option Bytes) :
    resolve e q0 (location e q) =
      { sameOrigin := true, path := fixTrailingSlash e, query := if q = [] then none else some q, fragment := none } :=
  location_resolves ((cleanEscaped_iff_cleanRef e).mpr ⟨hguard, hroot, hqm, hf⟩) hq q0

end Fox.C08

/-! ## non-vacuity, the F08 witness, and why each hypothesis is there -/
namespace Fox.C08.LocEx
open Fox Fox.Model.Location Fox.RFC3986

/-- bytes of a string literal -/
def s (x : String) : Bytes := x.toUTF8.toList

def tgt (path : String) (query : Option String := none) (fragment : Option String := none) (sameOrigin : Bool := true) : Target :=
  { sameOrigin, path := s path, query := query.map s, fragment := fragment.map s }

/- the handler -/
#guard location (s "/foo") [] = s "foo/"
#guard location (s "/foo/") [] = s "../foo"
#guard location (s "/a/b:c") [] = s "./b:c/"
#guard location (s "/a/b:c/") [] = s "../b:c"
#guard location (s "/a/b%3Fc/") [] = s "../b%3Fc"
#guard location (s "/a/b%3Fc") (s "x=1&y=2") = s "b%3Fc/?x=1&y=2"
#guard location (s "/a/..%2F/") (s "x=1&y=2") = s "../..%2F?x=1&y=2"
#guard location (s "/https:evil.com") [] = s "./https:evil.com/"
#guard locationHeader (s "/foo") (s "k=é") = s "foo/?k=%c3%a9"
#guard pathBase (s "") = s "." ∧ pathBase (s "///") = s "/" ∧ pathBase (s "/a/b//") = s "b" ∧ pathBase (s "ab") = s "ab"
#guard fixTrailingSlash (s "/") = s "//" ∧ fixTrailingSlash (s "") = s "/" ∧ fixTrailingSlash (s "/a/") = s "/a"

/- … and where it leads -/
#guard resolve (s "/foo") none (location (s "/foo") []) = tgt "/foo/"
#guard resolve (s "/foo/") none (location (s "/foo/") []) = tgt "/foo"
#guard resolve (s "/a/b:c") none (location (s "/a/b:c") []) = tgt "/a/b:c/"
#guard resolve (s "/a/b:c/") none (location (s "/a/b:c/") []) = tgt "/a/b:c"
#guard resolve (s "/a/b%3Fc/") (some (s "x=1&y=2")) (location (s "/a/b%3Fc/") (s "x=1&y=2")) = tgt "/a/b%3Fc" (query := "x=1&y=2")
#guard resolve (s "/a/b%3Fc") none (location (s "/a/b%3Fc") (s "x=1&y=2")) = tgt "/a/b%3Fc/" (query := "x=1&y=2")
#guard resolve (s "/a/..%2F/") none (location (s "/a/..%2F/") []) = tgt "/a/..%2F"
#guard resolve (s "/a/%2E%2E") none (location (s "/a/%2E%2E") []) = tgt "/a/%2E%2E/"
#guard resolve (s "/https:evil.com") none (location (s "/https:evil.com") []) = tgt "/https:evil.com/"
#guard resolve (s "/foo") none (locationHeader (s "/foo") (s "k=é")) = tgt "/foo/" (query := "k=%c3%a9")

/- the hypotheses are decidable and hold of these -/
example : CleanEscaped [47, 102, 111, 111] := by decide                               -- "/foo"
example : CleanEscaped [47, 97, 47, 98, 58, 99, 47] := by decide                      -- "/a/b:c/"
example : CleanEscaped [47, 97, 47, 46, 46, 37, 50, 70, 47] := by decide              -- "/a/..%2F/"
example : ¬ CleanEscaped [47] := by decide                                            -- "/"
example : ¬ CleanEscaped [47, 97, 47, 47, 98] := by decide                            -- "/a//b"
example : ¬ CleanEscaped [47, 97, 47, 46, 46] := by decide                            -- "/a/.."
example : ¬ CleanEscaped [47, 97, 47, 46, 47] := by decide                            -- "/a/./"
example : ¬ CleanEscaped [97] := by decide                                            -- "a"

/-- an instance of the theorem, checked by evaluation as well: "/a/b:c" with the query "x=1" -/
example : resolve [47, 97, 47, 98, 58, 99] none (location [47, 97, 47, 98, 58, 99] [120, 61, 49]) =
    { sameOrigin := true, path := [47, 97, 47, 98, 58, 99, 47], query := some [120, 61, 49], fragment := none } :=
  C08.location_resolves (by decide) (by decide) none

/-! ### F08: without the "./" prefix the Location of "/https:evil.com" is an absolute URI -/

/-- the handler before the repair: `localRedirect(w, req, path.Base(url)+"/", code)` -/
def unrepairedTarget (escPath : Bytes) : Bytes :=
  if (fixTrailingSlash escPath).getLast? = some SLASH then pathBase (fixTrailingSlash escPath) ++ [SLASH]
  else [DOT, DOT, SLASH] ++ pathBase (fixTrailingSlash escPath)

#guard unrepairedTarget (s "/https:evil.com") = s "https:evil.com/"
#guard (parseRef (s "https:evil.com/")).scheme = some (s "https")
#guard resolve (s "/https:evil.com") none (s "https:evil.com/") = tgt "evil.com/" (sameOrigin := false)
-- "https:evil.com/" is parsed with the scheme "https"
example : (parseRef [104, 116, 116, 112, 115, 58, 101, 118, 105, 108, 46, 99, 111, 109, 47]).scheme
    = some [104, 116, 116, 112, 115] := by decide
-- "./https:evil.com/" is not
example : (parseRef [46, 47, 104, 116, 116, 112, 115, 58, 101, 118, 105, 108, 46, 99, 111, 109, 47]).scheme = none := by decide
-- "../a:b" is safe: the first segment is ".."
#guard (parseRef (s "../a:b")).scheme = none ∧ looseSchemeOf (s "../a:b") = none
-- a first segment that is not a scheme name by §3.1 but contains a colon: the strict parser sees a path, the Appendix B expression a scheme
#guard (parseRef (s "1a:b/")).scheme = none ∧ looseSchemeOf (s "1a:b/") = some (s "1a")

/-! ### each hypothesis of `location_resolves` is needed -/

-- (b) "/" (excluded by `r.URL.Path != "/"` in ServeHTTP): the Location would be "//", a network-path reference with an empty authority
#guard location (s "/") [] = s "//"
#guard (parseRef (s "//")).authority = some []
#guard (resolve (s "/") none (location (s "/") [])).sameOrigin = false
-- (c) an empty element: "/a//" is answered with "a/", which leads to "/a//a/" and not to "/a/"
#guard fixTrailingSlash (s "/a//") = s "/a/"
#guard resolve (s "/a//") none (location (s "/a//") []) = tgt "/a//a/"
-- (d) a "." element: "/a/./" is answered with "../.", which leads to "/" while the adjusted path "/a/." denotes "/a/"
#guard resolve (s "/a/./") none (location (s "/a/./") []) = tgt "/"
#guard removeDotSegments (fixTrailingSlash (s "/a/./")) = s "/a/"
-- (d) a ".." element: "/a/b/.." is answered with "../", which leads to "/a/" …
#guard resolve (s "/a/b/..") none (location (s "/a/b/..") []) = tgt "/a/"
-- … and "/a/b/../" with "../..", which leads to "/" while the adjusted path "/a/b/.." denotes "/a/"
#guard resolve (s "/a/b/../") none (location (s "/a/b/../") []) = tgt "/"
#guard removeDotSegments (fixTrailingSlash (s "/a/b/../")) = s "/a/"
-- (e) a raw '?' in the path (EscapedPath writes %3F): the element is cut at the '?'
#guard resolve (s "/a?b") none (location (s "/a?b") []) = tgt "/a" (query := "b/")
-- a raw '#' in the query (a request line `GET /foo?x#y`; `url.ParseRequestURI` keeps it in RawQuery): the client sees a fragment
#guard resolve (s "/foo") none (location (s "/foo") (s "x#y")) = tgt "/foo/" (query := "x") (fragment := "y")
-- `FixTrailingSlash` is not an involution on "" and on "/a//"
#guard fixTrailingSlash (fixTrailingSlash (s "")) = s "//" ∧ fixTrailingSlash (fixTrailingSlash (s "/a//")) = s "/a"

/-! ### scope: `e` is the string the handler feeds to `FixTrailingSlash`; it has to denote the path the lookup ran on

  `ServeHTTP` looks up, and guards with `path == CleanPath(path)`, the string `path` = `URL.RawPath` if set, else `URL.Path`.
  `URL.EscapedPath()` denotes the same path whenever `RawPath` is a valid encoding (then `EscapedPath() = RawPath`) or empty (then
  `EscapedPath()` escapes `Path` byte-wise, which keeps '/', '.' and the element structure). But `net/http` accepts request
  targets with bytes that `url.validEncoded` rejects (`"`, `<`, `>`, `\`, `^`, `` ` ``, `{`, `|`, `}`, bytes ≥ 0x80); then
  `EscapedPath()` re-encodes the *decoded* `Path`, in which `%2E`, `%2E%2E`, `%2F` of the raw path have become real dots and
  slashes, so hypothesis (d) can fail for `EscapedPath()` although the guard passed for `RawPath` (route `/{a}/{b}/`):
      GET /é/%2E%2E   (raw UTF-8)   EscapedPath = "/%C3%A9/.."    its Location: ../    → "/"        (the route's path is "/é/%2E%2E/")
      GET /é/a%2Fb    (raw UTF-8)   EscapedPath = "/%C3%A9/a/b"   its Location: b/     → ".../b/"   (the route's path is "/é/a%2Fb/")
  For such a request the handler starts from `escapeRawPath(RawPath)` instead (Model/LocationRaw), and Props/C08LocationRaw shows
  that this string satisfies `CleanEscaped` whenever `RawPath` passed the guard. Whatever the string, the target stays on the same
  origin (`C08.location_never_absolute_any`: for *every* `e` with a byte other than '/', the Location has neither scheme nor
  authority). The first line, evaluated on what `EscapedPath()` returns: -/
#guard ¬ CleanEscaped (s "/%C3%A9/..")
#guard location (s "/%C3%A9/..") [] = s "../"
#guard resolve (s "/%C3%A9/..") none (location (s "/%C3%A9/..") []) = tgt "/"

/-! ### the reference resolver against the examples of RFC 3986 §5.4 (base `http://a/b/c/d;p?q`) -/

def r54 (ref : String) : Target := resolve (s "/b/c/d;p") (some (s "q")) (s ref)

-- §5.4.1 normal examples
#guard (r54 "g:h").sameOrigin = false ∧ (parseRef (s "g:h")).scheme = some (s "g") ∧ (parseRef (s "g:h")).path = s "h"
#guard r54 "g" = tgt "/b/c/g"
#guard r54 "./g" = tgt "/b/c/g"
#guard r54 "g/" = tgt "/b/c/g/"
#guard r54 "/g" = tgt "/g"
#guard r54 "//g" = tgt "" (sameOrigin := false) ∧ (parseRef (s "//g")).authority = some (s "g")
#guard r54 "?y" = tgt "/b/c/d;p" (query := "y")
#guard r54 "g?y" = tgt "/b/c/g" (query := "y")
#guard r54 "#s" = tgt "/b/c/d;p" (query := "q") (fragment := "s")
#guard r54 "g#s" = tgt "/b/c/g" (fragment := "s")
#guard r54 "g?y#s" = tgt "/b/c/g" (query := "y") (fragment := "s")
#guard r54 ";x" = tgt "/b/c/;x"
#guard r54 "g;x" = tgt "/b/c/g;x"
#guard r54 "g;x?y#s" = tgt "/b/c/g;x" (query := "y") (fragment := "s")
#guard r54 "" = tgt "/b/c/d;p" (query := "q")
#guard r54 "." = tgt "/b/c/"
#guard r54 "./" = tgt "/b/c/"
#guard r54 ".." = tgt "/b/"
#guard r54 "../" = tgt "/b/"
#guard r54 "../g" = tgt "/b/g"
#guard r54 "../.." = tgt "/"
#guard r54 "../../" = tgt "/"
#guard r54 "../../g" = tgt "/g"
-- §5.4.2 abnormal examples
#guard r54 "../../../g" = tgt "/g"
#guard r54 "../../../../g" = tgt "/g"
#guard r54 "/./g" = tgt "/g"
#guard r54 "/../g" = tgt "/g"
#guard r54 "g." = tgt "/b/c/g."
#guard r54 ".g" = tgt "/b/c/.g"
#guard r54 "g.." = tgt "/b/c/g.."
#guard r54 "..g" = tgt "/b/c/..g"
#guard r54 "./../g" = tgt "/b/g"
#guard r54 "./g/." = tgt "/b/c/g/"
#guard r54 "g/./h" = tgt "/b/c/g/h"
#guard r54 "g/../h" = tgt "/b/c/h"
#guard r54 "g;x=1/./y" = tgt "/b/c/g;x=1/y"
#guard r54 "g;x=1/../y" = tgt "/b/c/y"
#guard r54 "g?y/./x" = tgt "/b/c/g" (query := "y/./x")
#guard r54 "g?y/../x" = tgt "/b/c/g" (query := "y/../x")
#guard r54 "g#s/./x" = tgt "/b/c/g" (fragment := "s/./x")
#guard r54 "g#s/../x" = tgt "/b/c/g" (fragment := "s/../x")
-- §5.2.4 worked examples
#guard removeDotSegments (s "/a/b/c/./../../g") = s "/a/g"
#guard removeDotSegments (s "mid/content=5/../6") = s "mid/6"

end Fox.C08.LocEx
