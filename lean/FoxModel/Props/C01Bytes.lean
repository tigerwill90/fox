import FoxModel.Lemmas.KeyScan
import FoxModel.Lemmas.KeyScanHost
import FoxModel.Props.C10
import FoxModel.Util
/-
  Property C01, the byte offsets of the matcher. Everywhere else in the model a node key is a list of tokens; the Go
  code walks the key *bytes* with the offsets `parseWildcard` precomputed when the node was built (`params[k].end`), an
  index `i` / `charsMatchedInNodeFound` into the key and the counter `paramKeyCnt`. `Model/KeyScan.scanB` is that inner
  loop, index for index; the theorems below say that this arithmetic is exactly the token split of the key that
  `Model/Machine.keyLoop` (and through it every routing theorem) works with.
-/
namespace Fox.C01
open Fox Fox.Model Fox.Model.Machine Fox.Model.KeyScan

/-- **The byte offsets of the inner loop are the token split of the key.** Started at a token boundary of a key whose
    literal bytes are neither '{' nor '*' (`keyOk`), with `current.params` = the table `wildPositions` (which is what
    `parseWildcard` returns, next theorem), the Go loop - compare `key[i]` with `path[charsMatched]`; on '{' take the
    segment, jump `params[paramKeyCnt].end - charsMatchedInNodeFound` bytes (or to the end of the key when `end == -1`),
    `paramKeyCnt++`; record unless lazy - stops for the same reason, at the same `charsMatched`, with the same recorded
    parameters as the token-level loop, and its `i` / `paramKeyCnt` are the rendered length / wildcard count of the
    consumed tokens. -/
theorem key_offsets_are_token_split (toks : List Tok) (hk : keyOk toks = true) (k pre : List Tok) (h : pre ++ k = toks)
    (path : Bytes) (lz : Bool) (cm pc : Nat) (ps : Binds) :
    scanB (render toks) (wildPositions 0 toks) path lz (render pre).length (wcount pre) cm pc ps =
      toB (scanT pre k (path.drop cm) lz cm pc ps) :=
  scanB_loop.eq_tok scanT_loop toks hk (.inl rfl) path lz k pre _ _ cm pc ps _ h rfl rfl rfl

/-- for a key the router builds (the rendered tokens read back as these tokens) `parseWildcard` does not panic and the
    loop on its table agrees with the token-level loop from the start of the key -/
theorem inner_loop_on_built_key (toks : List Tok) (hk : keyOk toks = true) (ht : tokenize (render toks) = some toks)
    (path : Bytes) (lz : Bool) (ps : Binds) :
    ∃ wp, parseWildcard (render toks) = some wp ∧
      scanB (render toks) wp path lz 0 0 0 0 ps = toB (scanT [] toks path lz 0 0 ps) :=
  ⟨wildPositions 0 toks, (Fox.C10.parseWildcard_agrees (render toks) toks ht).1,
    scanB_loop.eq_tok scanT_loop toks hk (.inl rfl) path lz toks [] 0 0 0 0 ps path rfl rfl rfl rfl⟩

/-- the token-level loop is the advancing part of the state machine: running `keyLoop` from a key position is running
    it from where the scan stops -/
theorem keyLoop_is_scan (lz : Bool) (p : Bytes) (cur : Node) (parent : Option Node) (R : Regs)
    (k pre : List Tok) (cm pc : Nat) (ps : Binds) :
    keyLoop lz p cur pre k parent cm pc { R with params := ps } =
      keyLoop lz p cur (scanT pre k (p.drop cm) lz cm pc ps).pre (scanT pre k (p.drop cm) lz cm pc ps).k parent
        (scanT pre k (p.drop cm) lz cm pc ps).cm (scanT pre k (p.drop cm) lz cm pc ps).pc
        { R with params := (scanT pre k (p.drop cm) lz cm pc ps).ps } :=
  scanT_loop.run (keyLoop_turns lz p cur parent R) k pre cm pc ps _ rfl _ rfl

/-- the catch-all block: `params[paramKeyCnt].end == -1` selects "ending catch-all" exactly when no key token follows, and
    otherwise the jump lands right behind the catch-all (where the precomputed inode's key starts) -/
theorem catchAll_offsets (pre : List Tok) (nm : Bytes) (k' : List Tok) :
    ∃ w, (wildPositions 0 (pre ++ .catchAll nm :: k'))[wcount pre]? = some w ∧ w.key = nm ∧
      (w.end = -1 ↔ k' = []) ∧
      (k' ≠ [] → jump (render (pre ++ .catchAll nm :: k')).length (render pre).length w.end
                   = (render (pre ++ [.catchAll nm])).length) := by
  obtain ⟨e, hw, he, hj⟩ := wp_wild pre (.catchAll nm) k' (ca := true) rfl
  exact ⟨_, hw, rfl, he, fun _ => hj⟩

/-- the byte-level guards of the trailing-slash sites are the token-level guards of `Machine.postCand` -/
theorem tsr_guards (pre k : List Tok) :
    ((render pre).length = (render (pre ++ k)).length ↔ k = []) ∧
    ((render (pre ++ k)).drop (render pre).length = [SLASH] ↔ k = [.lit SLASH]) ∧
    (((render pre).length = 1 ∧ (render (pre ++ k))[0]? = some SLASH) ↔ pre = [.lit SLASH]) :=
  ⟨atKeyEnd_iff pre k, restSlash_iff pre k, oneSlash_iff pre k⟩

/-- **hostname keys**: the same for the inner loop of `lookupByDomain` (delimiter '.', no catch-all, the comparison
    `key[i] != host[charsMatched] || host[charsMatched] == '{'`): on a key without catch-all tokens the byte loop stops for
    the same reason, at the same `charsMatched`, with the same recorded parameters as the token-level loop -/
theorem host_key_offsets_are_token_split (toks : List Tok) (hk : keyOk toks = true) (hc : noCatchAll toks = true)
    (k pre : List Tok) (h : pre ++ k = toks) (host : Bytes) (lz : Bool) (cm pc : Nat) (ps : Binds) :
    scanBH (render toks) (wildPositions 0 toks) host lz (render pre).length (wcount pre) cm pc ps =
      toB (scanTH pre k (host.drop cm) lz cm pc ps) :=
  scanBH_loop.eq_tok scanTH_loop toks hk (.inr (noCatchAll_mem hc)) host lz k pre _ _ cm pc ps _ h rfl rfl rfl

/-- the token-level hostname loop is the advancing part of `Machine.hostKeyLoop` -/
theorem hostKeyLoop_is_scan (lz : Bool) (host path : Bytes) (cur : Node) (R : Regs)
    (k pre : List Tok) (cm pc : Nat) (ps : Binds) :
    hostKeyLoop lz host path cur k cm pc { R with params := ps } =
      hostKeyLoop lz host path cur (scanTH pre k (host.drop cm) lz cm pc ps).k
        (scanTH pre k (host.drop cm) lz cm pc ps).cm (scanTH pre k (host.drop cm) lz cm pc ps).pc
        { R with params := (scanTH pre k (host.drop cm) lz cm pc ps).ps } :=
  scanTH_loop.run (hostKeyLoop_turns lz host path cur R) k pre cm pc ps _ rfl _ rfl

end Fox.C01

namespace Fox.C01.BytesEx
open Fox Fox.Model Fox.Model.KeyScan Fox.Util

def key : List Tok := (tokenize (ascii "/a/{x}/b{y}/c")).getD []
-- the key reads back, its literals are fine, parseWildcard's table has the two offsets (6, 11)
#guard tokenize (render key) == some key && keyOk key
#guard (parseWildcard (render key)).map (·.map (·.end)) == some [6, 11]
-- the byte loop on "/a/1/b22/c": both parameters recorded, key and path used up together (stop = pathEnd, i = len(key))
#guard (scanB (render key) ((parseWildcard (render key)).getD []) (ascii "/a/1/b22/c") false 0 0 0 0 []) ==
  ⟨.pathEnd, 13, 2, 10, 2, [(ascii "x", ascii "1"), (ascii "y", ascii "22")]⟩
#guard (scanB (render key) ((parseWildcard (render key)).getD []) (ascii "/a/1/b22/c") false 0 0 0 0 []) ==
  toB (scanT [] key (ascii "/a/1/b22/c") false 0 0 [])
-- a mismatch after the first parameter, the lazy run records nothing
#guard (scanB (render key) ((parseWildcard (render key)).getD []) (ascii "/a/1/x") true 0 0 0 0 []).stop == .mismatch &&
  (scanB (render key) ((parseWildcard (render key)).getD []) (ascii "/a/1/x") true 0 0 0 0 []).ps == []

-- a hostname key: {sub}.example matched against "api.example.com": the parameter is recorded, the key is used up at "."
def hkey : List Tok := (tokenize (ascii "{sub}.example")).getD []
#guard tokenize (render hkey) == some hkey && keyOk hkey && noCatchAll hkey
#guard (scanBH (render hkey) ((parseWildcard (render hkey)).getD []) (ascii "api.example.com") false 0 0 0 0 []) ==
  ⟨.keyEnd, 13, 1, 11, 1, [(ascii "sub", ascii "api")]⟩
#guard (scanBH (render hkey) ((parseWildcard (render hkey)).getD []) (ascii "api.example.com") false 0 0 0 0 []) ==
  toB (scanTH [] hkey (ascii "api.example.com") false 0 0 [])

end Fox.C01.BytesEx
