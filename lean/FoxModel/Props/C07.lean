import FoxModel.Props.C01Full
/-
  Property C07 — routing depends only on the registered set, not on its history. Here in the form that follows from
  lookup = specification alone: equal suffix lists below the method root. The form whose hypothesis is about the set of
  routes of the sequential map is `C01.same_routes_same_routing` (Props/C01Map).
-/
namespace Fox.C07
open Fox Fox.Model Fox.Spec Fox.C02

/-- **history independence**: two histories (of any length, with any updates, deletions, truncations and re-insertions)
    after which the tree lists the same (pattern, route) pairs below the root of a method, in the same order, route every
    request of that method identically — same route, same parameters, same trailing-slash outcome. (Corollary of
    `lookup = specification`: the specification only reads that list.) -/
theorem history_independent (h₁ h₂ : List Op) (hv₁ : ∀ op ∈ h₁, op.valid = true) (hv₂ : ∀ op ∈ h₂, op.valid = true)
    (m hostPort path : Bytes) (hn : noDbl path = true) (hs : SLASH ∉ stripHostPort hostPort)
    (hsame : sufsOfMethod (runModel newTree h₁).1.roots m = sufsOfMethod (runModel newTree h₂).1.roots m) :
    lookup (runModel newTree h₁).1.roots m hostPort path = lookup (runModel newTree h₂).1.roots m hostPort path := by
  rw [C01.routing_correct_on_every_reachable_state h₁ hv₁ m hostPort path hn hs,
      C01.routing_correct_on_every_reachable_state h₂ hv₂ m hostPort path hn hs, hsame]

end Fox.C07
