import FoxModel.Lemmas.InsScan
import FoxModel.Lemmas.FragGrammar
import FoxModel.Props.C10Routable
/-
  Property C02 (and C07, C10) — the byte-level computations of `tXn.insert` at the node where the search stopped are the
  renderings of the token-level model's.

  `Model.insertNode` works on token lists: common *token* prefix, conflict iff the first differing tokens are two wildcards
  of the same kind, new keys = token sub-lists. The Go code works on strings: `commonPrefix` of bytes, a backward scan for
  '{' / '*' up to the previous '/' (or '.'), `strings.TrimPrefix`, slicing at `hostSplit - charsMatched`. The theorems
  below close that gap for every key and pattern of the grammar (no bound on anything): the byte prefix ends inside a
  token only inside two same-kind wildcards with different names, which is exactly when either rule reports a conflict;
  otherwise every string the Go code builds is the rendering of the token list the model builds.
-/
namespace Fox.C02.Bytes
open Fox Fox.Model Fox.Model.InsScan
open Fox.Model.KeyScan (render_len_pos)

/-- length of the common byte prefix = bytes of the common tokens + bytes shared by two different wildcards of one kind -/
theorem byte_prefix_is_token_prefix (key toks : List Tok) (hk : toksOk key = true) (ht : toksOk toks = true) :
    lcpB (render key) (render toks) = (render (commonPrefix key toks)).length + partialT key toks :=
  lcp_render key toks hk ht

/-- the inner loop of `copyOnWriteSearch` on a node's key counts exactly the common byte prefix of key and remaining path
    (`charsMatchedInNodeFound`), and takes `break STOP` exactly when that prefix ends inside both -/
theorem search_inner_loop_is_common_prefix (key rest : Bytes) :
    (cowInner key rest).1 = lcpB key rest ∧
    ((cowInner key rest).2 = true ↔ lcpB key rest < key.length ∧ lcpB key rest < rest.length) :=
  cowInner_eq key rest

/-- `searchResult.classify` on byte lengths is the model's case distinction on token lists (path and hostname part) -/
theorem classification_agrees (key toks : List Tok) (hk : toksOk key = true) (ht : toksOk toks = true) (isHost : Bool) :
    (stepB (render key) (render toks) isHost).cls = (stepT key toks).cls := by
  obtain ⟨cp, kr, tr, rfl, rfl, hd⟩ := exists_split key toks
  rw [stepT_split cp kr tr hd, render_append, render_append, stepB_common,
    lcpB_render_split (toksOk_append hk).2 (toksOk_append ht).2 hd, classify_add]
  cases kr with
  | nil =>
    cases tr with
    | nil => rfl
    | cons b tr =>
      rw [show partialT [] (b :: tr) = 0 from rfl, show (render ([] : List Tok)).length = 0 from rfl,
        if_neg (Nat.ne_of_lt (render_len_pos (List.cons_ne_nil b tr))), if_pos rfl]
  | cons a kr =>
    cases tr with
    | nil =>
      rw [show partialT (a :: kr) [] = 0 from rfl, show (render ([] : List Tok)).length = 0 from rfl,
        if_pos rfl, if_neg (Nat.ne_of_lt (render_len_pos (List.cons_ne_nil a kr)))]
    | cons b tr =>
      rw [partialT_cons_ne hd, render_cons, render_cons, List.length_append,
        List.length_append, if_neg (Nat.ne_of_lt (Nat.lt_of_lt_of_le (partialHead_lt_right a b) (Nat.le_add_right ..))),
        if_neg (Nat.ne_of_lt (Nat.lt_of_lt_of_le (partialHead_lt_left a b) (Nat.le_add_right ..)))]

/-- path part: the backward scan over `cPrefix` reports a conflict exactly when the first differing tokens are two
    wildcards of the same kind -/
theorem conflict_rule_path (key toks : List Tok) (hk : toksOk key = true) (ht : toksOk toks = true)
    (fk : fragOkPath key = true) (ft : fragOkPath toks = true) (hm : (stepT key toks).cls = .toMiddleOfEdge) :
    (stepB (render key) (render toks) false).conflict = (stepT key toks).conflict := by
  obtain ⟨cp, a, kr, b, tr, rfl, rfl, hab⟩ := mid_split hm
  rw [stepT_split cp (a :: kr) (b :: tr) hab, render_append, render_append, stepB_common,
    lcpB_render_split (toksOk_append hk).2 (toksOk_append ht).2 hab, partialT_cons_ne hab, render_cons b,
    take_partialHead]
  show conflictPath (render cp ++ b.render.take (partialHead a b)) = isWildSame a b
  cases hs : isWildSame a b with
  | false =>
    rw [partialHead_eq_zero hs, List.take_zero, List.append_nil]
    exact conflictPath_boundary (toksOk_append hk).1 fk ft hab
  | true =>
    -- the prefix ends inside the wildcard: opening brace and a part of the name
    have hb := (toksOk_cons (toksOk_append ht).2).1
    rcases isWildSame_cases hs with ⟨n, m, rfl, rfl⟩ | ⟨n, m, rfl, rfl⟩
    · rw [take_param]
      exact scanPathRev_scan.open_ _ _ (fun c hc => (nameOk_iff_forall.1 hb c (List.mem_of_mem_take hc)).2.1)
    · rw [take_catchAll, List.append_cons]
      exact scanPathRev_scan.open_ _ _ (fun c hc => (nameOk_iff_forall.1 hb c (List.mem_of_mem_take hc)).2.1)

/-- hostname part: the same for the '.'-bounded scan with its `HasSuffix(cPrefix, "}")` exemption (which is why, unlike
    in the path part, no `fragOkHost toks` is needed: a prefix that ends behind a whole parameter is exempt whatever follows
    it in key and pattern, whereas in the path part it is no conflict only because '/' would have to follow in both) -/
theorem conflict_rule_host (key toks : List Tok) (hk : toksOk key = true) (ht : toksOk toks = true)
    (fk : fragOkHost key = true) (hm : (stepT key toks).cls = .toMiddleOfEdge) :
    (stepB (render key) (render toks) true).conflict = (stepT key toks).conflict := by
  obtain ⟨cp, a, kr, b, tr, rfl, rfl, hab⟩ := mid_split hm
  rw [stepT_split cp (a :: kr) (b :: tr) hab, render_append, render_append, stepB_common,
    lcpB_render_split (toksOk_append hk).2 (toksOk_append ht).2 hab, partialT_cons_ne hab, render_cons b,
    take_partialHead]
  show conflictHost (render cp ++ b.render.take (partialHead a b)) = isWildSame a b
  cases hs : isWildSame a b with
  | false =>
    rw [partialHead_eq_zero hs, List.take_zero, List.append_nil]
    exact conflictHost_boundary (toksOk_append hk).1 (fragOkHost_append fk).1
  | true =>
    have hamem := (fragOkHost_iff.1 fk).2 a (List.mem_append_right _ (List.mem_cons_self ..))
    rcases isWildSame_cases hs with ⟨n, m, rfl, rfl⟩ | ⟨n, m, rfl, rfl⟩
    · -- two parameters with different names: the prefix ends inside them, with bytes of the key's name
      have ha := (toksOk_cons (toksOk_append hk).2).1
      rw [take_param, ← take_lcpB]
      exact conflictHost_open _ _ (fun c hc => hamem c (List.mem_of_mem_take hc))
        (fun c hc => (nameOk_iff_forall.1 ha c (List.mem_of_mem_take hc)).1)
    · exact hamem.elim

/-- whenever the model does not report a conflict in the middle of an edge, `cPrefix`, `suffixFromExistingEdge` and
    `keySuffix` are the renderings of the model's common prefix, remaining key and remaining pattern: the split falls on a
    token boundary -/
theorem split_on_token_boundary (key toks : List Tok) (hk : toksOk key = true) (ht : toksOk toks = true) (isHost : Bool)
    (hnc : (stepT key toks).conflict = false) :
    (stepB (render key) (render toks) isHost).cPrefix = render (stepT key toks).cp ∧
    (stepB (render key) (render toks) isHost).sufEdge = render (stepT key toks).sufEdge ∧
    (stepB (render key) (render toks) isHost).keySuffix = render (stepT key toks).keySuffix := by
  have hp := partialT_of_noConflict key toks hnc
  obtain ⟨cp, kr, tr, rfl, rfl, hd⟩ := exists_split key toks
  rw [partialT_append] at hp
  rw [stepT_split cp kr tr hd, render_append, render_append, stepB_common,
    lcpB_render_split (toksOk_append hk).2 (toksOk_append ht).2 hd, hp]
  exact ⟨List.append_nil _, rfl, rfl⟩

/-- the dedicated path child of a hostname route: the two slices of `keySuffix` at `hostSplit - charsMatched` are the
    renderings of the remaining hostname tokens and of the path tokens. The pattern is `pre ++ suf` with `pre` matched so
    far (`charsMatched` = its rendered length) and its first `hostToks` tokens the hostname (`hostSplit` = their rendered length) -/
theorem host_leaf_split (pre suf : List Tok) (hostToks : Nat) (h : pre.length ≤ hostToks) :
    leafSplitB (render suf) (render ((pre ++ suf).take hostToks)).length (render pre).length =
      (render (suf.take (hostToks - pre.length)), render (suf.drop (hostToks - pre.length))) := by
  have htake : (pre ++ suf).take hostToks = pre ++ suf.take (hostToks - pre.length) := by
    rw [List.take_append, List.take_of_length_le h]
  have hsplit : render suf = render (suf.take (hostToks - pre.length)) ++ render (suf.drop (hostToks - pre.length)) := by
    rw [← render_append, List.take_append_drop]
  rw [leafSplitB, htake, render_append, List.length_append, Nat.add_sub_cancel_left, hsplit, List.take_left,
    List.drop_left]

/-! ### the hypotheses hold in every reachable state -/

/-- what the parser accepts has the shape the theorems above assume (grammar tokens; in the path part a wildcard is
    followed by '/' or by nothing, in the hostname part a parameter by '.' or by nothing; names without '}', '/', '{', '*',
    in hostnames without '.'; no '}' in hostname text) -/
theorem accepted_patterns_have_the_shape {lim : Spec.Limits} {s : Bytes} {r : Route} (h : Fox.C10.Accepted lim s r) :
    patOK r.pattern = true :=
  patOK_of_valid h.validToks (Fox.C10.litsOk_of_tokenize h.toks)

/-- **after any history** of Handle / Update / Delete / Truncate whose registered patterns have that shape, every key of
    the radix tree is made of grammar tokens with its wildcards at the end of a segment (path part) or of a label
    (hostname part): a key is a contiguous fragment of the pattern of any route below it. So the hypotheses of
    `conflict_rule_path`, `conflict_rule_host`, `split_on_token_boundary` … are met at every node an insertion can stop at -/
theorem keys_of_reachable_trees_are_grammar_fragments (ops : List Fox.C02.Op) (hv : ∀ op ∈ ops, op.valid = true)
    (hp : ∀ op ∈ ops, opPatOK op = true) :
    fragOkRoots (Fox.C02.runModel newTree ops).1.roots = true :=
  fragOk_reachable ops hv hp

/-- in particular after any history of registrations the parser accepted -/
theorem keys_after_accepted_registrations (lim : Spec.Limits) (ops : List Fox.C02.Op)
    (ha : ∀ op ∈ ops, match op with | .handle _ r => ∃ s, Fox.C10.Accepted lim s r | _ => True) :
    fragOkRoots (Fox.C02.runModel newTree ops).1.roots = true := by
  apply fragOk_reachable
  · intro op hop
    have := ha op hop
    cases op with
    | handle m r => obtain ⟨s, hs⟩ := this; exact hs.validPattern
    | update m r => rfl
    | delete m p => rfl
    | truncate ms => rfl
  · intro op hop
    have := ha op hop
    cases op with
    | handle m r => obtain ⟨s, hs⟩ := this; exact accepted_patterns_have_the_shape hs
    | update m r => rfl
    | delete m p => rfl
    | truncate ms => rfl

/-! non-vacuity: `/users/{id}/x` against the key `/users/{id}/y`, and `/{ab}` against `/{ac}` -/
section Ex
def L (s : String) : List Tok := s.toUTF8.toList.map Tok.lit
def k1 : List Tok := L "/users/" ++ [.param "id".toUTF8.toList] ++ L "/y"
def t1 : List Tok := L "/users/" ++ [.param "id".toUTF8.toList] ++ L "/x"
def k2 : List Tok := L "/" ++ [.param "ab".toUTF8.toList]
def t2 : List Tok := L "/" ++ [.param "ac".toUTF8.toList]
#guard toksOk k1 && toksOk t1 && fragOkPath k1 && fragOkPath t1
#guard (stepT k1 t1).cls == .toMiddleOfEdge && !(stepT k1 t1).conflict
#guard (stepB (render k1) (render t1) false).cPrefix == "/users/{id}/".toUTF8.toList
#guard !(stepB (render k1) (render t1) false).conflict
#guard (stepT k2 t2).conflict && (stepB (render k2) (render t2) false).conflict
#guard (stepB (render k2) (render t2) false).cPrefix == "/{a".toUTF8.toList
-- hostname part: the key a.{b}.c against a.{b}/x (the prefix ends with '}': no conflict), {ab}.c against {ac}.c (conflict)
def hk1 : List Tok := L "a." ++ [.param "b".toUTF8.toList] ++ L ".c"
def ht1 : List Tok := L "a." ++ [.param "b".toUTF8.toList] ++ L "/x"
#guard fragOkHost hk1 && toksOk hk1 && toksOk ht1
#guard (stepT hk1 ht1).cls == .toMiddleOfEdge && !(stepT hk1 ht1).conflict && !(stepB (render hk1) (render ht1) true).conflict
#guard (stepB (render ([Tok.param "ab".toUTF8.toList] ++ L ".c")) (render ([Tok.param "ac".toUTF8.toList] ++ L ".c")) true).conflict
end Ex

end Fox.C02.Bytes
