import FoxModel.Lemmas.Routable
import FoxModel.Props.C01Map
/-
  Property C10, second half — **every accepted pattern is routable**:

    "when it is the only route, a request formed by substituting non-empty values for its wildcards is routed to it,
     the values it reports reproduce the request when substituted back, and they are exactly the substituted values
     whenever no catch-all is followed by further pattern text (where several splits may be valid)."

  Vocabulary (`Accepted` below, the rest in `FoxModel/Lemmas/Routable.lean`):
   * `Accepted lim s r`   : `parseRoute` accepts the pattern text `s`, `r.pattern` is its token reading and
                            `r.hostToks` is the index of its first literal '/' (what `NewRoute` records);
   * `instantiate toks vals` : the i-th value substituted for the i-th wildcard;
   * `valsOk toks vals`   : exactly one value per wildcard; a `{param}` value is non-empty and contains no '/'
                            (no '.' either in the hostname part); the value of a catch-all that ends the pattern is
                            non-empty; the value of a catch-all that is followed by more pattern text is non-empty,
                            does not start with '/', does not end with '/' and contains no "//" (`InfixCap`, the values
                            the router can capture at such a position - see the `#guard`s at the end: each of the three
                            restrictions is necessary);
   * `reqHost x` / `reqPath x` : the instantiated text split at its first '/' (Host, request path);
   * `noInfix toks`       : no catch-all is followed by further pattern text.

  The theorems on the radix tree need the two hypotheses of `routing_correct_on_the_sequential_map`: the instantiated
  path contains no empty segment (`noDbl`; a valid pattern may itself contain a literal "//", and a final catch-all
  value may contain one), and the stripped Host contains no '/'. The latter is a hypothesis for a path-only route
  only (whose Host is arbitrary); for a hostname route the Host is the instantiated hostname, which has none
  (`noSlash_strip`).
-/
namespace Fox.C10
open Fox Fox.Model Fox.Spec Fox.C02

/-- `r` is the route built for the accepted pattern text `s`: the validator `parseRoute` accepts `s` under the limits
    `lim`, `r.pattern` is the token reading of `s` and `r.hostToks` is the index of its first literal '/'. -/
structure Accepted (lim : Limits) (s : Bytes) (r : Route) : Prop where
  ok : ∃ n e, parseRoute lim.maxParams lim.maxKeyBytes s = .ok n e
  toks : tokenize s = some r.pattern
  split : r.hostToks = r.pattern.findIdx (· == .lit SLASH)

theorem Accepted.validToks {lim : Limits} {s : Bytes} {r : Route} (h : Accepted lim s r) :
    validToks lim r.pattern = true := by
  have := (parse_iff lim s).1 h.ok
  simpa [valid, h.toks] using this

theorem Accepted.mem_slash {lim : Limits} {s : Bytes} {r : Route} (h : Accepted lim s r) :
    Tok.lit SLASH ∈ r.pattern := by
  obtain ⟨⟨p', hp⟩, _⟩ := shape_of_valid h.validToks
  exact List.dropWhile_subset _ (hp ▸ List.mem_cons_self ..)

theorem Accepted.splitOk {lim : Limits} {s : Bytes} {r : Route} (h : Accepted lim s r) : splitOk r = true := by
  obtain ⟨h1, h2⟩ := findIdx_slash_spec r.pattern h.mem_slash
  simp only [Spec.splitOk, Bool.and_eq_true, h.split]
  exact ⟨h1, h2⟩

/-- an accepted pattern satisfies the hypothesis `Op.valid` of the history theorems (C02, C01) -/
theorem Accepted.validPattern {lim : Limits} {s : Bytes} {r : Route} (h : Accepted lim s r) :
    validPattern r = true :=
  validPattern_of_valid h.validToks h.splitOk (litsOk_of_tokenize h.toks)

/-! ## on the specification -/

/-- The only route answers a well-formed instance of its pattern directly, with parameters that substitute back and
    that are the substituted values if no catch-all is followed by further pattern text. Of the pattern only the
    grammar and the recorded split are used, not that it was read off an accepted text. -/
theorem routable_core {lim : Limits} {r : Route} (hv : validToks lim r.pattern = true) (hs : Spec.splitOk r = true)
    {vals : List Bytes} (hvals : valsOk r.pattern vals = true) (hostPort : Bytes)
    (hhost : r.hostToks ≠ 0 → stripHostPort hostPort = reqHost (instantiate r.pattern vals)) :
    ∃ ps, Spec.route [r] hostPort (reqPath (instantiate r.pattern vals)) = some ⟨r, ps, false⟩ ∧
      subst r.pattern ps = some (instantiate r.pattern vals) ∧
      ps.map Prod.fst = wildNames r.pattern ∧
      (noInfix r.pattern = true → ps = (wildNames r.pattern).zip vals) := by
  obtain ⟨⟨fr, fp, ft⟩, e, hf, hc⟩ := route_of_match (List.mem_singleton.2 rfl) (instance_matches hv hs hvals hhost)
  obtain rfl : fr = r := List.mem_singleton.1 hf
  rcases hc with ⟨rfl, hd⟩ | ⟨_, h0, h1, _⟩
  · refine ⟨fp, e, ?_, hd.names, fun hni => instance_unique hv hs hvals hni hhost hd⟩
    rw [hd.subst]
    have hx := reqHost_append_reqPath (instantiate fr.pattern vals)
    by_cases h0 : fr.hostToks = 0
    · rw [if_pos h0]
      rw [reqHost_pathOnly hs h0] at hx
      exact congrArg some hx
    · rw [if_neg h0, hhost h0, hx]
  · exact absurd h0 h1

/-- **C10, routable, on the routing specification.** Let `r` be the route of an accepted pattern, registered alone,
    and `vals` a well-formed substitution for its wildcards. The request (Host, path) obtained by splitting the
    instantiated pattern at its first '/' is routed to `r` *directly* (no trailing-slash adjustment), the reported
    parameters carry the pattern's wildcard names in order, and substituting them back into the pattern reproduces the
    instantiated text. (For a hostname route the Host header may carry a port / a trailing dot: only its stripped form
    must be the instantiated hostname; for a path-only route the Host header is arbitrary.) -/
theorem routable_spec {lim : Limits} {s : Bytes} {r : Route} (ha : Accepted lim s r)
    {vals : List Bytes} (hvals : valsOk r.pattern vals = true) (hostPort : Bytes)
    (hhost : r.hostToks ≠ 0 → stripHostPort hostPort = reqHost (instantiate r.pattern vals)) :
    ∃ ps, Spec.route [r] hostPort (reqPath (instantiate r.pattern vals)) = some ⟨r, ps, false⟩ ∧
      subst r.pattern ps = some (instantiate r.pattern vals) ∧
      ps.map Prod.fst = wildNames r.pattern := by
  obtain ⟨ps, e, h1, h2, _⟩ := routable_core ha.validToks ha.splitOk hvals hostPort hhost
  exact ⟨ps, e, h1, h2⟩

/-- **C10, routable, exact values.** If moreover no catch-all of the pattern is followed by further pattern text, the
    reported parameters are exactly the substituted values, paired with the wildcard names in pattern order. -/
theorem routable_exact {lim : Limits} {s : Bytes} {r : Route} (ha : Accepted lim s r)
    {vals : List Bytes} (hvals : valsOk r.pattern vals = true) (hni : noInfix r.pattern = true) (hostPort : Bytes)
    (hhost : r.hostToks ≠ 0 → stripHostPort hostPort = reqHost (instantiate r.pattern vals)) :
    Spec.route [r] hostPort (reqPath (instantiate r.pattern vals)) =
      some ⟨r, (wildNames r.pattern).zip vals, false⟩ := by
  obtain ⟨ps, e, _, _, h3⟩ := routable_core ha.validToks ha.splitOk hvals hostPort hhost
  rw [e, h3 hni]

/-- **"No registered pattern is dead against its own instances", on the specification.** In *any* list of routes
    that contains the route `r` of an accepted pattern, a well-formed instance of `r`'s pattern is answered: by a
    registered route `r'` (possibly another one, of higher priority) that matches the request directly, whose
    parameters reproduce the request when substituted back - the only exception being a path-only `r` while the
    method also has hostname routes and the Host is non-empty: then a slash-adjusted match of a *hostname* route is
    preferred (hostname routes are staged before path-only ones, C09). -/
theorem routable_spec_among {lim : Limits} {s : Bytes} {r : Route} (ha : Accepted lim s r) {rs : List Route}
    (hr : r ∈ rs) {vals : List Bytes} (hvals : valsOk r.pattern vals = true) (hostPort : Bytes)
    (hhost : r.hostToks ≠ 0 → stripHostPort hostPort = reqHost (instantiate r.pattern vals)) :
    ∃ r' ps' tsr, Spec.route rs hostPort (reqPath (instantiate r.pattern vals)) = some ⟨r', ps', tsr⟩ ∧ r' ∈ rs ∧
      ((tsr = false ∧ subst r'.pattern ps' =
          some (if r'.hostToks = 0 then reqPath (instantiate r.pattern vals)
                else stripHostPort hostPort ++ reqPath (instantiate r.pattern vals))) ∨
       (tsr = true ∧ r.hostToks = 0 ∧ r'.hostToks ≠ 0 ∧ C01Spec.HostMode rs hostPort)) := by
  obtain ⟨⟨r', ps', tsr⟩, e, hf, hc⟩ :=
    route_of_match hr (instance_matches ha.validToks ha.splitOk hvals hhost)
  exact ⟨r', ps', tsr, e, hf, hc.imp (And.imp_right Direct.subst) id⟩

/-- in particular: a hostname route, or any route when the Host is empty or the method has no hostname route, is
    answered directly (never "not found", never only through a trailing-slash adjustment) -/
theorem routable_spec_among_direct {lim : Limits} {s : Bytes} {r : Route} (ha : Accepted lim s r) {rs : List Route}
    (hr : r ∈ rs) {vals : List Bytes} (hvals : valsOk r.pattern vals = true) (hostPort : Bytes)
    (hhost : r.hostToks ≠ 0 → stripHostPort hostPort = reqHost (instantiate r.pattern vals))
    (hpo : r.hostToks = 0 → ¬ C01Spec.HostMode rs hostPort) :
    ∃ r' ps', Spec.route rs hostPort (reqPath (instantiate r.pattern vals)) = some ⟨r', ps', false⟩ ∧ r' ∈ rs ∧
      subst r'.pattern ps' =
          some (if r'.hostToks = 0 then reqPath (instantiate r.pattern vals)
                else stripHostPort hostPort ++ reqPath (instantiate r.pattern vals)) := by
  obtain ⟨r', ps', tsr, e, hm, hc⟩ := routable_spec_among ha hr hvals hostPort hhost
  rcases hc with ⟨rfl, hs⟩ | ⟨_, h0, _, hmode⟩
  · exact ⟨r', ps', e, hm, hs⟩
  · exact absurd hmode (hpo h0)

/-! ## on the radix tree -/

theorem runSpec_single (m : Bytes) (r : Route) : (runSpec [] [Op.handle m r]).1.routesOf m = [r] := by
  simp [runSpec, stepSpec, Store.handle, Store.get, Store.conflicts, Store.routesOf]

theorem noSlash_strip {r : Route} {vals : List Bytes} {hostPort : Bytes}
    (hhost : r.hostToks ≠ 0 → stripHostPort hostPort = reqHost (instantiate r.pattern vals))
    (hslash : r.hostToks = 0 → SLASH ∉ stripHostPort hostPort) : SLASH ∉ stripHostPort hostPort := by
  by_cases h0 : r.hostToks = 0
  · exact hslash h0
  · rw [hhost h0]; exact slash_not_mem_reqHost _

/-- **C10, routable, on the radix tree.** Register the route `r` of an accepted pattern alone (history
    `[Handle m r]` from the empty router). For every well-formed substitution whose instantiated path has no empty
    segment, the model of `roots.lookup` finds `r` directly, with parameters that reproduce the instantiated text when
    substituted back, and that are exactly the substituted values if no catch-all is followed by further pattern text.
    (Host header: for a hostname route anything whose stripped form is the instantiated hostname; for a path-only route
    anything without '/' after stripping.) -/
theorem routable {lim : Limits} {s : Bytes} {r : Route} (ha : Accepted lim s r)
    {vals : List Bytes} (hvals : valsOk r.pattern vals = true) (m hostPort : Bytes)
    (hhost : r.hostToks ≠ 0 → stripHostPort hostPort = reqHost (instantiate r.pattern vals))
    (hslash : r.hostToks = 0 → SLASH ∉ stripHostPort hostPort)
    (hn : noDbl (reqPath (instantiate r.pattern vals)) = true) :
    ∃ ps, lookup (runModel newTree [Op.handle m r]).1.roots m hostPort (reqPath (instantiate r.pattern vals)) =
        .found r ps false ∧
      subst r.pattern ps = some (instantiate r.pattern vals) ∧
      ps.map Prod.fst = wildNames r.pattern ∧
      (noInfix r.pattern = true → ps = (wildNames r.pattern).zip vals) := by
  have hv : ∀ op ∈ [Op.handle m r], op.valid = true := by
    intro op hop; rw [List.mem_singleton.1 hop]; exact ha.validPattern
  have hu : ∀ op ∈ [Op.handle m r], C01.updSplitOk op = true := by
    intro op hop; rw [List.mem_singleton.1 hop]; rfl
  have hl := C01.routing_correct_on_the_sequential_map [Op.handle m r] hv hu m hostPort _ hn
    (noSlash_strip hhost hslash)
  rw [runSpec_single] at hl
  obtain ⟨ps, e, h⟩ := routable_core ha.validToks ha.splitOk hvals hostPort hhost
  exact ⟨ps, by rw [hl, e]; rfl, h⟩

/-- **"No registered pattern is dead against its own instances", on the radix tree, in every reachable state.**
    After any history of Handle / Update / Delete / Truncate (hypotheses of `routing_correct_on_the_sequential_map`),
    if the route `r` of an accepted pattern is registered for method `m`, then every well-formed instance of its
    pattern (without empty path segment) is found by `roots.lookup`: the answer is a registered route `r'` with
    parameters `ps'`; it is a direct match (`tsr = false`) whose parameters reproduce the request when substituted
    into `r'`'s pattern - except that for a path-only `r`, when the method also has hostname routes and the Host is
    non-empty, a slash-adjusted match of a hostname route `r'` is preferred (C09 staging). -/
theorem routable_in_any_state (ops : List Op) (hv : ∀ op ∈ ops, op.valid = true)
    (hu : ∀ op ∈ ops, C01.updSplitOk op = true)
    {lim : Limits} {s : Bytes} {r : Route} (ha : Accepted lim s r) (m : Bytes)
    (hreg : r ∈ (runSpec [] ops).1.routesOf m)
    {vals : List Bytes} (hvals : valsOk r.pattern vals = true) (hostPort : Bytes)
    (hhost : r.hostToks ≠ 0 → stripHostPort hostPort = reqHost (instantiate r.pattern vals))
    (hslash : r.hostToks = 0 → SLASH ∉ stripHostPort hostPort)
    (hn : noDbl (reqPath (instantiate r.pattern vals)) = true) :
    ∃ r' ps' tsr,
      lookup (runModel newTree ops).1.roots m hostPort (reqPath (instantiate r.pattern vals)) = .found r' ps' tsr ∧
      r' ∈ (runSpec [] ops).1.routesOf m ∧
      ((tsr = false ∧ subst r'.pattern ps' =
          some (if r'.hostToks = 0 then reqPath (instantiate r.pattern vals)
                else stripHostPort hostPort ++ reqPath (instantiate r.pattern vals))) ∨
       (tsr = true ∧ r.hostToks = 0 ∧ r'.hostToks ≠ 0 ∧
          C01Spec.HostMode ((runSpec [] ops).1.routesOf m) hostPort)) := by
  have hl := C01.routing_correct_on_the_sequential_map ops hv hu m hostPort _ hn
    (noSlash_strip hhost hslash)
  obtain ⟨r', ps', tsr, e, hm, hc⟩ := routable_spec_among ha hreg hvals hostPort hhost
  exact ⟨r', ps', tsr, by rw [hl, e]; rfl, hm, hc⟩

/-- in particular a registered hostname pattern - and a registered path-only pattern when the Host is empty or the
    method has no hostname route - is never dead and never reached only through a trailing-slash adjustment -/
theorem routable_in_any_state_direct (ops : List Op) (hv : ∀ op ∈ ops, op.valid = true)
    (hu : ∀ op ∈ ops, C01.updSplitOk op = true)
    {lim : Limits} {s : Bytes} {r : Route} (ha : Accepted lim s r) (m : Bytes)
    (hreg : r ∈ (runSpec [] ops).1.routesOf m)
    {vals : List Bytes} (hvals : valsOk r.pattern vals = true) (hostPort : Bytes)
    (hhost : r.hostToks ≠ 0 → stripHostPort hostPort = reqHost (instantiate r.pattern vals))
    (hslash : r.hostToks = 0 → SLASH ∉ stripHostPort hostPort)
    (hpo : r.hostToks = 0 → ¬ C01Spec.HostMode ((runSpec [] ops).1.routesOf m) hostPort)
    (hn : noDbl (reqPath (instantiate r.pattern vals)) = true) :
    ∃ r' ps',
      lookup (runModel newTree ops).1.roots m hostPort (reqPath (instantiate r.pattern vals)) = .found r' ps' false ∧
      r' ∈ (runSpec [] ops).1.routesOf m ∧
      subst r'.pattern ps' =
          some (if r'.hostToks = 0 then reqPath (instantiate r.pattern vals)
                else stripHostPort hostPort ++ reqPath (instantiate r.pattern vals)) := by
  obtain ⟨r', ps', tsr, e, hm, hc⟩ := routable_in_any_state ops hv hu ha m hreg hvals hostPort hhost hslash hn
  rcases hc with ⟨rfl, hs⟩ | ⟨_, h0, _, hmode⟩
  · exact ⟨r', ps', e, hm, hs⟩
  · exact absurd hmode (hpo h0)

/-! ## the Host header is the instantiated hostname itself -/

/-- The instantiated hostname of an accepted pattern never ends with '.', so - if the substituted hostname values
    contain no ':' - the plain Host header `reqHost …` (no port) is its own stripped form. -/
theorem strip_instantiated_host {lim : Limits} {s : Bytes} {r : Route} (ha : Accepted lim s r)
    {vals : List Bytes} (hvals : valsOk r.pattern vals = true)
    (hc : COLON ∉ reqHost (instantiate r.pattern vals)) :
    stripHostPort (reqHost (instantiate r.pattern vals)) = reqHost (instantiate r.pattern vals) :=
  C01Spec.stripHostPort_id _ hc (reqHost_no_trailing_dot ha.validToks hvals)

/-- **C10, routable, on the radix tree, with the request read off the instantiated pattern**: Host header = the text
    before the first '/', path = the rest. -/
theorem routable_self {lim : Limits} {s : Bytes} {r : Route} (ha : Accepted lim s r)
    {vals : List Bytes} (hvals : valsOk r.pattern vals = true) (m : Bytes)
    (hc : COLON ∉ reqHost (instantiate r.pattern vals))
    (hn : noDbl (reqPath (instantiate r.pattern vals)) = true) :
    ∃ ps, lookup (runModel newTree [Op.handle m r]).1.roots m (reqHost (instantiate r.pattern vals))
          (reqPath (instantiate r.pattern vals)) = .found r ps false ∧
      subst r.pattern ps = some (instantiate r.pattern vals) ∧
      ps.map Prod.fst = wildNames r.pattern ∧
      (noInfix r.pattern = true → ps = (wildNames r.pattern).zip vals) := by
  have hst := strip_instantiated_host ha hvals hc
  refine routable ha hvals m _ (fun _ => hst) (fun _ => ?_) hn
  rw [hst]; exact slash_not_mem_reqHost _

/-! ## non-vacuity and illustrations -/
namespace Ex

/-- `{sub}.example.com/a/{id}/f*{mid}/z/*{rest}`: hostname with a parameter, a path parameter, an infix catch-all
    (with a literal prefix in its segment) and a suffix catch-all -/
def toks : List Tok :=
  [.param [115, 117, 98], .lit 46, .lit 101, .lit 120, .lit 97, .lit 109, .lit 112, .lit 108, .lit 101, .lit 46,
   .lit 99, .lit 111, .lit 109, .lit 47, .lit 97, .lit 47, .param [105, 100], .lit 47, .lit 102,
   .catchAll [109, 105, 100], .lit 47, .lit 122, .lit 47, .catchAll [114, 101, 115, 116]]

def r : Route := { hid := 1, pattern := toks, hostToks := 13 }

def lim : Limits := ⟨65535, 65535⟩

theorem toks_tokenize : tokenize (render toks) = some toks := render_tokenize_wf toks (by decide)

/-- the hypotheses on the pattern are satisfiable: `parseRoute` accepts the example -/
theorem accepted : Accepted lim (render toks) r where
  ok := by
    obtain ⟨e, he⟩ := parse_ok_count lim (render toks) toks toks_tokenize (by decide)
    exact ⟨_, e, he⟩
  toks := toks_tokenize
  split := by decide

/-- sub = "api", id = "42", mid = "x/y/z/q", rest = "r/s" -/
def vals : List Bytes := [[97, 112, 105], [52, 50], [120, 47, 121, 47, 122, 47, 113], [114, 47, 115]]

/-- the hypothesis on the values is satisfiable -/
theorem vals_ok : valsOk r.pattern vals = true := by decide

/-- "api.example.com" -/
def host : Bytes := [97, 112, 105, 46, 101, 120, 97, 109, 112, 108, 101, 46, 99, 111, 109]
/-- "/a/42/fx/y/z/q/z/r/s" -/
def path : Bytes := [47, 97, 47, 52, 50, 47, 102, 120, 47, 121, 47, 122, 47, 113, 47, 122, 47, 114, 47, 115]

theorem req_host : reqHost (instantiate r.pattern vals) = host := by decide
theorem req_path : reqPath (instantiate r.pattern vals) = path := by decide

/-- all hypotheses of `routable_self` hold for the example, hence its conclusion -/
example : ∃ ps, lookup (runModel newTree [Op.handle [71, 69, 84] r]).1.roots [71, 69, 84] host path = .found r ps false ∧
    subst r.pattern ps = some (host ++ path) := by
  obtain ⟨ps, h1, h2, _⟩ :=
    routable_self accepted vals_ok [71, 69, 84] (by rw [req_host]; decide) (by rw [req_path]; decide)
  rw [req_host, req_path] at h1
  exact ⟨ps, h1, by rw [h2, ← reqHost_append_reqPath (instantiate r.pattern vals), req_host, req_path]⟩

/-- **why exactness is restricted to patterns without infix catch-all**: the example has one (`f*{mid}/z/…`), and
    the substituted split mid = "x/y/z/q", rest = "r/s" is not the one the router reports: the shorter capture
    mid = "x/y" (then rest = "q/z/r/s") has priority. Both reproduce the same request. -/
example : noInfix r.pattern = false := by decide

#guard Spec.route [r] host path ==
  some ⟨r, [([115, 117, 98], [97, 112, 105]), ([105, 100], [52, 50]), ([109, 105, 100], [120, 47, 121]),
            ([114, 101, 115, 116], [113, 47, 122, 47, 114, 47, 115])], false⟩

#guard Spec.route [r] host path != some ⟨r, (wildNames r.pattern).zip vals, false⟩

#guard subst r.pattern ((wildNames r.pattern).zip vals) == some (host ++ path)
#guard subst r.pattern [([115, 117, 98], [97, 112, 105]), ([105, 100], [52, 50]), ([109, 105, 100], [120, 47, 121]),
    ([114, 101, 115, 116], [113, 47, 122, 47, 114, 47, 115])] == some (host ++ path)

/-- `{sub}.example.com/a/{id}/*{rest}`: no infix catch-all, `routable_exact` applies -/
def toks2 : List Tok :=
  [.param [115, 117, 98], .lit 46, .lit 101, .lit 120, .lit 97, .lit 109, .lit 112, .lit 108, .lit 101, .lit 46,
   .lit 99, .lit 111, .lit 109, .lit 47, .lit 97, .lit 47, .param [105, 100], .lit 47, .catchAll [114, 101, 115, 116]]
def r2 : Route := { hid := 2, pattern := toks2, hostToks := 13 }
theorem toks2_tokenize : tokenize (render toks2) = some toks2 := render_tokenize_wf toks2 (by decide)
theorem accepted2 : Accepted lim (render toks2) r2 where
  ok := by
    obtain ⟨e, he⟩ := parse_ok_count lim (render toks2) toks2 toks2_tokenize (by decide)
    exact ⟨_, e, he⟩
  toks := toks2_tokenize
  split := by decide
/-- sub = "api", id = "42", rest = "x//y/" (a final catch-all value may contain anything) -/
def vals2 : List Bytes := [[97, 112, 105], [52, 50], [120, 47, 47, 121, 47]]
example : valsOk r2.pattern vals2 = true ∧ noInfix r2.pattern = true := by decide
#guard Spec.route [r2] host (reqPath (instantiate r2.pattern vals2)) == some ⟨r2, (wildNames r2.pattern).zip vals2, false⟩

/-- `/*{c}/x`: the restrictions on the value of an infix catch-all are necessary (each violation puts an empty
    segment into the request path, across which the router does not capture) -/
def rInf : Route := { hid := 3, pattern := [.lit 47, .catchAll [99], .lit 47, .lit 120] }
example : validToks lim rInf.pattern = true := by decide
-- c = "a/b" is fine
#guard valsOk rInf.pattern [[97, 47, 98]]
#guard (Spec.route [rInf] [] (instantiate rInf.pattern [[97, 47, 98]])).isSome
-- c = "a//b" (contains "//"), c = "/a" (leading '/'), c = "a/" (trailing '/'): not well-formed, and indeed not routed
#guard !valsOk rInf.pattern [[97, 47, 47, 98]] && (Spec.route [rInf] [] (instantiate rInf.pattern [[97, 47, 47, 98]])).isNone
#guard !valsOk rInf.pattern [[47, 97]] && (Spec.route [rInf] [] (instantiate rInf.pattern [[47, 97]])).isNone
#guard !valsOk rInf.pattern [[97, 47]] && (Spec.route [rInf] [] (instantiate rInf.pattern [[97, 47]])).isNone

/-- the exception in `routable_in_any_state`: the path-only pattern `/p` matches the request "/p" directly, but with
    the hostname pattern `h.io/p/` registered for the same method and the Host "h.io" the slash-adjusted hostname
    match is preferred (hostname routes are staged first) -/
def rP : Route := { hid := 4, pattern := [.lit 47, .lit 112] }
def rHP : Route := { hid := 5, pattern := [.lit 104, .lit 46, .lit 105, .lit 111, .lit 47, .lit 112, .lit 47], hostToks := 4 }
#guard Spec.route [rP, rHP] [104, 46, 105, 111] [47, 112] == some ⟨rHP, [], true⟩
#guard Spec.route [rP, rHP] [] [47, 112] == some ⟨rP, [], false⟩

end Ex

end Fox.C10
