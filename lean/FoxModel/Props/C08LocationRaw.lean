import FoxModel.Lemmas.Location.RawEscape
import FoxModel.Props.C08Location
/-
  Property C08, raw branch: the string that `defaultRedirectTrailingSlashHandler` feeds to `FixTrailingSlash` when the request has a
  `RawPath` that differs from `EscapedPath()` is `escapeRawPath(RawPath)`. This file proves that `escapeRawPath` preserves everything
  `C08.location_resolves` needs (the '/'-structure, emptiness, the "." and ".." elements, the leading '/') and removes what it forbids
  ('?', '#', non-ASCII bytes), so that the theorem applies to what the handler really does. The numbers in the docstrings and
  section titles, here and in Lemmas/Location/RawEscape where `escapeRawPath` is taken apart (and in props/C08.json):
    1  what `escapeRawPath` writes and keeps: (a) literal path bytes and well-formed `%XX` triples only, (b) the elements of the
       image are the images of the elements, (c,d) an element is empty, "." or ".." iff its image is, (e) a leading '/' and the
       root likewise, (f) the image is ASCII;
    2  a raw path that passes the guard of `ServeHTTP` and is not "/" has a `CleanEscaped` image;
    3  hence the Location of the raw branch resolves to the slash-adjusted path;
    4  `FixTrailingSlash` commutes with `escapeRawPath`, so that path is the image of the slash-adjusted raw path;
    5  the request that showed the need for the raw branch, evaluated.
-/
namespace Fox.C08.Raw
open Fox Fox.Model.Location Fox.RFC3986 Fox.Spec.Clean Fox.C08.Loc

/-! ### resolution against the raw request path as the base -/

/-- the last element of the path written in its escaped form, everything before it left as it is -/
def escapeLastElem (p : Bytes) : Bytes :=
  if p.getLast? = some SLASH then dropLastSegment p.dropLast ++ escapeRawPath (afterLastSlash p.dropLast) ++ [SLASH]
  else dropLastSegment p ++ escapeRawPath (afterLastSlash p)

theorem lastElem_escapeRawPath {b : Bytes} (h : GoodElem b) : LastElem (escapeRawPath b) :=
  ⟨goodElem_escapeRawPath h, escapeRawPath_noQuery b, escapeRawPath_noFragment b⟩

theorem escapeLastElem_noslash {b : Bytes} (hb : SLASH ∉ b) (hne : b ≠ []) (x : Bytes) :
    escapeLastElem (x ++ SLASH :: b) = x ++ SLASH :: escapeRawPath b := by
  unfold escapeLastElem
  rw [if_neg (getLast?_append_slash_ne_slash hb hne x), dropLastSegment_append hb, afterLast_append hb]; simp

theorem escapeLastElem_slash {b : Bytes} (hb : SLASH ∉ b) (x : Bytes) :
    escapeLastElem (x ++ SLASH :: b ++ [SLASH]) = x ++ SLASH :: escapeRawPath b ++ [SLASH] := by
  unfold escapeLastElem
  rw [if_pos List.getLast?_concat, List.dropLast_concat, dropLastSegment_append hb, afterLast_append hb]; simp

theorem escapeRawPath_escapeLastElem (p : Bytes) : escapeRawPath (escapeLastElem p) = escapeRawPath p := by
  have key : ∀ y : Bytes, escapeRawPath (dropLastSegment y ++ escapeRawPath (afterLastSlash y)) = escapeRawPath y := by
    intro y
    rcases last_slash_decomp y with hs | ⟨x, e, hp, he⟩
    · obtain ⟨h2, h1⟩ := span_all (p := (· ≠ SLASH)) (l := y.reverse)
        (fun c hc => by simpa using ne_of_mem_of_not_mem (List.mem_reverse.mp hc) hs)
      have h1 : dropLastSegment y = [] := by unfold dropLastSegment; rw [h1]; rfl
      have h2 : afterLastSlash y = y := by unfold afterLastSlash; rw [h2, List.reverse_reverse]
      rw [h1, h2, List.nil_append, escapeRawPath_idempotent]
    · rw [hp, dropLastSegment_append he, afterLast_append he]
      have : x ++ [SLASH] ++ escapeRawPath e = x ++ SLASH :: escapeRawPath e := by simp
      rw [this, escapeRawPath_append_slash, escapeRawPath_append_slash, escapeRawPath_idempotent]
  unfold escapeLastElem
  split
  · rename_i h
    obtain ⟨y, rfl⟩ := List.getLast?_eq_some_iff.mp h
    rw [List.dropLast_concat, escapeRawPath_concat_slash, escapeRawPath_concat_slash, key]
  · exact key p

/-- when the last element needs no escaping, nothing changes -/
theorem escapeLastElem_of_valid {b : Bytes} (hb : SLASH ∉ b) (hne : b ≠ []) (hv : validEncoded b = true) (x : Bytes) :
    escapeLastElem (x ++ SLASH :: b) = x ++ SLASH :: b ∧
    escapeLastElem (x ++ SLASH :: b ++ [SLASH]) = x ++ SLASH :: b ++ [SLASH] := by
  rw [escapeLastElem_noslash hb hne, escapeLastElem_slash hb, escapeRawPath_of_valid b hv]
  exact ⟨rfl, rfl⟩

end Fox.C08.Raw

namespace Fox.C08
open Fox Fox.Model.Location Fox.RFC3986 Fox.Spec.Clean Fox.C08.Loc Fox.C08.Raw

/-- **1(a)** `escapeRawPath` writes literal path bytes and well-formed `%XX` triples only (`Raw.validEncoded`); in particular
    neither '?' nor '#'. -/
theorem escapeRawPath_validEncoded (raw : Bytes) :
    validEncoded (escapeRawPath raw) = true ∧ QMARK ∉ escapeRawPath raw ∧ HASH ∉ escapeRawPath raw ∧
    ∀ x ∈ escapeRawPath raw, pathLiteral x = true ∨ x = PERCENT :=
  ⟨validEncoded_escapeRawPath raw, escapeRawPath_noQuery raw, escapeRawPath_noFragment raw, escapeRawPath_safe raw⟩

/-- **1(b)** the '/'-structure is preserved: the elements of the image are the images of the elements (a `%XX` triple never spans
    a '/', a '/' is copied, and no other byte is written as a '/'). -/
theorem segments_escapeRawPath (raw : Bytes) : segments (escapeRawPath raw) = (segments raw).map escapeRawPath :=
  splitSlash_escapeRawPath raw

/-- **1(c,d)** per element: empty iff empty, "." iff ".", ".." iff ".." ("%2E" stays "%2E", which is not "."). -/
theorem escapeRawPath_elem (s : Bytes) :
    (escapeRawPath s = [] ↔ s = []) ∧ (escapeRawPath s = [DOT] ↔ s = [DOT]) ∧ (escapeRawPath s = [DOT, DOT] ↔ s = [DOT, DOT]) :=
  ⟨escapeRawPath_eq_nil, escapeRawPath_eq_dot, escapeRawPath_eq_dotdot⟩

/-- **1(e)** the image starts with '/' iff the input does, and is "/" iff the input is. -/
theorem escapeRawPath_rooted (raw : Bytes) :
    ((escapeRawPath raw).head? = some SLASH ↔ raw.head? = some SLASH) ∧ (escapeRawPath raw = [SLASH] ↔ raw = [SLASH]) :=
  ⟨escapeRawPath_head_slash, escapeRawPath_eq_root⟩

/-- **1(f)** the image is ASCII, so `hexEscapeNonASCII` leaves it alone. -/
theorem escapeRawPath_ascii (raw : Bytes) :
    isASCII (escapeRawPath raw) = true ∧ hexEscapeNonASCII (escapeRawPath raw) = escapeRawPath raw := by
  have h : isASCII (escapeRawPath raw) = true := by
    simp only [isASCII, List.all_eq_true, decide_eq_true_eq]
    exact fun x hx => (safe_facts (escapeRawPath_safe raw x hx)).2.2
  exact ⟨h, hexEscapeNonASCII_ascii h⟩

/-- the image is clean exactly when the raw path passes the guard and is not "/": nothing is hidden by the encoding, and '?' and '#'
    never occur in the image -/
theorem cleanEscaped_escapeRawPath_iff (raw : Bytes) :
    CleanEscaped (escapeRawPath raw) ↔ raw = Model.cleanRef raw ∧ raw ≠ [SLASH] := by
  rw [cleanEscaped_iff_canonical, canonical_escapeRawPath_iff, cleanRef_fixed_iff]
  simp only [ne_eq, escapeRawPath_eq_root]
  exact ⟨fun h => ⟨h.1, h.2.1⟩, fun h => ⟨h.1, h.2, escapeRawPath_noQuery raw, escapeRawPath_noFragment raw⟩⟩

/-- **2.** The guard `path == CleanPath(path)` that `ServeHTTP` applies to the matched string (here the raw path; in the form of the
    serving model, `raw = cleanRef raw`) and `raw ≠ "/"` give every hypothesis of `location_resolves` for `escapeRawPath raw`.
    `raw` may contain '#', '?', non-ASCII and other bytes that may not appear in a path: they are encoded. -/
theorem cleanEscaped_escapeRawPath {raw : Bytes} (hguard : raw = Model.cleanRef raw) (hroot : raw ≠ [SLASH]) :
    CleanEscaped (escapeRawPath raw) :=
  (cleanEscaped_escapeRawPath_iff raw).mpr ⟨hguard, hroot⟩

/-! ### 3: the handler -/

/-- the raw branch: `raw != "" && raw != p` -/
theorem handlerSource_raw {raw esc : Bytes} (hraw : raw ≠ []) (hne : raw ≠ esc) : handlerSource raw esc = escapeRawPath raw := by
  unfold handlerSource; rw [if_pos ⟨hraw, hne⟩]

/-- the other branch: no RawPath, or RawPath is what `EscapedPath()` returned -/
theorem handlerSource_esc {raw esc : Bytes} (h : raw = [] ∨ raw = esc) : handlerSource raw esc = esc := by
  unfold handlerSource
  rw [if_neg]
  intro ⟨h1, h2⟩
  rcases h with h | h
  · exact h1 h
  · exact h2 h

/-- **4.** `FixTrailingSlash` commutes with `escapeRawPath`, for every string: the adjusted escaped path is the escape of the
    slash-adjusted raw path, i.e. of the string the router matched the route against, up to the encoding of the bytes that may not
    appear in a path. -/
theorem fixTrailingSlash_escapeRawPath (raw : Bytes) :
    fixTrailingSlash (escapeRawPath raw) = escapeRawPath (fixTrailingSlash raw) := by
  rcases fix_split raw with ⟨x, hx, rfl⟩ | ⟨hno, hfix⟩
  · rw [fix_concat hx, escapeRawPath_concat_slash, fix_concat (fun h0 => hx (escapeRawPath_eq_nil.mp h0))]
  · rw [hfix, escapeRawPath_concat_slash]
    rcases fix_split (escapeRawPath raw) with ⟨y, hy, he⟩ | ⟨_, h⟩
    · -- the image would end in '/' after a non-empty rest, and so would the raw path
      obtain ⟨x, hr⟩ :=
        List.getLast?_eq_some_iff.mp (getLast?_escapeRawPath_slash (by rw [he]; exact List.getLast?_concat))
      refine absurd hr (hno x fun h0 => hy ?_)
      rw [hr, h0, List.nil_append, escapeRawPath_eq_root.mpr rfl] at he
      simpa using he.symm
    · exact h

/-- **3. The Location of the raw branch resolves to the adjusted path.** For a request with a RawPath `raw` that is not what
    `EscapedPath()` returned (`esc`, whatever it is), that passed the guard of `ServeHTTP` on the matched string
    (`raw == CleanPath(raw)`) and is not "/": the reference the handler computes resolves, against the request URL written with
    the escaped raw path, to `FixTrailingSlash(escapeRawPath(raw))` = `escapeRawPath(FixTrailingSlash(raw))` on the same origin,
    with the query kept. No hypothesis on the bytes of `raw` (it may hold '#', '?', non-ASCII bytes, malformed escapes) nor on
    `esc`. -/
theorem redirectLocation_resolves {raw esc q : Bytes} (hraw : raw ≠ []) (hne : raw ≠ esc)
    (hguard : raw = Model.cleanRef raw) (hroot : raw ≠ [SLASH]) (hq : HASH ∉ q) (q0 : Option Bytes) :
    resolve (escapeRawPath raw) q0 (location (handlerSource raw esc) q) =
      { sameOrigin := true, path := escapeRawPath (fixTrailingSlash raw),
        query := if q = [] then none else some q, fragment := none } := by
  rw [handlerSource_raw hraw hne, location_resolves (cleanEscaped_escapeRawPath hguard hroot) hq, fixTrailingSlash_escapeRawPath]

/-- … and so does the header value (`hexEscapeNonASCII` only touches the query: the path part is ASCII). -/
theorem redirectLocation_header_resolves {raw esc q : Bytes} (hraw : raw ≠ []) (hne : raw ≠ esc)
    (hguard : raw = Model.cleanRef raw) (hroot : raw ≠ [SLASH]) (hq : HASH ∉ q) (q0 : Option Bytes) :
    resolve (escapeRawPath raw) q0 (redirectLocation raw esc q) =
      { sameOrigin := true, path := escapeRawPath (fixTrailingSlash raw),
        query := if q = [] then none else some (hexEscapeNonASCII q), fragment := none } := by
  unfold redirectLocation
  rw [handlerSource_raw hraw hne,
    locationHeader_resolves (cleanEscaped_escapeRawPath hguard hroot) (escapeRawPath_ascii raw).1 hq,
    fixTrailingSlash_escapeRawPath]

/-- the Location of the raw branch is never an absolute URI nor a network-path reference -/
theorem redirectLocation_never_absolute {raw esc : Bytes} (hraw : raw ≠ []) (hne : raw ≠ esc)
    (hguard : raw = Model.cleanRef raw) (hroot : raw ≠ [SLASH]) (q : Bytes) :
    (parseRef (redirectLocation raw esc q)).scheme = none ∧ (parseRef (redirectLocation raw esc q)).authority = none ∧
    looseSchemeOf (redirectLocation raw esc q) = none := by
  unfold redirectLocation
  rw [handlerSource_raw hraw hne]
  exact locationHeader_never_absolute (cleanEscaped_escapeRawPath hguard hroot) (escapeRawPath_ascii raw).1 q

/-- **Both branches.** Whatever the request: the header value resolves, against the request URL written with the string the handler
    started from (`handlerSource raw esc`), to that string with the trailing slash adjusted.
    * Raw branch (`raw ≠ ""` and `raw ≠ esc`): the hypothesis is the guard of `ServeHTTP` on the matched string `raw`; nothing is
      assumed about `esc`.
    * Other branch (`raw = ""` or `raw = esc`): the hypothesis is `CleanEscaped esc ∧ isASCII esc`. Here `esc` is the output of the
      standard library's `URL.EscapedPath()`, an input of the model: it is ASCII and free of '?' and '#' by construction of
      `net/url`; when `raw = esc ≠ ""` the guard was applied to `esc` itself, and when `raw = ""` it was applied to `URL.Path`, of
      which `esc` is the byte-wise escape (which keeps '/', '.', and emptiness: the same argument as for `escapeRawPath`). -/
theorem redirectLocation_resolves_any {raw esc q : Bytes}
    (hrawBranch : raw ≠ [] → raw ≠ esc → raw = Model.cleanRef raw ∧ raw ≠ [SLASH])
    (hescBranch : (raw = [] ∨ raw = esc) → CleanEscaped esc ∧ isASCII esc = true)
    (hq : HASH ∉ q) (q0 : Option Bytes) :
    resolve (handlerSource raw esc) q0 (redirectLocation raw esc q) =
      { sameOrigin := true, path := fixTrailingSlash (handlerSource raw esc),
        query := if q = [] then none else some (hexEscapeNonASCII q), fragment := none } := by
  by_cases h : raw = [] ∨ raw = esc
  · obtain ⟨h1, h2⟩ := hescBranch h
    unfold redirectLocation
    rw [handlerSource_esc h, locationHeader_resolves h1 h2 hq]
  · have hraw : raw ≠ [] := fun e => h (Or.inl e)
    have hne : raw ≠ esc := fun e => h (Or.inr e)
    obtain ⟨h1, h2⟩ := hrawBranch hraw hne
    rw [handlerSource_raw hraw hne, redirectLocation_header_resolves hraw hne h1 h2 hq, fixTrailingSlash_escapeRawPath]

/-- In the raw branch the handler's string is a fixed point of `escapeRawPath`: a client that follows the redirect sends a path
    on which the handler (and `url.setPath`) has nothing left to encode. -/
theorem handlerSource_stable {raw esc : Bytes} (hraw : raw ≠ []) (hne : raw ≠ esc) :
    escapeRawPath (fixTrailingSlash (handlerSource raw esc)) = fixTrailingSlash (handlerSource raw esc) := by
  rw [handlerSource_raw hraw hne, fixTrailingSlash_escapeRawPath, escapeRawPath_idempotent]

/-- **The same against the raw request path as the base.** A client that sent the bytes `raw` unescaped (the only way a `RawPath`
    that is not a valid encoding reaches the server) resolves the Location against the URL it used, whose path is `raw`, not
    `escapeRawPath raw`. A relative reference only replaces the last element, so the target is `FixTrailingSlash(raw)` with its
    last element escaped and everything before it as the client wrote it (`Raw.escapeLastElem`); its escaped form is again
    `escapeRawPath (FixTrailingSlash raw)`, and it is `FixTrailingSlash(raw)` itself when the last element needs no escaping. -/
theorem redirectLocation_resolves_rawBase {raw esc q : Bytes} (hraw : raw ≠ []) (hne : raw ≠ esc)
    (hguard : raw = Model.cleanRef raw) (hroot : raw ≠ [SLASH]) (hq : HASH ∉ q) (q0 : Option Bytes) :
    resolve raw q0 (location (handlerSource raw esc) q) =
      { sameOrigin := true, path := escapeLastElem (fixTrailingSlash raw),
        query := if q = [] then none else some q, fragment := none } ∧
    escapeRawPath (escapeLastElem (fixTrailingSlash raw)) = escapeRawPath (fixTrailingSlash raw) := by
  refine ⟨?_, escapeRawPath_escapeLastElem _⟩
  rw [handlerSource_raw hraw hne]
  obtain ⟨st, b, hst, hb, hshape⟩ := shape_of_canonical ((cleanRef_fixed_iff raw).mp hguard) hroot
  have hlast := lastElem_escapeRawPath hb
  rcases hshape with rfl | rfl
  · rw [escapeRawPath_append_slash, resolves_noslash hst hb.noslash hlast hq, fix_noslash hb.noslash hb.ne_nil,
      escapeLastElem_slash hb.noslash]
  · rw [escapeRawPath_concat_slash, escapeRawPath_append_slash, resolves_slash hst hb hlast hq, fix_slash,
      escapeLastElem_noslash hb.noslash hb.ne_nil]

end Fox.C08

/-! ## non-vacuity, the request the raw branch is there for, and the corner cases -/
namespace Fox.C08.RawEx
open Fox Fox.Model.Location Fox.RFC3986 Fox.C08.Raw
open Fox.C08.LocEx (s tgt)

/-- the guard of `ServeHTTP` on the matched string, and "not the root" -/
def passes (raw : Bytes) : Bool := raw = Model.cleanRef raw ∧ raw ≠ [SLASH]

/- `escapeRawPath` -/
#guard escapeRawPath (s "/é/%2E%2E") = s "/%C3%A9/%2E%2E"
#guard escapeRawPath (s "/x/a#b?c") = s "/x/a%23b%3Fc"
#guard escapeRawPath (s "/a<b/%2e%2E/") = s "/a%3Cb/%2e%2E/"
#guard escapeRawPath (s "/a;x=1/b:c@d/~-._!$&'()*+,") = s "/a;x=1/b:c@d/~-._!$&'()*+,"
#guard escapeRawPath (s "/a b/\"[]^`{|}\\") = s "/a%20b/%22%5B%5D%5E%60%7B%7C%7D%5C"
-- malformed escapes (`url.ParseRequestURI` rejects them, so `net/http` never delivers these): the '%' is encoded, never dropped,
-- and a '%' before a '/' does not swallow it
#guard escapeRawPath (s "/a/%") = s "/a/%25" ∧ escapeRawPath (s "/a/%2") = s "/a/%252" ∧ escapeRawPath (s "/a/%zz") = s "/a/%25zz"
#guard escapeRawPath (s "/a%/x") = s "/a%25/x" ∧ escapeRawPath (s "/a%2/x") = s "/a%252/x" ∧ escapeRawPath (s "/%%41") = s "/%25%41"
-- elements made of dots
#guard escapeRawPath (s "/.../....") = s "/.../...." ∧ passes (s "/.../....") ∧ ¬ passes (s "/a/..") ∧ ¬ passes (s "/a/.")
#guard segments (escapeRawPath (s "/é//a#/%/")) = (segments (s "/é//a#/%/")).map escapeRawPath
#guard validEncoded (escapeRawPath (s "/é/%/%zz/a#b")) ∧ ¬ validEncoded (s "/é") ∧ ¬ validEncoded (s "/%zz") ∧ ¬ validEncoded (s "/a#b")

/- 5. GET /é/%2E%2E with a raw 'é' (route `/{a}/{b}/`): `EscapedPath()` re-encodes the decoded path -/
#guard passes (s "/é/%2E%2E")
#guard handlerSource (s "/é/%2E%2E") (s "/%C3%A9/..") = s "/%C3%A9/%2E%2E"
#guard redirectLocation (s "/é/%2E%2E") (s "/%C3%A9/..") [] = s "%2E%2E/"
#guard resolve (s "/%C3%A9/%2E%2E") none (redirectLocation (s "/é/%2E%2E") (s "/%C3%A9/..") []) = tgt "/%C3%A9/%2E%2E/"
#guard resolve (s "/é/%2E%2E") none (redirectLocation (s "/é/%2E%2E") (s "/%C3%A9/..") []) = tgt "/é/%2E%2E/"
-- from `FixTrailingSlash(req.URL.EscapedPath())` the Location would be "../", which leads to "/"
#guard ¬ CleanEscaped (s "/%C3%A9/..")
#guard location (s "/%C3%A9/..") [] = s "../"
#guard resolve (s "/%C3%A9/..") none (location (s "/%C3%A9/..") []) = tgt "/"
#guard resolve (s "/é/%2E%2E") none (location (s "/%C3%A9/..") []) = tgt "/"
-- GET /é/a%2Fb: from `EscapedPath()` "b/" (leads to ".../a%2Fb/b/"), from the raw path "a%2Fb/"
#guard location (s "/%C3%A9/a/b") [] = s "b/"
#guard redirectLocation (s "/é/a%2Fb") (s "/%C3%A9/a/b") [] = s "a%2Fb/"
#guard resolve (s "/é/a%2Fb") none (redirectLocation (s "/é/a%2Fb") (s "/%C3%A9/a/b") []) = tgt "/é/a%2Fb/"

/- a raw '#' (`url.ParseRequestURI` does not split fragments) -/
#guard passes (s "/x/a#b")
#guard handlerSource (s "/x/a#b") (s "/x/a%23b") = s "/x/a%23b"
#guard redirectLocation (s "/x/a#b") (s "/x/a%23b") (s "k=v") = s "a%23b/?k=v"
#guard resolve (s "/x/a%23b") none (redirectLocation (s "/x/a#b") (s "/x/a%23b") (s "k=v")) = tgt "/x/a%23b/" (query := "k=v")

/- remove-slash, an invalid byte in an inner element, mixed-case escapes kept as written -/
#guard passes (s "/a<b/%2e%2E/")
#guard handlerSource (s "/a<b/%2e%2E/") (s "/a%3Cb/../") = s "/a%3Cb/%2e%2E/"
#guard redirectLocation (s "/a<b/%2e%2E/") (s "/a%3Cb/../") [] = s "../%2e%2E"
#guard resolve (s "/a%3Cb/%2e%2E/") none (redirectLocation (s "/a<b/%2e%2E/") (s "/a%3Cb/../") []) = tgt "/a%3Cb/%2e%2E"
#guard resolve (s "/a<b/%2e%2E/") none (redirectLocation (s "/a<b/%2e%2E/") (s "/a%3Cb/../") []) = tgt "/a<b/%2e%2E"
-- from `EscapedPath()`: "../..", which leads to "/"
#guard resolve (s "/a<b/%2e%2E/") none (location (s "/a%3Cb/../") []) = tgt "/"

/- a colon in the last element of the raw path: the "./" of F08 is written in this branch too -/
#guard redirectLocation (s "/é/http:x") (s "/%C3%A9/http:x") [] = s "./http:x/"

/- the other branch: no RawPath, or a valid one -/
#guard handlerSource [] (s "/a/b") = s "/a/b" ∧ handlerSource (s "/a/%2E%2E") (s "/a/%2E%2E") = s "/a/%2E%2E"

/- 4. `FixTrailingSlash` commutes with `escapeRawPath` on every string, the degenerate ones included -/
#guard fixTrailingSlash (escapeRawPath []) = escapeRawPath (fixTrailingSlash []) ∧
  fixTrailingSlash (escapeRawPath (s "/")) = escapeRawPath (fixTrailingSlash (s "/")) ∧
  fixTrailingSlash (escapeRawPath (s "é//")) = escapeRawPath (fixTrailingSlash (s "é//")) ∧
  fixTrailingSlash (escapeRawPath (s "/%")) = escapeRawPath (fixTrailingSlash (s "/%"))

/- against the raw base only the last element is written escaped -/
#guard escapeLastElem (s "/é/a<b/") = s "/é/a%3Cb/" ∧ escapeLastElem (s "/é/a<b") = s "/é/a%3Cb" ∧ escapeLastElem (s "/é/ab") = s "/é/ab"
#guard resolve (s "/é/a<b") none (redirectLocation (s "/é/a<b") (s "/%C3%A9/a%3Cb") []) = tgt "/é/a%3Cb/"

/- Residual observation (outside the statement, not a failure of it): the target is the matched path only *up to the encoding of
   the bytes `escapeRawPath` had to encode in the last element*. The follow-up request for "/é/a%3Cb/" carries no RawPath (it is
   the default encoding of its decoded path), so the router matches the decoded "/é/a<b/", the same string as before plus '/'.
   But when the last element holds both an invalid byte and an encoded reserved byte ("/x/a<b%2Fc"), the follow-up request
   "/x/a%3Cb%2Fc/" keeps a RawPath and the router matches that string: a parameter route captures "a%3Cb%2Fc" where the first
   request captured "a<b%2Fc", and a static route registered as "/x/a<b%2Fc/" is not matched. A Location header cannot carry the
   raw byte, so this is inherent. -/
#guard escapeLastElem (s "/x/a<b%2Fc/") = s "/x/a%3Cb%2Fc/"

/- the guard is needed in the raw branch too: a real ".." in the raw path -/
#guard ¬ passes (s "/é/..")
#guard resolve (s "/%C3%A9/..") none (redirectLocation (s "/é/..") (s "/%C3%A9/../x") []) = tgt "/"

/-- an instance of the theorem: raw = "/é/%2E", esc = "/%C3%A9/." -/
example : resolve (escapeRawPath [47, 195, 169, 47, 37, 50, 69]) none
      (location (handlerSource [47, 195, 169, 47, 37, 50, 69] [47, 37, 67, 51, 37, 65, 57, 47, 46]) []) =
    { sameOrigin := true, path := escapeRawPath (fixTrailingSlash [47, 195, 169, 47, 37, 50, 69]), query := none, fragment := none } :=
  C08.redirectLocation_resolves (by decide) (by decide) (by decide) (by decide) (by decide) none

end Fox.C08.RawEx
