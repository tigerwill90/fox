import FoxModel.Generated.Consts
import FoxModel.Lemmas.Recorder
/-
  Property C14 — ResponseWriter status, size and written flag reflect what was really sent.
  Model: FoxModel/Model/Recorder.lean (response_writer.go `recorder`, context.go String/Blob/Stream/Redirect);
  specification: FoxModel/Spec/Recorder.lean (computed from the ghost log of the underlying writer only).
-/
namespace Fox.C14
open Fox.Recorder

/-- For ANY sequence of calls on the ResponseWriter (WriteHeader incl. 1xx/101/repeated, Write, WriteString, ReadFrom on
    either path, FlushError, Hijack, Push, deadlines, full duplex, String/Blob/Stream/Redirect), any shape of the
    underlying writer and any fault plan: afterwards `Status()` is the first final status that reached the underlying
    writer (200 if none), `Size()` the number of body bytes it accepted, `Written()` holds exactly when a final header
    reached it or a byte was accepted, and the log contains at most one final status and none after a body byte.
    (Every prefix of a call list is a call list, so this holds after every single call.) -/
theorem inv (sh : Shape) (k : Option Nat) (calls : List Call) :
    let s := (run sh (init k) calls).1
    s.Status = Spec.status s.u.log ∧ s.Size = Spec.size s.u.log ∧ s.Written = Spec.written s.u.log ∧
      Spec.wellFormed s.u.log = true := by
  intro s
  obtain ⟨h0, h200, ho, _, _⟩ : Inv s := run_inv sh calls (inv_init k)
  simp only [St.Status, St.Size, St.Written, Spec.status, Spec.size, Spec.written, Spec.wellFormed, ho, summary]
  by_cases hs : s.r.size = -1
  · simp [hs, h200 hs]
  · -- `summary` of a size ≥ 0: one final status, `size.toNat` bytes, no late final
    have hlt : ¬ s.r.size < 0 := by omega
    simp [hs, hlt]
    omega

theorem inv_every_call (sh : Shape) (k : Option Nat) (calls : List Call) (n : Nat) :
    let s := (run sh (init k) (calls.take n)).1
    s.Status = Spec.status s.u.log ∧ s.Size = Spec.size s.u.log ∧ s.Written = Spec.written s.u.log ∧
      Spec.wellFormed s.u.log = true := inv sh k (calls.take n)

theorem readFrom_paths (sh : Shape) {s : St} (cs : List Nat) (e : Bool) (hp : PathCond s) (hi : Inv s) :
    readFrom { sh with rf := true } s cs e = readFrom { sh with rf := false } s cs e :=
  (copyFallback_eq_fast _ rfl cs e hp hi).symm

theorem step_paths (sh : Shape) {s : St} (c : Call) (hp : PathCond s) (hi : Inv s) :
    step { sh with rf := true } s c = step { sh with rf := false } s c := by
  cases c with
  | rf cs e => simp only [step]; rw [readFrom_paths sh cs e hp hi]
  | stream code cs e =>
    have h := (writeHeader_pres code).comp (setCT_pres .stream) s hi
    simp only [step]
    rw [readFrom_paths sh cs e (h.2 hp) h.1]
  | _ => rfl

theorem run_paths (sh : Shape) (cs : List Call) : ∀ {s : St}, PathCond s → Inv s →
    run { sh with rf := true } s cs = run { sh with rf := false } s cs := by
  induction cs with
  | nil => intro s _ _; rfl
  | cons c cs ih =>
    intro s hp hi
    have h := step_pres { sh with rf := false } c s hi
    simp only [run]
    rw [step_paths sh c hp hi, ih (h.2 hp) h.1]

/-- PARTIAL (hypothesis `k ≠ some 0`: the underlying writer accepts at least one body byte).
    With and without `io.ReaderFrom` on the underlying writer, the same calls under the same fault plan give the same
    answers after every call (Status, Written, Size), the same return values (n, error class) and the same events at the
    underlying writer — i.e. the fast path of `recorder.ReadFrom` and the `io.CopyBuffer(onlyWrite{r}, …)` fallback are
    indistinguishable.
    Full statement (no hypothesis) is FALSE for the code as it is, see `paths_differ_when_first_byte_rejected`. -/
theorem paths_agree_partial (sh : Shape) (k : Option Nat) (hk : k ≠ some 0) (calls : List Call) :
    run { sh with rf := true } (init k) calls = run { sh with rf := false } (init k) calls :=
  run_paths sh calls (fun _ => hk) (inv_init k)

/-- why the hypothesis is needed: an underlying writer that rejects the very first byte. The fallback path forwards the
    implicit 200 header before the failing Write (Written() = true), the fast path leaves everything to the underlying
    `ReadFrom`, which sent nothing (Written() = false). Both satisfy `inv` for their own log. -/
theorem paths_differ_when_first_byte_rejected :
    let sh : Shape := { rf := false, fl := false, fe := false, hj := false, pu := false, dl := false, fd := false }
    ((run { sh with rf := true } (init (some 0)) [.rf [5] false]).2.map (·.1.written) = [false]) ∧
    ((run { sh with rf := false } (init (some 0)) [.rf [5] false]).2.map (·.1.written) = [true]) := by
  decide

/-- `http.Flusher` and `FlushError() error` variants of the underlying writer: whichever is offered, FlushError first
    sends the pending header through the recorder's own WriteHeader, so the answers are the same; with neither the call
    fails with ErrNotSupported and changes nothing. -/
theorem flush_paths (sh : Shape) (s : St) :
    (sh.fe = false → sh.fl = false → flushError sh s = (s, Err.notSupported)) ∧
    (sh.fe = true ∨ sh.fl = true →
      (flushError sh s).1.r = (if s.r.size = -1 then (writeHeader s s.r.status).1 else s).r) := by
  constructor
  · intro h1 h2; simp [flushError, h1, h2]
  · intro h
    unfold flushError
    by_cases h1 : sh.fe = true
    · simp [h1]
    · have h2 : sh.fl = true := by simpa [h1] using h
      simp [h1, h2]

/-- Optional capabilities: delegated to the underlying writer when it offers them (the event reaches it, its result is
    returned), otherwise the call returns an error matching http.ErrNotSupported and neither the recorder nor the
    underlying writer changes. -/
theorem capabilities (sh : Shape) (s : St) :
    (step sh s .hj = if sh.hj then
        ({ r := { s.r with hijacked := true }, u := { s.u.emit .hijack with hijacked := true } }, { err := .ok })
      else (s, { err := .notSupported })) ∧
    (step sh s .pu = if sh.pu then ({ s with u := s.u.emit .push }, { err := .ok }) else (s, { err := .notSupported })) ∧
    (step sh s .rd = if sh.dl then ({ s with u := s.u.emit .rdl }, { err := .ok }) else (s, { err := .notSupported })) ∧
    (step sh s .wd = if sh.dl then ({ s with u := s.u.emit .wdl }, { err := .ok }) else (s, { err := .notSupported })) ∧
    (step sh s .fd = if sh.fd then ({ s with u := s.u.emit .fdx }, { err := .ok }) else (s, { err := .notSupported })) ∧
    (sh.fe = false → sh.fl = false → step sh s .fl = (s, { err := .notSupported })) ∧
    (sh.fe = true → (step sh s .fl).1.u.log.getLast? = some .flushE) ∧
    (sh.fe = false → sh.fl = true → (step sh s .fl).1.u.log.getLast? = some .flush ∧ (step sh s .fl).2.err = .ok) := by
  refine ⟨?_, ?_, ?_, ?_, ?_, ?_, ?_, ?_⟩
  · simp only [step, hijack]; split <;> rfl
  · simp only [step, push]; split <;> rfl
  · simp only [step, setReadDeadline]; split <;> rfl
  · simp only [step, setWriteDeadline]; split <;> rfl
  · simp only [step, enableFullDuplex]; split <;> rfl
  · intro h1 h2; simp [step, flushError, h1, h2]
  · intro h1; simp [step, flushError, h1, Under.emit]
  · intro h1 h2; simp [step, flushError, h1, h2, Under.emit]

/-- Context.Redirect succeeds exactly for the codes 300..308 (what the property demands, `Spec.redirectOk`); for any
    other code it returns ErrInvalidRedirectCode and touches nothing. -/
theorem redirect_codes (sh : Shape) (s : St) (code len : Nat) :
    ((step sh s (.redir code len)).2.err = .ok ↔ Spec.redirectOk code = true) ∧
    (Spec.redirectOk code = false → step sh s (.redir code len) = (s, { err := .invalidRedirect })) := by
  by_cases h : code < 300 ∨ code > 308
  · have : Spec.redirectOk code = false := by simp [Spec.redirectOk]; omega
    simp [step, h, this]
  · have h' : Spec.redirectOk code = true := by simp [Spec.redirectOk]; omega
    simp only [step, h, ↓reduceIte, h']
    constructor
    · split <;> simp
    · intro hh; cases hh

/-- Context.String / Context.Blob on a fresh response whose writer does not fail, with a final status code: exactly that
    header, then exactly the given bytes, reach the underlying writer; the content type is the one given (text/plain for
    String); Status() = code, Size() = n. (With an informational code the 1xx header is forwarded and the body goes out
    under the implicit 200 — covered by `inv`.) -/
theorem helpers_fresh (sh : Shape) (code n : Nat) (hc : isFinal code = true) (hn : n > 0) :
    let b := step sh (init none) (.blob code n)
    let t := step sh (init none) (.str code n)
    b.1.u.log = [.hdr code, .body n] ∧ b.1.u.ct = .blob ∧ b.2.err = .ok ∧ b.1.Status = code ∧ b.1.Size = n ∧
    t.1.u.log = [.hdr code, .body n] ∧ t.1.u.ct = .textPlain ∧ t.2.err = .ok ∧ t.1.Status = code ∧ t.1.Size = n := by
  have hcode : ¬ (100 ≤ code ∧ code ≤ 199 ∧ code ≠ 101) := by
    rw [isFinal_eq, Bool.not_eq_true'] at hc
    exact of_decide_eq_false hc
  have hn' : ¬ ((n : Int) < 0) := by omega
  simp [step, init, setCT, writeHeader, write, Under.write, Under.writeHeader, Under.emit, Under.take, accept, hcode, hc,
    hn, St.Status, St.Size, hn']

/-- the sentinel of the Go code is the one the model uses -/
theorem sentinel_tie : Generated.c_notWritten = (init none).r.size := by decide

/-! ### non-vacuity: concrete runs -/

private def plain : Shape := { rf := false, fl := false, fe := false, hj := false, pu := false, dl := false, fd := false }

/-- 103 Early Hints passes through, 404 is recorded, the second WriteHeader is swallowed, the writer fails after 7 bytes -/
example :
    (run { plain with rf := true } (init (some 7)) [.wh 103, .wh 404, .wh 500, .wr 5, .rf [3, 4] false]).2.map
        (fun x => (x.1.status, x.1.written, x.1.size, x.2.n, x.2.err)) =
      [(200, false, 0, none, .ok), (404, true, 0, none, .ok), (404, true, 0, none, .ok), (404, true, 5, some 5, .ok),
       (404, true, 7, some 2, .fault)] := by decide

example :
    (run { plain with rf := true } (init (some 7)) [.wh 103, .wh 404, .wh 500, .wr 5, .rf [3, 4] false]).1.u.log =
      [.hdr 103, .hdr 404, .body 5, .body 2] := by decide

/-- a source that fails after 5 bytes on the fast path (finding F13): Written, Size 5 -/
example :
    (run { plain with rf := true } (init none) [.rf [5] true]).2.map (fun x => (x.1.written, x.1.size, x.2.err)) =
      [(true, 5, .src)] := by decide

/-- an empty successful copy is not "written" on either path -/
example : ((run { plain with rf := true } (init none) [.rf [] false]).2.map (·.1.written) = [false]) ∧
    ((run plain (init none) [.rf [] false]).2.map (·.1.written) = [false]) := by decide

/-- after Hijack, writes fail with ErrHijacked and WriteHeader is dropped -/
example :
    (run { plain with hj := true } (init none) [.hj, .wh 200, .wr 3]).2.map (fun x => (x.1.written, x.2.err)) =
      [(false, .ok), (false, .ok), (false, .hijacked)] := by decide

end Fox.C14
