import FoxModel.Model.Parse
import FoxModel.Spec.Grammar
import FoxModel.Lemmas.Parse
import FoxModel.Lemmas.Parse.Wildcard
/-
  Property C10 — patterns are accepted exactly per the grammar (and every accepted one is routable).

  What is proved here is about `Fox.Model.parseRoute` / `Fox.Model.parseWildcard`, the transition-by-transition
  models of `(*Router).parseRoute` (fox.go) and `parseWildcard` (node.go); the models are tied to the Go code by
  the `parse` stream (exhaustive over an 8-letter alphabet up to length 6 / 7, plus structured random strings).
  The second half of the property (an accepted pattern, registered alone, serves its own instances) is proved in
  Props/C10Routable.lean and also checked by the `routable` stream.
  Helper lemmas: FoxModel/Lemmas/Parse.lean.
-/
namespace Fox.C10
open Fox Fox.Model Fox.Spec

/-- **Registration never panics in the validator**: for every byte string and every pair of limits, none of the
    index expressions of `parseRoute` (`url[i]`, `url[i+1]`, `url[i-1]`, `url[endHost-1]`, `url[len(url)-1]`) is
    evaluated out of range. -/
theorem parse_total (maxParams maxKeyBytes : Nat) (s : Bytes) :
    parseRoute maxParams maxKeyBytes s ≠ .panic :=
  parseRoute_ne_panic maxParams maxKeyBytes s

/-- **`tokenize` is lossless** (every string that reads as tokens is the rendering of these tokens): the token view
    used by all routing theorems describes the registered pattern string exactly. -/
theorem tokenize_render (s : Bytes) (toks : List Tok) (h : tokenize s = some toks) : render toks = s :=
  render_tokenize h

/-- **What an accepted pattern reports**: when `parseRoute` accepts, the string reads as tokens, the returned
    parameter count (`Route.ParamsLen`) is the number of wildcard tokens, and the returned `endHost`
    (`len(Route.Hostname())`) is the index of the first '/'. -/
theorem parse_counts (mp mk : Nat) (s : Bytes) (n e : Nat) (h : parseRoute mp mk s = .ok n e) :
    ∃ toks, tokenize s = some toks ∧ n = (toks.filter isWild).length ∧
      ∃ pre suf, s = pre ++ SLASH :: suf ∧ pre.length = e ∧ SLASH ∉ pre := by
  obtain ⟨he, toks, ht, _, hn⟩ := (parseRoute_ok_iff_valid ⟨mp, mk⟩ s n e).mp h
  exact ⟨toks, ht, hn, indexByte_spec he⟩

/-- **Round trip on accepted patterns**: an accepted pattern tokenizes, renders back to itself, and the rendering
    tokenizes to the same tokens. -/
theorem tokenize_render_accepted (mp mk : Nat) (s : Bytes) (n e : Nat) (h : parseRoute mp mk s = .ok n e) :
    ∃ toks, tokenize s = some toks ∧ render toks = s ∧ tokenize (render toks) = some toks := by
  obtain ⟨toks, ht, _⟩ := parse_counts mp mk s n e h
  have hr := tokenize_render s toks ht
  exact ⟨toks, ht, hr, by rw [hr]; exact ht⟩

/-- name and kind of the wildcards of a token list, in order -/
def wildcardsOf (toks : List Tok) : List (Bytes × Bool) :=
  toks.filterMap fun | .param n => some (n, false) | .catchAll n => some (n, true) | .lit _ => none

theorem wildPositions_keys (off : Nat) (toks : List Tok) :
    (wildPositions off toks).map (fun p => (p.key, p.catchAll)) = wildcardsOf toks := by
  induction toks generalizing off with
  | nil => rfl
  | cons t ts ih => cases t <;> simp [wildPositions, wildcardsOf, ih] <;> exact ih _

/-- **`parseWildcard` (used when nodes are built) agrees with the token view**: on every string that reads as
    tokens it does not panic (its slice expressions are in range) and returns exactly the wildcards of the token
    list, in order, with the byte offset after each closing brace (`-1` for a wildcard that ends the string). -/
theorem parseWildcard_agrees (s : Bytes) (toks : List Tok) (h : tokenize s = some toks) :
    parseWildcard s = some (wildPositions 0 toks) ∧
      ∃ ps, parseWildcard s = some ps ∧ ps.map (fun p => (p.key, p.catchAll)) = wildcardsOf toks := by
  obtain ⟨st', h1, h2⟩ := wLoop_tokens (s := s) h [] {} rfl rfl rfl
  have hp : parseWildcard s = some (wildPositions 0 toks) := by
    simp only [parseWildcard, h1, Option.map_some]
    rw [h2]; simp
  exact ⟨hp, _, hp, wildPositions_keys 0 toks⟩

theorem wildcardsOf_length (toks : List Tok) : (wildcardsOf toks).length = (toks.filter isWild).length := by
  induction toks with
  | nil => rfl
  | cons t ts ih => cases t <;> simp [wildcardsOf, isWild, List.filter_cons] at ih ⊢ <;> exact ih

/-- the same for accepted patterns, stated on `parseRoute` -/
theorem parseWildcard_agrees_accepted (mp mk : Nat) (s : Bytes) (n e : Nat) (h : parseRoute mp mk s = .ok n e) :
    ∃ toks ps, tokenize s = some toks ∧ parseWildcard s = some ps ∧
      ps.map (fun p => (p.key, p.catchAll)) = wildcardsOf toks ∧ ps.length = n := by
  obtain ⟨toks, ht, hn, _⟩ := parse_counts mp mk s n e h
  obtain ⟨_, ps, hp, hk⟩ := parseWildcard_agrees s toks ht
  refine ⟨toks, ps, ht, hp, hk, ?_⟩
  have : ps.length = (wildcardsOf toks).length := by rw [← hk]; simp
  rw [this, hn, wildcardsOf_length]

/-- the grammar's side of `parse_iff`, with the count: a string whose reading is a valid token list is accepted, and
    the count returned is the number of its wildcards -/
theorem parse_ok_count (lim : Limits) (s : Bytes) (toks : List Tok) (ht : tokenize s = some toks)
    (hv : validToks lim toks = true) :
    ∃ e, parseRoute lim.maxParams lim.maxKeyBytes s = .ok (toks.filter isWild).length e := by
  obtain ⟨e, he⟩ := slash_of_valid ht hv
  exact ⟨e, (parseRoute_ok_iff_valid lim s _ e).mpr ⟨he, toks, ht, hv, rfl⟩⟩

/-- **The validator accepts exactly the documented grammar**: for every byte string and all limits,
    `parseRoute` (hence `Router.NewRoute`, `Handle`, `Update`, `Delete`, which all call it) accepts the pattern
    iff `Spec.valid` holds: a leading slash or a valid LDH hostname followed by a slash; `{name}` / `*{name}`
    with non-empty delimiter-free names, at most one per segment / label and only at its end; no catch-all in the
    hostname; no two catch-alls separated by at most one byte; the limits on count and name length. -/
theorem parse_iff (lim : Limits) (s : Bytes) :
    (∃ n e, parseRoute lim.maxParams lim.maxKeyBytes s = .ok n e) ↔ valid lim s = true := by
  constructor
  · rintro ⟨n, e, h⟩
    obtain ⟨_, toks, ht, hv, _⟩ := (parseRoute_ok_iff_valid lim s n e).mp h
    simp only [valid, ht]
    exact hv
  · intro h
    simp only [valid] at h
    cases ht : tokenize s with
    | none => rw [ht] at h; cases h
    | some toks =>
      rw [ht] at h
      obtain ⟨e, he⟩ := parse_ok_count lim s toks ht h
      exact ⟨_, e, he⟩

/-- token lists that are the reading of some string: literals are not '{' / '*', names contain no '}' -/
def wfToks (toks : List Tok) : Bool :=
  toks.all fun
    | .lit b => b != LBR && b != STAR
    | .param n => n.all (· != RBR)
    | .catchAll n => n.all (· != RBR)

theorem takeName_append (n r : Bytes) (h : n.all (· != RBR) = true) : takeName (n ++ RBR :: r) = some (n, r) := by
  induction n with
  | nil => simp [takeName]
  | cons b n ih =>
    simp only [List.all_cons, Bool.and_eq_true, bne_iff_ne, ne_eq] at h
    simp [takeName, h.1, ih h.2]

/-- **the other half of the round trip**: a well-formed token list is the reading of its rendering -/
theorem render_tokenize_wf (toks : List Tok) (h : wfToks toks = true) : tokenize (render toks) = some toks := by
  induction toks with
  | nil => exact tokenize_nil
  | cons t ts ih =>
    simp only [wfToks, List.all_cons, Bool.and_eq_true] at h
    have ih' := ih (by simpa [wfToks] using h.2)
    cases t with
    | lit b =>
      have hb := h.1
      simp only [Bool.and_eq_true, bne_iff_ne, ne_eq] at hb
      have : render (.lit b :: ts) = b :: render ts := by simp [render, Tok.render]
      rw [this, tokenize_lit b _ hb.1 hb.2, ih']; rfl
    | param n =>
      have : render (.param n :: ts) = LBR :: (n ++ RBR :: render ts) := by simp [render, Tok.render]
      rw [this, tokenize_lbr, takeName_append n _ h.1]
      simp [ih']
    | catchAll n =>
      have : render (.catchAll n :: ts) = STAR :: LBR :: (n ++ RBR :: render ts) := by simp [render, Tok.render]
      rw [this, tokenize_star_lbr, takeName_append n _ h.1]
      simp [ih']

/-! ### non-vacuity -/

/-- `a.{b}.c/x/{y}/*{z}` -/
def ex1 : List Tok :=
  [.lit 97, .lit 46, .param [98], .lit 46, .lit 99, .lit 47, .lit 120, .lit 47, .param [121], .lit 47, .catchAll [122]]

theorem ex1_tokenize : tokenize (render ex1) = some ex1 := render_tokenize_wf ex1 (by decide)

/-- a pattern with a hostname (`a.{b}.c`), a hostname parameter, a path parameter and a catch-all is accepted, with 3
    wildcards (the returned hostname length is left open here; `parse_counts` says what it is) -/
example : ∃ e, parseRoute 65535 65535 (render ex1) = .ok 3 e :=
  parse_ok_count ⟨65535, 65535⟩ (render ex1) ex1 ex1_tokenize (by decide)

example : valid ⟨65535, 65535⟩ (render ex1) = true := by
  simp only [valid, ex1_tokenize]; decide

/-- `/*{a}/*{b}` (consecutive catch-alls) is rejected -/
example : ¬ ∃ n e, parseRoute 65535 65535
    (render [.lit 47, .catchAll [97], .lit 47, .catchAll [98]]) = .ok n e := by
  rw [parse_iff ⟨65535, 65535⟩]
  have : tokenize (render [.lit 47, .catchAll [97], .lit 47, .catchAll [98]]) =
      some [.lit 47, .catchAll [97], .lit 47, .catchAll [98]] := render_tokenize_wf _ (by decide)
  simp only [valid, this]; decide

/-- with `WithMaxRouteParams(2)` the first example is rejected (3 wildcards) -/
example : ¬ ∃ n e, parseRoute 2 65535 (render ex1) = .ok n e := by
  rw [parse_iff ⟨2, 65535⟩]
  simp only [valid, ex1_tokenize]; decide

end Fox.C10
