import FoxModel.Lemmas.ServeSpec
import FoxModel.Lemmas.SpecAlg
import FoxModel.Props.C01Map
import FoxModel.Props.C08
import FoxModel.Props.C11
/-
  Properties C08 and C11 end to end, on the *sequential map*: on every reachable state the model of `ServeHTTP`
  (`Model.serve`, fox.go) takes the decision that the specification `Spec.serve` takes on the routes held by the
  sequential map `Spec.Store` of property C02.

  Composition of
    * `Fox.C01.lookup_eq_route_of_sim`  (the matcher on the radix tree = `Spec.route` on the map's routes, per method),
    * `Fox.C02.C02_refines` / `C02_methods` (the tree refines the map; a root has children iff its method has routes),
    * `Fox.ServeSpec.Rel.serve`         (the dispatch and the Allow loops of `Model.serve` against `Spec.serve`).

  Two things make the statement weaker than "model = specification", and both are stated exactly:

    * finding F17 (tag "allow-connect-tsr"): the Allow loops accept a trailing-slash match on an ignore-trailing-slash
      route also for the probe method CONNECT, which dispatch never serves. With the tag the code lists *more* methods
      (`serve_allow_superset`), and may answer OPTIONS / 405 where the specification says 404 (`serve_kind_f17`,
      example `Ex.onlyConn` below). Without the tag: same kind, same set of allowed methods. `f17_tag_iff` says exactly
      when the tag appears, in terms of `Spec.route` on the map's CONNECT routes.
    * the hypothesis `hroot : urlPath = "/" → path = "/"`. `path` is the string handed to the matcher (RawPath if set),
      `urlPath` is URL.Path; the dispatch guard `r.URL.Path != "/"` of ServeHTTP is on `urlPath` but the Allow loops do
      not repeat it, so for a (hand-made) request with URL.Path = "/" and RawPath = "/foo" the loops list the methods
      with an ignore-trailing-slash route `/foo/` although dispatch refuses them - the second leg of F17, which the model
      does *not* tag. For a request line in origin form parsed by net/http, URL.Path = "/" means the target was "/" and
      RawPath is empty, so the hypothesis holds (it can only fail for a hand-built `*http.Request`); the driver stream
      uses `path = urlPath`. Example `Ex.onlyGet` shows it cannot be dropped. It is needed for the Allow /
      kind part only: `C08_on_the_sequential_map`, `C08_acts_iff_dispatched` and `f17_tag_iff` do not assume it.
-/
namespace Fox.C08
open Fox Fox.Model Fox.Spec Fox.C02 Fox.C01 Fox.ServeSpec

/-! ### the methods of the sequential map -/

/-- the methods that have at least one entry in the sequential map, in order of first registration (this is the list the
    driver hands to `Spec.serve`) -/
def storeMethods (s : Store) : List Bytes := (s.map (·.1)).eraseDups

theorem mem_storeMethods (s : Store) (x : Bytes) : x ∈ storeMethods s ↔ s.routesOf x ≠ [] := by
  unfold storeMethods Store.routesOf
  rw [List.mem_eraseDups, List.mem_map, ne_eq, List.map_eq_nil_iff, List.filter_eq_nil_iff]
  constructor
  · rintro ⟨e, he, rfl⟩ h
    exact h e he (beq_self_eq_true _)
  · intro h
    refine Classical.byContradiction fun hn => h fun e he hx => hn ⟨e, he, beq_iff_eq.1 hx⟩

/-- `Tree.methods` (the roots with children, in root order) has the same members -/
theorem mem_treeMethods {t : Tree} {s : Store} (h : Sim t s) (x : Bytes) : x ∈ t.methods ↔ x ∈ storeMethods s := by
  rw [C02_methods h, mem_storeMethods]

theorem mem_treeMethods_iff (t : Tree) (x : Bytes) :
    x ∈ t.methods ↔ ∃ n, (x, n) ∈ t.roots ∧ n.children.isEmpty = false := by
  simp only [Tree.methods, List.mem_map, List.mem_filter, Bool.not_eq_true', Prod.exists, exists_and_right,
    exists_eq_right]

/-! ### from the simulation to the abstract hypotheses -/

/-- a tree and a map related by the C02 simulation (map with the two routing invariants) satisfy the hypotheses of the
    serving refinement, for every list `methods` that has as members exactly the methods with routes -/
theorem rel_of_sim {t : Tree} {s : Store} (h : Sim t s) (hc : NoConflict s) (hsp : SplitOk s)
    {methods : List Bytes} (hM : ∀ x, x ∈ methods ↔ s.routesOf x ≠ [])
    (hostPort path : Bytes) (hn : noDbl path = true) (hs : SLASH ∉ stripHostPort hostPort) :
    Rel t.roots methods (fun x => s.routesOf x) hostPort path where
  look := fun x => lookup_eq_route_of_sim h hc hsp x hostPort path hn hs
  meth := fun x => by rw [hM, ← C02_methods h, mem_treeMethods_iff]

theorem sim_of_history (ops : List Op) (hv : ∀ op ∈ ops, op.valid = true) (hu : ∀ op ∈ ops, updSplitOk op = true) :
    Sim (runModel newTree ops).1 (runSpec [] ops).1 ∧ NoConflict (runSpec [] ops).1 ∧ SplitOk (runSpec [] ops).1 :=
  ⟨(C02_refines ops hv).1, store_noConflict ops (fun op hop => opSplitOk_of (hv op hop) (hu op hop))⟩

/-! ### end to end -/

section
variable (ops : List Op) (hv : ∀ op ∈ ops, op.valid = true) (hu : ∀ op ∈ ops, updSplitOk op = true)
variable (cfg : Cfg) (m hostPort path urlPath : Bytes)
variable (hn : noDbl path = true) (hs : SLASH ∉ stripHostPort hostPort)

/-- the outcome of the model of ServeHTTP on the tree reached by the history -/
abbrev modelOutcome : Model.Outcome := Model.serve cfg (runModel newTree ops).1.roots m hostPort path urlPath

/-- the answer of the specification on the sequential map reached by the history; `methods` = `storeMethods`, the
    methods with at least one entry in the map in order of first registration -/
abbrev specAnswer : Served :=
  Spec.serve cfg (storeMethods (runSpec [] ops).1) (fun x => (runSpec [] ops).1.routesOf x) m hostPort path urlPath

include hv hu hn hs

/-- the reached tree and the reached map, with `storeMethods`, satisfy the hypotheses of the serving refinement -/
theorem rel_of_history :
    Rel (runModel newTree ops).1.roots (storeMethods (runSpec [] ops).1) (fun x => (runSpec [] ops).1.routesOf x)
      hostPort path := by
  obtain ⟨h, hc, hsp⟩ := sim_of_history ops hv hu
  exact rel_of_sim h hc hsp (mem_storeMethods _) hostPort path hn hs

/-- **C08 / C11 end to end, on the sequential map.** After *any* history of Handle / Update / Delete / Truncate (same
    hypotheses as `routing_correct_on_the_sequential_map`), for every router configuration, method, Host without '/',
    matcher path without empty segment, and `urlPath` (URL.Path) that is "/" only if the matcher path is "/":

    the model of `ServeHTTP` on the radix tree and the specification `Spec.serve` on the sequential map - with `methods`
    the methods that have at least one entry in the map (`storeMethods`: `(s.map (·.1)).eraseDups`; `Tree.methods`, the
    roots with children in root order, has the same members by `C02_methods`, see `serve_refines_spec_treeMethods`) -
    give the same serving route, the same parameters and the same redirect code; and if the outcome does not carry the
    F17 tag "allow-connect-tsr", the same kind of answer and the same *set* of methods in `Allow`
    (the code writes them in root order, the specification's list is `eraseDups` of the map order). -/
theorem serve_refines_spec (hroot : urlPath = [SLASH] → path = [SLASH]) :
    (modelOutcome ops cfg m hostPort path urlPath).route = (specAnswer ops cfg m hostPort path urlPath).route ∧
    (modelOutcome ops cfg m hostPort path urlPath).params = (specAnswer ops cfg m hostPort path urlPath).params ∧
    (modelOutcome ops cfg m hostPort path urlPath).code = (specAnswer ops cfg m hostPort path urlPath).code ∧
    ("allow-connect-tsr" ∉ (modelOutcome ops cfg m hostPort path urlPath).tags →
      (modelOutcome ops cfg m hostPort path urlPath).kind = (specAnswer ops cfg m hostPort path urlPath).kind ∧
      ∀ x, x ∈ (modelOutcome ops cfg m hostPort path urlPath).allow ↔
           x ∈ (specAnswer ops cfg m hostPort path urlPath).allow) := by
  have := (rel_of_history ops hv hu hostPort path hn hs).serve hroot cfg m
  exact ⟨this.route, this.params, this.code, this.exact⟩

/-- the same with `methods := Tree.methods` of the reached tree (the roots that have children, in root order - the order
    in which the code writes the Allow header) -/
theorem serve_refines_spec_treeMethods (hroot : urlPath = [SLASH] → path = [SLASH]) :
    let o := modelOutcome ops cfg m hostPort path urlPath
    let sp := Spec.serve cfg (runModel newTree ops).1.methods (fun x => (runSpec [] ops).1.routesOf x) m hostPort path urlPath
    o.route = sp.route ∧ o.params = sp.params ∧ o.code = sp.code ∧
    ("allow-connect-tsr" ∉ o.tags → o.kind = sp.kind ∧ ∀ x, x ∈ o.allow ↔ x ∈ sp.allow) := by
  obtain ⟨h, hc, hsp⟩ := sim_of_history ops hv hu
  have := (rel_of_sim h hc hsp (C02_methods h) hostPort path hn hs).serve hroot cfg m
  exact ⟨this.route, this.params, this.code, this.exact⟩

/-- **The code may only list more methods.** In every case (F17 or not) each method the specification allows is in the
    `Allow` list the code writes. -/
theorem serve_allow_superset (hroot : urlPath = [SLASH] → path = [SLASH]) :
    ∀ x, x ∈ (specAnswer ops cfg m hostPort path urlPath).allow →
         x ∈ (modelOutcome ops cfg m hostPort path urlPath).allow :=
  ((rel_of_history ops hv hu hostPort path hn hs).serve hroot cfg m).sub

/-- **The kind of answer, F17 included.** The kinds agree, except that when the only methods the Allow loops find are
    F17 hits (CONNECT with a trailing-slash match on an ignore-trailing-slash route) the code answers with the OPTIONS /
    405 handler where the specification says 404 - and then the tag is present. -/
theorem serve_kind_f17 (hroot : urlPath = [SLASH] → path = [SLASH]) :
    (modelOutcome ops cfg m hostPort path urlPath).kind = (specAnswer ops cfg m hostPort path urlPath).kind ∨
    ((specAnswer ops cfg m hostPort path urlPath).kind = .noRoute ∧
     ((modelOutcome ops cfg m hostPort path urlPath).kind = .options ∨
      (modelOutcome ops cfg m hostPort path urlPath).kind = .noMethod) ∧
     "allow-connect-tsr" ∈ (modelOutcome ops cfg m hostPort path urlPath).tags) :=
  ((rel_of_history ops hv hu hostPort path hn hs).serve hroot cfg m).kind

/-- hence serving by a route and redirecting are decided exactly as specified, tag or not -/
theorem serve_dispatch_kind (hroot : urlPath = [SLASH] → path = [SLASH]) :
    ((modelOutcome ops cfg m hostPort path urlPath).kind = .route ↔
      (specAnswer ops cfg m hostPort path urlPath).kind = .route) ∧
    ((modelOutcome ops cfg m hostPort path urlPath).kind = .redirect ↔
      (specAnswer ops cfg m hostPort path urlPath).kind = .redirect) ∧
    (modelOutcome ops cfg m hostPort path urlPath).kind ≠ .bad :=
  ((rel_of_history ops hv hu hostPort path hn hs).serve hroot cfg m).dispatch_kind (spec_serve_kind_ne_bad _ _ _ _ _ _ _)

/-- **Exactly when F17 shows** (the complement of `C11.loose_vs_strict`, on the sequential map): the outcome carries the
    tag "allow-connect-tsr" iff the request is unmatched (the specification's dispatch does not act for the request's
    method), `Spec.route` on the routes the map holds for CONNECT matches the host and path only by adjusting a trailing
    slash, on a route that ignores trailing slashes, and an Allow loop that probes CONNECT runs: the OPTIONS loop for a
    target other than "*", or the 405 loop of a request whose method is not CONNECT. -/
theorem f17_tag_iff :
    "allow-connect-tsr" ∈ (modelOutcome ops cfg m hostPort path urlPath).tags ↔
      dispatched ((runSpec [] ops).1.routesOf m) m hostPort path urlPath = false ∧
      (∃ r ps, Spec.route ((runSpec [] ops).1.routesOf CONNECT) hostPort path = some ⟨r, ps, true⟩ ∧ r.ignoreTS = true) ∧
      (if m = OPTIONS ∧ cfg.autoOptions = true then path ≠ [STAR] else cfg.noMethod = true ∧ m ≠ CONNECT) :=
  (rel_of_history ops hv hu hostPort path hn hs).serve_tag cfg m

/-! ### property C08 in terms of `Spec.route` on the sequential map -/

/-- "unmatched": no route handler runs and no redirect is sent - the request goes to the automatic OPTIONS, the 405 or
    the 404 handler, which see neither a route nor parameters -/
def Unmatched (o : Model.Outcome) : Prop :=
  (o.kind = .options ∨ o.kind = .noMethod ∨ o.kind = .noRoute) ∧ o.route = none ∧ o.params = []

/-- **C08 on the sequential map.** After any history, let `Spec.route` on the routes the sequential map holds for the
    request's method answer the request. A direct match is served by that route with its parameters. A match obtained
    by adding or removing a trailing slash (`tsr`): if the request is not CONNECT and URL.Path is not "/", then - if that
    route ignores trailing slashes the request is served by it (with the parameters of the adjusted match); else if it
    redirects trailing slashes and the path is already clean, the answer is a redirect, 301 for GET and 308 otherwise;
    otherwise, and always for CONNECT and for "/", the request is unmatched. No match: unmatched.
    (No hypothesis relating `urlPath` and `path` is needed here.) -/
theorem C08_on_the_sequential_map :
    match Spec.route ((runSpec [] ops).1.routesOf m) hostPort path with
    | some ⟨r, ps, false⟩ =>
      (modelOutcome ops cfg m hostPort path urlPath).kind = .route ∧
        (modelOutcome ops cfg m hostPort path urlPath).route = some r ∧
        (modelOutcome ops cfg m hostPort path urlPath).params = ps
    | some ⟨r, ps, true⟩ =>
      if m ≠ CONNECT ∧ urlPath ≠ [SLASH] then
        if r.ignoreTS = true then
          (modelOutcome ops cfg m hostPort path urlPath).kind = .route ∧
            (modelOutcome ops cfg m hostPort path urlPath).route = some r ∧
            (modelOutcome ops cfg m hostPort path urlPath).params = ps
        else if r.redirectTS = true ∧ path = cleanRef path then
          (modelOutcome ops cfg m hostPort path urlPath).kind = .redirect ∧
            (modelOutcome ops cfg m hostPort path urlPath).route = some r ∧
            (modelOutcome ops cfg m hostPort path urlPath).code = (if m = GET then 301 else 308)
        else Unmatched (modelOutcome ops cfg m hostPort path urlPath)
      else Unmatched (modelOutcome ops cfg m hostPort path urlPath)
    | none => Unmatched (modelOutcome ops cfg m hostPort path urlPath) := by
  have hl := routing_correct_on_the_sequential_map ops hv hu m hostPort path hn hs
  have hsp : ∀ ts, Unmatched { special cfg (runModel newTree ops).1.roots m hostPort path with tags := ts } :=
    fun _ => C11.special_unmatched ..
  unfold modelOutcome
  -- one branch of `Model.serve` / `onTsr` per case of the statement
  generalize Spec.route ((runSpec [] ops).1.routesOf m) hostPort path = ro at hl ⊢
  cases ro with
  | none => rw [serve_none hl]; exact hsp _
  | some f =>
    obtain ⟨r, ps, tsr⟩ := f
    cases tsr with
    | false => rw [serve_direct hl]; exact ⟨rfl, rfl, rfl⟩
    | true =>
      rw [serve_tsr hl]
      dsimp only
      by_cases hg : m ≠ CONNECT ∧ urlPath ≠ [SLASH]
      · rw [if_pos hg]
        by_cases hi : r.ignoreTS = true
        · rw [if_pos hi, onTsr_ignore hg hi]
          exact ⟨rfl, rfl, rfl⟩
        · rw [if_neg hi]
          by_cases hr : r.redirectTS = true ∧ path = cleanRef path
          · rw [if_pos hr, onTsr_redirect hg hi hr]
            exact ⟨rfl, rfl, redirectCode_eq m⟩
          · rw [if_neg hr, onTsr_unserved hg hi hr]
            exact hsp _
      · rw [if_neg hg, onTsr_guarded hg]
        exact hsp _

/-- C08, the converse reading: a route handler runs or a redirect is sent only in the cases above, i.e. exactly when the
    specification's dispatch acts (`ServeSpec.dispatched` on the map's routes for the method) -/
theorem C08_acts_iff_dispatched :
    ((modelOutcome ops cfg m hostPort path urlPath).kind = .route ∨
     (modelOutcome ops cfg m hostPort path urlPath).kind = .redirect) ↔
    dispatched ((runSpec [] ops).1.routesOf m) m hostPort path urlPath = true :=
  (rel_of_history ops hv hu hostPort path hn hs).acts_iff

/-! ### property C11 in terms of `Spec.route` on the sequential map -/

/-- method `x` has a route in the map that serves (host, path): `Spec.route` on the routes the map holds for `x` matches
    directly, or by adjusting a trailing slash on a route that ignores it (never for CONNECT, never for the root path) -/
abbrev servesOn (s : Store) (x hostPort path urlPath : Bytes) : Prop :=
  Spec.serves (s.routesOf x) x hostPort path urlPath = true

/-- **C11 on the sequential map: the automatic OPTIONS answer.** If the request ends in the OPTIONS handler (and no F17
    hit is recorded), it is an OPTIONS request with automatic replies on, and `Allow` lists exactly: OPTIONS, and - for the
    target "*" - every other method that has at least one route in the map; for any other target every method that has
    a route in the map serving that host and path, directly or by ignoring a trailing slash. -/
theorem C11_options_on_the_sequential_map (hroot : urlPath = [SLASH] → path = [SLASH])
    (hF : "allow-connect-tsr" ∉ (modelOutcome ops cfg m hostPort path urlPath).tags)
    (hk : (modelOutcome ops cfg m hostPort path urlPath).kind = .options) :
    m = OPTIONS ∧ cfg.autoOptions = true ∧
    ∀ x, x ∈ (modelOutcome ops cfg m hostPort path urlPath).allow ↔
      x = OPTIONS ∨ (if path = [STAR] then x ≠ OPTIONS ∧ (runSpec [] ops).1.routesOf x ≠ []
                     else servesOn (runSpec [] ops).1 x hostPort path urlPath) := by
  obtain ⟨hkind, hallow⟩ := ((rel_of_history ops hv hu hostPort path hn hs).serve hroot cfg m).exact hF
  obtain ⟨h1, h2, h3⟩ := spec_serve_options (mem_storeMethods _) (hkind.symm.trans hk)
  exact ⟨h1, h2, fun x => (hallow x).trans (h3 x)⟩

/-- **C11 on the sequential map: the 405 answer.** If the request ends in the no-method handler (and no F17 hit is
    recorded), method-not-allowed is on, the request is not an automatic-OPTIONS one, and `Allow` lists exactly the
    *other* methods that have a route in the map serving that host and path (directly or by ignoring a trailing slash),
    plus OPTIONS when automatic replies are on. -/
theorem C11_noMethod_on_the_sequential_map (hroot : urlPath = [SLASH] → path = [SLASH])
    (hF : "allow-connect-tsr" ∉ (modelOutcome ops cfg m hostPort path urlPath).tags)
    (hk : (modelOutcome ops cfg m hostPort path urlPath).kind = .noMethod) :
    ¬(m = OPTIONS ∧ cfg.autoOptions = true) ∧ cfg.noMethod = true ∧
    ∀ x, x ∈ (modelOutcome ops cfg m hostPort path urlPath).allow ↔
      (x ≠ m ∧ servesOn (runSpec [] ops).1 x hostPort path urlPath) ∨ (cfg.autoOptions = true ∧ x = OPTIONS) := by
  obtain ⟨hkind, hallow⟩ := ((rel_of_history ops hv hu hostPort path hn hs).serve hroot cfg m).exact hF
  obtain ⟨h1, h2, h3⟩ := spec_serve_noMethod (mem_storeMethods _) (hkind.symm.trans hk)
  exact ⟨h1, h2, fun x => (hallow x).trans (h3 x)⟩

/-- **C11 on the sequential map: which handler answers an unmatched request** (no F17 hit recorded). The OPTIONS
    handler exactly for OPTIONS requests with automatic replies on when some method is listed; the no-method handler
    exactly when method-not-allowed is on, the request is not an automatic-OPTIONS one and some other method serves the
    host and path; in every other case the no-route handler. -/
theorem C11_handler_on_the_sequential_map (hroot : urlPath = [SLASH] → path = [SLASH])
    (hF : "allow-connect-tsr" ∉ (modelOutcome ops cfg m hostPort path urlPath).tags)
    (hd : dispatched ((runSpec [] ops).1.routesOf m) m hostPort path urlPath = false) :
    ((modelOutcome ops cfg m hostPort path urlPath).kind = .options ↔
      m = OPTIONS ∧ cfg.autoOptions = true ∧
        ∃ x, if path = [STAR] then x ≠ OPTIONS ∧ (runSpec [] ops).1.routesOf x ≠ []
             else servesOn (runSpec [] ops).1 x hostPort path urlPath) ∧
    ((modelOutcome ops cfg m hostPort path urlPath).kind = .noMethod ↔
      ¬(m = OPTIONS ∧ cfg.autoOptions = true) ∧ cfg.noMethod = true ∧
        ∃ x, x ≠ m ∧ servesOn (runSpec [] ops).1 x hostPort path urlPath) ∧
    ((modelOutcome ops cfg m hostPort path urlPath).kind = .options ∨
     (modelOutcome ops cfg m hostPort path urlPath).kind = .noMethod ∨
     (modelOutcome ops cfg m hostPort path urlPath).kind = .noRoute) := by
  rw [(((rel_of_history ops hv hu hostPort path hn hs).serve hroot cfg m).exact hF).1, spec_serve_undispatched hd]
  exact ⟨specSpecial_options_iff (mem_storeMethods _), specSpecial_noMethod_iff (mem_storeMethods _),
    specSpecial_kind ..⟩

end

/-! ### non-vacuity: both sides evaluated on a concrete history -/

namespace Ex

def foo : Bytes := [47, 102, 111, 111]            -- "/foo"
def fooS : Bytes := [47, 102, 111, 111, 47]       -- "/foo/"
def host : Bytes := [104]                         -- "h"
def PUTm : Bytes := PUT

def pFoo : List Tok := [.lit 47, .lit 102, .lit 111, .lit 111]
def pFooS : List Tok := pFoo ++ [.lit 47]

def rGet : Route := { hid := 1, pattern := pFooS, ignoreTS := true }     -- GET  /foo/  ignoring trailing slashes
def rPost : Route := { hid := 2, pattern := pFoo }                        -- POST /foo
def rConn : Route := { hid := 3, pattern := pFooS, ignoreTS := true }    -- CONNECT /foo/ ignoring trailing slashes

def hist : List Op := [.handle GET rGet, .handle POST rPost, .handle CONNECT rConn]
def both : Cfg := { noMethod := true, autoOptions := true }

/-- the hypotheses of the theorems hold for the history and the requests below -/
example : (∀ op ∈ hist, op.valid = true) ∧ (∀ op ∈ hist, updSplitOk op = true) := by decide
example : noDbl foo = true ∧ noDbl fooS = true ∧ noDbl [STAR] = true ∧ SLASH ∉ stripHostPort host := by decide

def M (cfg : Cfg) (ops : List Op) (m path urlPath : Bytes) : Model.Outcome := modelOutcome ops cfg m host path urlPath
def S (cfg : Cfg) (ops : List Op) (m path urlPath : Bytes) : Served := specAnswer ops cfg m host path urlPath

-- the map holds the three methods, in registration order; the tree lists them in root order
#guard storeMethods (runSpec [] hist).1 == [GET, POST, CONNECT]
#guard (runModel newTree hist).1.methods == [GET, POST, CONNECT]

-- GET /foo : served by GET /foo/ through its ignored trailing slash, on both sides
#guard (M both hist GET foo foo).kind == .route && (M both hist GET foo foo).route == some rGet
#guard (S both hist GET foo foo).kind == .route && (S both hist GET foo foo).route == some rGet

-- POST /foo/ : POST /foo neither ignores nor redirects: unmatched, 405 listing GET and CONNECT (direct matches)
#guard (M both hist POST fooS fooS).kind == .noMethod && (M both hist POST fooS fooS).allow == [GET, CONNECT, OPTIONS]
#guard (M both hist POST fooS fooS).tags == ["tsr-unserved"]
#guard (S both hist POST fooS fooS).kind == .noMethod && (S both hist POST fooS fooS).allow == [GET, CONNECT, OPTIONS]

-- PUT /foo/ (no PUT route): 405 with the same Allow on both sides, no F17 hit
#guard (M both hist PUTm fooS fooS).kind == .noMethod && (M both hist PUTm fooS fooS).allow == [GET, CONNECT, OPTIONS]
#guard (S both hist PUTm fooS fooS).kind == .noMethod && (S both hist PUTm fooS fooS).allow == [GET, CONNECT, OPTIONS]

-- OPTIONS * : every method with routes
#guard (M both hist OPTIONS [STAR] [STAR]).allow == [GET, POST, CONNECT, OPTIONS]
#guard (S both hist OPTIONS [STAR] [STAR]).allow == [GET, POST, CONNECT, OPTIONS]

-- **F17**: OPTIONS /foo. The Allow loop accepts CONNECT (trailing-slash match on an ignoring route), dispatch would not
-- serve CONNECT /foo: the tag is present and the lists differ by exactly CONNECT
#guard (M both hist OPTIONS foo foo).kind == .options && (M both hist OPTIONS foo foo).allow == [GET, POST, CONNECT, OPTIONS]
#guard (M both hist OPTIONS foo foo).tags == ["allow-connect-tsr"]
#guard (S both hist OPTIONS foo foo).kind == .options && (S both hist OPTIONS foo foo).allow == [GET, POST, OPTIONS]
-- and indeed CONNECT /foo is unmatched (405 listing GET and POST)
#guard (M both hist CONNECT foo foo).kind == .noMethod && (M both hist CONNECT foo foo).allow == [GET, POST, OPTIONS]
#guard (M both hist CONNECT foo foo).tags == ["tsr-guarded"]
#guard (S both hist CONNECT foo foo).kind == .noMethod && (S both hist CONNECT foo foo).allow == [GET, POST, OPTIONS]

/-- **F17 can change the kind of answer**: with CONNECT /foo/ (ignoring trailing slashes) as the only route,
    OPTIONS /foo is answered by the OPTIONS handler with "Allow: CONNECT, OPTIONS" where the specification says 404 -
    which is why `serve_refines_spec` states the equality of kinds under the no-tag hypothesis and `serve_kind_f17`
    states the general case. -/
def onlyConn : List Op := [.handle CONNECT rConn]
#guard (M both onlyConn OPTIONS foo foo).kind == .options && (M both onlyConn OPTIONS foo foo).allow == [CONNECT, OPTIONS]
#guard (M both onlyConn OPTIONS foo foo).tags == ["allow-connect-tsr"]
#guard (S both onlyConn OPTIONS foo foo).kind == .noRoute

/-- **the hypothesis `urlPath = "/" → path = "/"` cannot be dropped**: with GET /foo/ (ignoring
    trailing slashes) as the only route, a request whose matcher path (RawPath) is "/foo" but whose URL.Path is "/" is
    not served by dispatch (guard `URL.Path != "/"`), yet the Allow loop of OPTIONS lists GET - and the model records no
    F17 tag for it (the tag only marks the CONNECT leg). -/
def onlyGet : List Op := [.handle GET rGet]
#guard (M both onlyGet OPTIONS foo [SLASH]).kind == .options && (M both onlyGet OPTIONS foo [SLASH]).allow == [GET, OPTIONS]
#guard (M both onlyGet OPTIONS foo [SLASH]).tags == []
#guard (S both onlyGet OPTIONS foo [SLASH]).kind == .noRoute
#guard (M both onlyGet GET foo [SLASH]).kind == .noRoute && (M both onlyGet GET foo [SLASH]).tags == ["tsr-guarded"]

end Ex

end Fox.C08
