import FoxModel.Lemmas.TsrRemove
import FoxModel.Props.C01
import FoxModel.Model.Serve
import FoxModel.Props.C11
/-
  Property C08 — trailing-slash actions happen exactly when a slash-adjusted route exists.

  Routing part (which candidate `lookupByPath` reports): theorems over the model of the matcher, refined to the
  specification enumeration `specAll` (Props/C01); here the remove-the-slash direction, both directions together are
  `Model.pathStage_eq_spec` / `hostStage_eq_spec`. Dispatch part (what ServeHTTP does with a candidate): theorems over
  the model `Fox.Model.serve` of fox.go's ServeHTTP.
-/
namespace Fox.C08
open Fox Fox.Model Fox.Spec

/-- a trailing-slash candidate is reported only if no registered route below the node matches the path directly -/
theorem tsr_only_if_no_direct {c : Node} (h : wfNode c = true) (path : Bytes) (r : Route) (ps : Binds)
    (hres : pick (pathEvents c path []) = .found r ps true) :
    specAll (sufsNode c) path [] = [] :=
  C01.path_tsr_only_if_no_direct h path r ps hres

/-- **Remove-slash direction, exactly.** For a path `q ++ "/"` that no route below the node matches directly, the
    answer of `lookupByPath` is the best direct match of `q` (highest priority, with the parameters of that match) flagged
    as a trailing-slash match, and it is "no match" exactly when `q` has no direct match either. In particular routes
    that match neither `q ++ "/"` nor `q` cannot influence the outcome. -/
theorem tsr_remove_exact {c : Node} (h : wfNode c = true) (q : Bytes)
    (hX : specAll (sufsNode c) (q ++ [SLASH]) [] = []) :
    pick (pathEvents c (q ++ [SLASH]) []) =
      (match specAll (sufsNode c) q [] with
       | (r, ps) :: _ => Result.found r ps true
       | [] => Result.none) := by
  rw [pathLookup_refines h, hX]
  exact pathLookup_tsr_remove h q hX

/-- the root path "/" never yields a trailing-slash candidate -/
theorem root_path_no_tsr {c : Node} (h : wfNode c = true) (r : Route) (ps : Binds) :
    pick (pathEvents c [SLASH] []) ≠ .found r ps true := by
  intro hres
  have hX := tsr_only_if_no_direct h [SLASH] r ps hres
  have := tsr_remove_exact h [] (by simpa using hX)
  simp only [List.nil_append] at this
  rw [this] at hres
  have hk : specAll (sufsNode c) [] [] = [] := by
    obtain ⟨t, k', _, hh⟩ := wfNode_head h
    exact specAll_head_nil hh []
  rw [hk] at hres
  cases hres

/-! ### dispatch (fox.go ServeHTTP) -/

/-- the OPTIONS / 405 / 404 part never serves a route nor redirects -/
theorem special_kind (cfg : Cfg) (rs : Roots) (m host path : Bytes) :
    (special cfg rs m host path).kind = .options ∨ (special cfg rs m host path).kind = .noMethod ∨
    (special cfg rs m host path).kind = .noRoute :=
  (C11.special_unmatched cfg rs m host path).1

section
variable {cfg : Cfg} {rs : Roots} {m host path urlPath : Bytes} {r : Route} {ps : Binds}

theorem serve_none (hl : lookup rs m host path = .none) :
    Model.serve cfg rs m host path urlPath = special cfg rs m host path := by
  unfold Model.serve; rw [hl]

theorem serve_direct (hl : lookup rs m host path = .found r ps false) :
    Model.serve cfg rs m host path urlPath = { kind := .route, route := some r, params := ps, tags := ["direct"] } := by
  unfold Model.serve; rw [hl]

theorem serve_tsr (hl : lookup rs m host path = .found r ps true) :
    Model.serve cfg rs m host path urlPath = onTsr cfg rs m host path urlPath r ps := by
  unfold Model.serve; rw [hl]

theorem redirectCode_eq (m : Bytes) : (if m == GET then 301 else 308 : Nat) = if m = GET then 301 else 308 := by
  simp only [beq_iff_eq]

theorem guard_iff : (m != CONNECT && urlPath != [SLASH]) = true ↔ m ≠ CONNECT ∧ urlPath ≠ [SLASH] := by
  rw [Bool.and_eq_true, bne_iff_ne, bne_iff_ne]

theorem redirects_iff : (r.redirectTS && path == cleanRef path) = true ↔ r.redirectTS = true ∧ path = cleanRef path := by
  rw [Bool.and_eq_true, beq_iff_eq]

theorem onTsr_guarded (hg : ¬(m ≠ CONNECT ∧ urlPath ≠ [SLASH])) :
    onTsr cfg rs m host path urlPath r ps =
      { special cfg rs m host path with tags := (special cfg rs m host path).tags ++ ["tsr-guarded"] } :=
  if_neg (mt guard_iff.1 hg)

theorem onTsr_ignore (hg : m ≠ CONNECT ∧ urlPath ≠ [SLASH]) (hi : r.ignoreTS = true) :
    onTsr cfg rs m host path urlPath r ps = { kind := .route, route := some r, params := ps, tags := ["ignore-ts"] } :=
  (if_pos (guard_iff.2 hg)).trans (if_pos hi)

theorem onTsr_redirect (hg : m ≠ CONNECT ∧ urlPath ≠ [SLASH]) (hi : ¬r.ignoreTS = true)
    (hr : r.redirectTS = true ∧ path = cleanRef path) :
    onTsr cfg rs m host path urlPath r ps =
      { kind := .redirect, code := if m == GET then 301 else 308, route := some r, tags := ["redirect-ts"] } :=
  (if_pos (guard_iff.2 hg)).trans ((if_neg hi).trans (if_pos (redirects_iff.2 hr)))

theorem onTsr_unserved (hg : m ≠ CONNECT ∧ urlPath ≠ [SLASH]) (hi : ¬r.ignoreTS = true)
    (hr : ¬(r.redirectTS = true ∧ path = cleanRef path)) :
    onTsr cfg rs m host path urlPath r ps =
      { special cfg rs m host path with tags := (special cfg rs m host path).tags ++ ["tsr-unserved"] } :=
  (if_pos (guard_iff.2 hg)).trans ((if_neg hi).trans (if_neg (mt redirects_iff.1 hr)))

end

/-- a trailing-slash candidate is never acted upon for CONNECT nor for the root path: the request is unmatched -/
theorem dispatch_connect_or_root_unmatched (cfg : Cfg) (rs : Roots) (m host path urlPath : Bytes) (r : Route) (ps : Binds)
    (hl : lookup rs m host path = .found r ps true) (hg : m = CONNECT ∨ urlPath = [SLASH]) :
    (Model.serve cfg rs m host path urlPath).kind ≠ .route ∧ (Model.serve cfg rs m host path urlPath).kind ≠ .redirect := by
  rw [serve_tsr hl, onTsr_guarded (fun h => hg.elim h.1 h.2)]
  exact C11.special_kind_ne cfg rs m host path

/-- a candidate on a route that ignores trailing slashes is served by that route with the adjusted parameters -/
theorem dispatch_ignore (cfg : Cfg) (rs : Roots) (m host path urlPath : Bytes) (r : Route) (ps : Binds)
    (hl : lookup rs m host path = .found r ps true) (hm : m ≠ CONNECT) (hu : urlPath ≠ [SLASH]) (hi : r.ignoreTS = true) :
    (Model.serve cfg rs m host path urlPath).kind = .route ∧ (Model.serve cfg rs m host path urlPath).route = some r ∧
      (Model.serve cfg rs m host path urlPath).params = ps := by
  rw [serve_tsr hl, onTsr_ignore ⟨hm, hu⟩ hi]
  exact ⟨rfl, rfl, rfl⟩

/-- a redirect is issued only for a trailing-slash candidate on a redirecting route that does not ignore trailing
    slashes, never for CONNECT or "/", only for an already clean path, with 301 for GET and 308 otherwise (the codes
    regenerated from the Go sources) -/
theorem dispatch_redirect (cfg : Cfg) (rs : Roots) (m host path urlPath : Bytes)
    (hk : (Model.serve cfg rs m host path urlPath).kind = .redirect) :
    (∃ r ps, lookup rs m host path = .found r ps true ∧ r.redirectTS = true ∧ r.ignoreTS = false) ∧
    m ≠ CONNECT ∧ urlPath ≠ [SLASH] ∧ path = cleanRef path ∧
    ((Model.serve cfg rs m host path urlPath).code : Int) =
      (if m = GET then Generated.redirectCodeGet else Generated.redirectCodeOther) := by
  have hsp := (C11.special_kind_ne cfg rs m host path).2
  cases hl : lookup rs m host path with
  | none => rw [serve_none hl] at hk; exact absurd hk hsp
  | bad => unfold Model.serve at hk; rw [hl] at hk; cases hk
  | found r ps tsr =>
    cases tsr with
    | false => rw [serve_direct hl] at hk; cases hk
    | true =>
      rw [serve_tsr hl] at hk ⊢
      by_cases hg : m ≠ CONNECT ∧ urlPath ≠ [SLASH]
      · by_cases hi : r.ignoreTS = true
        · rw [onTsr_ignore hg hi] at hk; cases hk
        · by_cases hr : r.redirectTS = true ∧ path = cleanRef path
          · rw [onTsr_redirect hg hi hr]
            refine ⟨⟨r, ps, rfl, hr.1, Bool.eq_false_iff.2 hi⟩, hg.1, hg.2, hr.2, ?_⟩
            show ((if m == GET then 301 else 308 : Nat) : Int) = _
            rw [redirectCode_eq]
            split <;> rfl
          · rw [onTsr_unserved hg hi hr] at hk; exact absurd hk hsp
      · rw [onTsr_guarded hg] at hk; exact absurd hk hsp

end Fox.C08
