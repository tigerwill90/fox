import FoxModel.Model.Recovery
/-
  Property C15 — handler panics are contained and leave the router usable.
  Model + specification: FoxModel/Model/Recovery.lean; regenerated facts: FoxModel/Generated/Recovery.lean.
-/
namespace Fox.C15
open Fox.Recovery

/-- The kernel takes a string literal for `String.ofList` of its characters. Rewriting with this lemma hands it the
    characters; evaluating `String.toList` on the literal instead goes through the UTF-8 encoding and back, at tens of
    thousands of steps per character. -/
theorem a_ofList (l : List Char) : Spec.a (String.ofList l) = l.map Char.toNat := by
  rw [Spec.a, String.toList_ofList]

/-- the two substrings `connIsBroken` looks for (regenerated) are the ones the specification names, the text is
    lower-cased first, and the value must be a *net.OpError (type assertion) carrying an *os.SyscallError (errors.As) -/
theorem broken_conn_facts :
    Generated.brokenConnSubstringsBytes = [Spec.a "broken pipe", Spec.a "connection reset by peer"] ∧
    Generated.brokenConnLowered = true ∧ Generated.brokenConnTypeAssertOpError = true ∧
    Generated.brokenConnAsSyscallError = true := by
  repeat rw [a_ofList]
  decide

/-- the source of `recovery` re-panics exactly under `err.(error) ∧ errors.Is(e, http.ErrAbortHandler)` and calls the
    RecoveryFunc only under `!c.Writer().Written() && !connIsBroken(err)` (regenerated facts) -/
theorem guards_tie : Generated.abortRepanics = true ∧ Generated.handleGuardOk = true := by decide

theorem connIsBroken_eq_spec (v : PanicVal) : connIsBroken v = Spec.connBroken v := by
  cases v <;> simp [connIsBroken, Spec.connBroken, broken_conn_facts.1]

/-- For EVERY panic value class and every response progress: http.ErrAbortHandler (plain or wrapped) is re-raised and
    nothing is logged or written; every other value is contained, logged, and the RecoveryFunc (500) runs exactly when
    nothing had been written and the value does not report a broken connection — i.e. the code's decision is the
    demanded one. -/
theorem decision (v : PanicVal) (p : Progress) (hs : List Str) :
    let d := recovery v p hs
    (d.repanic, d.handled) = Spec.outcome v p ∧ (d.repanic = false → d.logged = true) ∧
    (d.repanic = true → d.logged = false ∧ d.handled = false) ∧
    (p.written = true → d.handled = false) := by
  intro d
  have hw : (p == .nothing) = !p.written := by cases p <;> rfl
  cases ha : v.isAbort
  · have ho : Spec.outcome v p = (false, p == .nothing && !Spec.connBroken v) := by
      cases v <;> first | rfl | cases ha
    simp +contextual [d, recovery, ha, ho, hw, connIsBroken_eq_spec]
  · have he : v.isError = true := by cases v <;> first | rfl | cases ha
    have ho : Spec.outcome v p = (true, false) := by cases v <;> first | rfl | cases ha
    simp [d, recovery, ha, he, ho]

/-- the comparison in the source is strings.EqualFold inside slices.ContainsFunc (regenerated fact) -/
theorem compare_mode_is_fold : Generated.redactCompareMode = 1 := by decide

theorem listed_same_as_sensitive : (∀ s ∈ Spec.sensitive, s ∈ Generated.blacklistedHeaderBytes.map lower) ∧
    ∀ e ∈ Generated.blacklistedHeaderBytes, lower e ∈ Spec.sensitive := by
  unfold Spec.sensitive
  repeat rw [a_ofList]
  decide

/-- every credential-bearing header name of the specification is in the regenerated redaction list (up to case) -/
theorem sensitive_subset : ∀ s ∈ Spec.sensitive, s ∈ Generated.blacklistedHeaderBytes.map lower :=
  listed_same_as_sensitive.1

/-- A header whose name is — in ANY capitalisation — one of Authorization, Proxy-Authorization, Cookie, Set-Cookie,
    X-CSRF-Token, X-Vault-Token is redacted in the logged request dump. -/
theorem redaction (k : Str) (h : Spec.isSensitive k = true) : redacted k = true := by
  have hm : lower k ∈ Spec.sensitive := by simpa [Spec.isSensitive] using h
  obtain ⟨e, he, hl⟩ := List.mem_map.mp (sensitive_subset _ hm)
  exact List.any_eq_true.2 ⟨e, he, by simp [nameMatches, compare_mode_is_fold, hl]⟩

/-- …and therefore its name is among the redacted names of the decision, whatever the value class and progress -/
theorem redaction_in_decision (v : PanicVal) (p : Progress) (hs : List Str) (k : Str) (hk : k ∈ hs)
    (h : Spec.isSensitive k = true) (hv : v.isAbort = false) : k ∈ (recovery v p hs).redactedNames := by
  simp [recovery, hv, List.mem_filter, hk, redaction k h]

/-- the list redacts nothing but credential headers (ordinary headers stay readable in the dump) -/
theorem redaction_only_sensitive (k : Str) (h : redacted k = true) : Spec.isSensitive k = true := by
  obtain ⟨e, he, hm⟩ := List.any_eq_true.1 h
  have hl : lower e = lower k := by simpa [nameMatches, compare_mode_is_fold] using hm
  simpa [Spec.isSensitive, ← hl] using listed_same_as_sensitive.2 e he

/-- Router.Updates and Router.View install, before running the user function, a deferred function that on a panic
    aborts the transaction and then re-raises the same value, and aborts on the normal path too; Handle, HandleRoute,
    Update, UpdateRoute and Delete `defer txn.Abort()` before the operation, and MustHandle opens no transaction of its
    own but goes through Handle (regenerated from fox.go). -/
theorem updates_abort_on_all_paths :
    Generated.updates_deferBeforeFn = true ∧ Generated.updates_recovers = true ∧
    Generated.updates_abortOnPanicPath = true ∧ Generated.updates_repanics = true ∧
    Generated.updates_abortOnNormalPath = true ∧
    Generated.view_deferBeforeFn = true ∧ Generated.view_recovers = true ∧ Generated.view_abortOnPanicPath = true ∧
    Generated.view_repanics = true ∧ Generated.view_abortOnNormalPath = true ∧
    Generated.singleOpDeferAbortFirst = [true, true, true, true, true, true] := by decide

/-! ### non-vacuity -/

example : Spec.isSensitive (Spec.a "x-CsRf-tOKEN") = true :=
  redaction_only_sensitive _ (by rw [a_ofList]; decide)
example : redacted (Spec.a "COOKIE") = true := by
  rw [a_ofList]
  decide
example : redacted (Spec.a "X-Request-Id") = false := by
  rw [a_ofList]
  decide
example : (recovery (.opSyscall (Spec.a "write: Broken Pipe")) .nothing []).handled = false := by
  rw [a_ofList]
  decide
example : (recovery (.opPlain (Spec.a "broken pipe")) .nothing []).handled = true := by
  rw [a_ofList]
  decide
example : (recovery (.wrappedOp (Spec.a "write: broken pipe")) .nothing []).handled = true := by
  rw [a_ofList]
  decide
example : (recovery .str .headerOnly []).handled = false ∧ (recovery .str .nothing []).handled = true := by decide
example : (recovery .wrappedAbort .nothing []).repanic = true := by decide

end Fox.C15
