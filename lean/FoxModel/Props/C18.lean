import FoxModel.Generated.ClientIP
import FoxModel.Spec.ClientIP
import FoxModel.Model.ClientIP
import FoxModel.Driver.ClientIP
import FoxModel.Lemmas.ClientIP
/-
  Property C18 — client-IP resolvers return exactly the designated, unspoofable entry.

  `Model.ClientIP` follows clientip.go function by function; `Spec.ClientIP` is the documented reading over the
  flattened list of trimmed header items. The theorems say that they agree (`Res.toOption` forgets which error),
  that text an attacker places to the left cannot change a successful result of the three rightmost strategies,
  and that the CIDR tables of the source (regenerated on every run) stay inside the IANA special-purpose blocks.
  Entry parsing (`parseItem`, `trimSpace`) is the same executable function on both sides: it is re-implemented from
  the Go standard library and only sampled against it by the `clientip` stream.
-/
namespace Fox.C18
open Fox Fox.Model.ClientIP Fox.Lemmas.ClientIP
open Fox.Spec.ClientIP (splitOn entries)

abbrev SpecCI := @Fox.Spec.ClientIP.entries

/-! ### iterators -/

/-- the forward header iterator yields the parsed entries in order; the backward iterator (last line first, each
    line split from the right) yields exactly the same values in reverse order -/
theorem entries_backward (k : HKey) (values : List Bytes) :
    ipAddrSeq k values = (entries trimSpace values).map (parseItem k) ∧
    backwardIpAddrSeq k values = ((entries trimSpace values).map (parseItem k)).reverse := by
  constructor
  · simp [ipAddrSeq, entries, List.map_flatMap, splitFwd_eq_splitOn, Spec.ClientIP.COMMA, COMMA, Function.comp_def]
  · simp only [backwardIpAddrSeq, entries, List.map_flatMap, List.reverse_flatMap, splitBwd_eq_reverse]
    congr 1
    funext v
    simp [Function.comp_def, List.map_reverse, Spec.ClientIP.COMMA, COMMA]

/-- on byte strings: `BackwardSplitStringSeq` = reverse of `SplitStringSeq` = reverse of the separated items -/
theorem split_backward (sep : UInt8) (s : Bytes) :
    splitFwd sep s = splitOn sep s ∧ splitBwd sep s = (splitFwd sep s).reverse := by
  rw [splitFwd_eq_splitOn, splitBwd_eq_reverse]; exact ⟨rfl, rfl⟩

/-! ### strategies -/

theorem toOption_eq_some {r : Res} {a : Addr} : r.toOption = some a ↔ r = .ok a := by
  cases r <;> simp [Res.toOption]

theorem firstOutside_toOption (rs : List Cidr) (e : ErrKind) (p : Bytes → Option Addr) (es : List Bytes) :
    (firstOutside rs e (es.map p)).toOption = (es.filterMap p).find? (fun a => !inRanges rs a.ip) := by
  induction es with
  | nil => simp [firstOutside, Res.toOption]
  | cons x t ih =>
    simp only [List.map_cons, List.filterMap_cons]
    cases hp : p x with
    | none => simp [firstOutside, ih]
    | some a =>
      by_cases h : inRanges rs a.ip = true
      · simp [firstOutside, h, ih]
      · simp [firstOutside, h, Res.toOption]

theorem firstOutside_ne (rs : List Cidr) (e : ErrKind) (l : List (Option Addr)) : firstOutside rs e l ≠ .nilNil := by
  fun_induction firstOutside rs e l with
  | case1 | case3 => nofun
  | case2 _ ih | case4 _ _ _ ih => exact ih

theorem firstUntrusted_ne (rs : List Cidr) (l : List (Option Addr)) : firstUntrusted rs l ≠ .nilNil := by
  fun_induction firstUntrusted rs l with
  | case1 | case3 | case4 => nofun
  | case2 _ _ _ ih => exact ih

/-- the `len(values) > 0` tests of the two non-private strategies decide nothing: without a header line the loop runs
    over no entry and ends in the same error -/
theorem leftmostNonPrivate_eq (k : HKey) (limit : Nat) (rs : List Cidr) (values : List Bytes) :
    leftmostNonPrivate k limit rs values = firstOutside rs .leftmost (take limit (ipAddrSeq k values)) := by
  cases values <;> simp [leftmostNonPrivate, take, ipAddrSeq, firstOutside]

theorem rightmostNonPrivate_eq (k : HKey) (rs : List Cidr) (values : List Bytes) :
    rightmostNonPrivate k rs values = firstOutside rs .nonPrivate (backwardIpAddrSeq k values) := by
  cases values <;> simp [rightmostNonPrivate, backwardIpAddrSeq, firstOutside]

theorem nthFromRight_eq (n : Nat) (hn : 0 < n) (es : List Bytes) :
    Spec.ClientIP.nthFromRight n es = es.reverse[n - 1]? := by
  unfold Spec.ClientIP.nthFromRight
  by_cases hle : n ≤ es.length
  · rw [if_pos ⟨hn, hle⟩, List.getElem?_reverse (Nat.lt_of_lt_of_le (Nat.sub_lt hn Nat.one_pos) hle),
      Nat.sub_sub_sub_cancel_right hn]
  · rw [if_neg (fun h => hle h.2), List.getElem?_eq_none]
    rw [List.length_reverse]
    exact Nat.le_sub_one_of_lt (Nat.lt_of_not_le hle)

/-- RightmostTrustedCount returns the parse of the `n`-th entry from the right; an error if there are fewer than `n`
    entries or that entry is not an address — never another entry -/
theorem trusted_count (k : HKey) (n : Nat) (hn : 0 < n) (values : List Bytes) :
    (rightmostTrustedCount k n values).toOption =
      Spec.ClientIP.trustedCount (parseItem k) n (entries trimSpace values) := by
  simp only [rightmostTrustedCount, at?_eq_getElem?, (entries_backward k values).2, Spec.ClientIP.trustedCount,
    nthFromRight_eq n hn, ← List.map_reverse, List.getElem?_map]
  cases (entries trimSpace values).reverse[n - 1]? with
  | none => rfl
  | some e => cases h : parseItem k e <;> simp [h, Res.toOption]

/-- RightmostNonPrivate returns the rightmost entry that is an address outside the trusted ranges, else an error -/
theorem non_private (k : HKey) (rs : List Cidr) (values : List Bytes) :
    (rightmostNonPrivate k rs values).toOption =
      Spec.ClientIP.nonPrivate (parseItem k) (fun a => inRanges rs a.ip) (entries trimSpace values) := by
  rw [rightmostNonPrivate_eq, (entries_backward k values).2, ← List.map_reverse, firstOutside_toOption,
    Spec.ClientIP.nonPrivate, List.filterMap_reverse, ← List.getLast?_filter]

theorem firstUntrusted_toOption (rs : List Cidr) (p : Bytes → Option Addr) (es : List Bytes) :
    (firstUntrusted rs (es.map p)).toOption =
      (es.find? (fun e => !Spec.ClientIP.isTrusted p (fun a => inRanges rs a.ip) e)).bind p := by
  induction es with
  | nil => simp [firstUntrusted, Res.toOption]
  | cons e t ih =>
    simp only [List.map_cons, List.find?_cons, Spec.ClientIP.isTrusted]
    cases hp : p e with
    | none => simp [firstUntrusted, Res.toOption, hp]
    | some a =>
      by_cases h : inRanges rs a.ip = true
      · simp [firstUntrusted, h, ih, Spec.ClientIP.isTrusted]
      · simp [firstUntrusted, h, Res.toOption, hp]

/-- RightmostTrustedRange returns the first entry from the right that is not a trusted address; if that entry is not
    an address at all (or every entry is trusted, or there is none) the result is an error — it never skips it -/
theorem trusted_range (k : HKey) (rs : List Cidr) (values : List Bytes) :
    (rightmostTrustedRange k (some rs) values).toOption =
      Spec.ClientIP.trustedRange (parseItem k) (fun a => inRanges rs a.ip) (entries trimSpace values) := by
  simp only [rightmostTrustedRange, (entries_backward k values).2, Spec.ClientIP.trustedRange]
  rw [← List.map_reverse, firstUntrusted_toOption]

/-- LeftmostNonPrivate returns the first address that is not excluded among the first `limit` entries, else an error -/
theorem leftmost (k : HKey) (limit : Nat) (rs : List Cidr) (values : List Bytes) :
    (leftmostNonPrivate k limit rs values).toOption =
      Spec.ClientIP.leftmost (parseItem k) (fun a => inRanges rs a.ip) limit (entries trimSpace values) := by
  rw [leftmostNonPrivate_eq, (entries_backward k values).1, take, ← List.map_take, firstOutside_toOption,
    Spec.ClientIP.leftmost]

/-- SingleIPHeader parses the last header instance (a missing or empty header is an error) -/
theorem single (values : List Bytes) :
    (singleIPHeader values).toOption = Spec.ClientIP.single parseIPAddr? values := by
  unfold singleIPHeader Spec.ClientIP.single parseIPAddr?
  cases values.getLast? with
  | none => simp [Res.toOption]
  | some v =>
    by_cases hv : v = []
    · simp [hv, Res.toOption]
    · simp only [hv, if_false, Option.bind_some]
      cases parseIPAddr v <;> simp [Res.toOption]

theorem resolve_ne_nilNil (req : Req) (r : Resolver) : resolve req r ≠ .nilNil := by
  cases r with
  | remote => simp only [resolve, remoteAddr]; (repeat' split) <;> simp
  | single name => simp only [resolve, singleIPHeader]; (repeat' split) <;> simp
  | leftmost k limit opts =>
    simp only [resolve, leftmostNonPrivate_eq]
    split <;> first | exact firstOutside_ne _ _ _ | simp
  | nonPrivate k opts => simp only [resolve, rightmostNonPrivate_eq]; exact firstOutside_ne _ _ _
  | count k n => simp only [resolve, rightmostTrustedCount]; (repeat' split) <;> simp
  | range k ranges =>
    simp only [resolve, rightmostTrustedRange]
    (repeat' split) <;> first | exact firstUntrusted_ne _ _ | simp

theorem chainLoop_toOption (results : List Res) (errs : Option (List ErrKind))
    (h : ∀ r ∈ results, r ≠ .cfgErr ∧ r ≠ .nilNil) (hne : results ≠ [] ∨ errs.isSome) :
    (chainLoop results errs).toOption = Spec.ClientIP.chain (results.map Res.toOption) ∧
    chainLoop results errs ≠ .nilNil := by
  induction results generalizing errs with
  | nil =>
    cases errs with
    | none => simp at hne
    | some ks => simp [chainLoop, Res.toOption, Spec.ClientIP.chain]
  | cons r t ih =>
    have ht : ∀ r ∈ t, r ≠ .cfgErr ∧ r ≠ .nilNil := fun r hr => h r (List.mem_cons_of_mem _ hr)
    have hr := h r (List.mem_cons_self ..)
    cases r with
    | ok a => simp [chainLoop, Res.toOption, Spec.ClientIP.chain]
    | err ks =>
      have := ih (some (errs.getD [] ++ ks)) ht (Or.inr rfl)
      simpa [chainLoop, Res.toOption, Spec.ClientIP.chain] using this
    | cfgErr => exact absurd rfl hr.1
    | nilNil => exact absurd rfl hr.2

/-- a non-empty Chain of constructible resolvers returns the first success, else an error (all errors joined);
    it never yields `(nil, nil)`. (The empty chain `NewChain()` does return `(nil, nil)`: see `chain_empty`.) -/
theorem chain (req : Req) (rs : List Resolver) (hne : rs ≠ [])
    (hc : ∀ r ∈ rs, resolve req r ≠ .cfgErr) :
    (Model.ClientIP.chain req rs).toOption = Spec.ClientIP.chain (rs.map fun r => (resolve req r).toOption) ∧
    Model.ClientIP.chain req rs ≠ .nilNil := by
  have hall : ∀ x ∈ rs.map (resolve req), x ≠ Res.cfgErr ∧ x ≠ Res.nilNil :=
    List.forall_mem_map.2 fun r hr => ⟨hc r hr, resolve_ne_nilNil req r⟩
  have hany : (rs.map (resolve req)).any (· == Res.cfgErr) = false :=
    List.any_eq_false.2 fun x hx h => (hall x hx).1 (eq_of_beq h)
  have := chainLoop_toOption (rs.map (resolve req)) none hall (Or.inl (by simpa using hne))
  simp only [Model.ClientIP.chain, hany]
  simpa [List.map_map, Function.comp_def] using this

/-- the degenerate configuration `NewChain()` (no resolver) returns neither an address nor an error -/
theorem chain_empty (req : Req) : Model.ClientIP.chain req [] = .nilNil := by
  simp [Model.ClientIP.chain, chainLoop]

/-- every resolver whose constructor succeeds returns what the declarative reading (`Driver.ClientIP.specResolve`, the
    `S=` column of the correspondence check) designates, or an error -/
theorem resolve_eq_spec (req : Req) (r : Resolver) (hc : Driver.ClientIP.isCfgErr r = false) :
    (resolve req r).toOption = Driver.ClientIP.specResolve req r := by
  cases r with
  | remote =>
    simp only [resolve, remoteAddr, Driver.ClientIP.specResolve, parseIPAddr?]
    cases h : parseIPAddr req.remoteAddr with
    | ok a => simp [Res.toOption]
    | error e => cases e <;> simp [Res.toOption]
  | single name => exact single (req.values name)
  | leftmost k limit opts =>
    have : limit ≠ 0 := by simpa [Driver.ClientIP.isCfgErr] using hc
    simp only [resolve, this, if_false, Driver.ClientIP.specResolve]
    exact leftmost ..
  | nonPrivate k opts => exact non_private k (configuredRanges opts) (req.values (hdrName k))
  | count k n =>
    have : n ≠ 0 := by simpa [Driver.ClientIP.isCfgErr] using hc
    simp only [resolve, this, if_false, Driver.ClientIP.specResolve]
    exact trusted_count k n (Nat.pos_of_ne_zero this) _
  | range k ranges =>
    cases ranges with
    | none => rfl
    | some rs => exact trusted_range k rs (req.values (hdrName k))

/-! ### spoof freedom -/

/-- what the attacker's additions do to the entries: lines `pre` in front and text `x,` in front of the first line
    only add entries on the left -/
theorem entries_prepend (trim : Bytes → Bytes) (pre ls : List Bytes) (x l : Bytes) :
    entries trim (pre ++ [x ++ Spec.ClientIP.COMMA :: l] ++ ls) =
      (entries trim pre ++ (splitOn Spec.ClientIP.COMMA x).map trim) ++ entries trim (l :: ls) := by
  simp [entries, splitOn_append_sep]

variable {α : Type}

theorem spec_count_append (p : Bytes → Option α) (n : Nat) (hn : 0 < n) (A B : List Bytes) (a : α)
    (h : Spec.ClientIP.trustedCount p n B = some a) : Spec.ClientIP.trustedCount p n (A ++ B) = some a := by
  rw [Spec.ClientIP.trustedCount, nthFromRight_eq n hn] at h ⊢
  obtain ⟨e, he, _⟩ := Option.bind_eq_some_iff.1 h
  rwa [List.reverse_append, List.getElem?_append_left (List.getElem?_eq_some_iff.1 he).1]

theorem spec_nonPrivate_append (p : Bytes → Option α) (inR : α → Bool) (A B : List Bytes) (a : α)
    (h : Spec.ClientIP.nonPrivate p inR B = some a) : Spec.ClientIP.nonPrivate p inR (A ++ B) = some a := by
  simp only [Spec.ClientIP.nonPrivate] at h ⊢
  simp [List.filterMap_append, List.filter_append, List.getLast?_append, h]

theorem spec_range_append (p : Bytes → Option α) (inR : α → Bool) (A B : List Bytes) (a : α)
    (h : Spec.ClientIP.trustedRange p inR B = some a) : Spec.ClientIP.trustedRange p inR (A ++ B) = some a := by
  simp only [Spec.ClientIP.trustedRange] at h ⊢
  obtain ⟨e, he, hp⟩ := Option.bind_eq_some_iff.1 h
  rw [List.reverse_append, List.find?_append, he]
  exact hp

/-- Spoof freedom of the three rightmost strategies. Let the header lines be `l :: ls` and let the resolver succeed
    with address `a`. Whatever lines `pre` an attacker puts in front and whatever text `x` (any bytes, commas
    included) he puts in front of the first line, the resolver still returns exactly `a`. -/
theorem spoof_free (k : HKey) (pre ls : List Bytes) (x l : Bytes) (a : Addr) :
    (∀ n, 0 < n → rightmostTrustedCount k n (l :: ls) = .ok a →
        rightmostTrustedCount k n (pre ++ [x ++ COMMA :: l] ++ ls) = .ok a) ∧
    (∀ rs, rightmostNonPrivate k rs (l :: ls) = .ok a →
        rightmostNonPrivate k rs (pre ++ [x ++ COMMA :: l] ++ ls) = .ok a) ∧
    (∀ rs, rightmostTrustedRange k rs (l :: ls) = .ok a →
        rightmostTrustedRange k rs (pre ++ [x ++ COMMA :: l] ++ ls) = .ok a) := by
  have hC : COMMA = Spec.ClientIP.COMMA := rfl
  refine ⟨?_, ?_, ?_⟩
  · intro n hn h
    rw [← toOption_eq_some, trusted_count k n hn] at h ⊢
    rw [hC, entries_prepend]
    exact spec_count_append _ _ hn _ _ _ h
  · intro rs h
    rw [← toOption_eq_some, non_private] at h ⊢
    rw [hC, entries_prepend]
    exact spec_nonPrivate_append _ _ _ _ _ h
  · intro rs h
    cases rs with
    | none => simp [rightmostTrustedRange] at h
    | some rs =>
      rw [← toOption_eq_some, trusted_range] at h ⊢
      rw [hC, entries_prepend]
      exact spec_range_append _ _ _ _ _ h

/-! ### entry parsing -/

/-- `ParseIPAddr` never returns the unspecified address (`::`, `0.0.0.0`) -/
theorem parse_not_unspecified (s : Bytes) (a : Addr) (h : parseIPAddr s = .ok a) : isUnspecified a.ip = false := by
  unfold parseIPAddr at h
  simp only at h
  split at h
  · simp at h
  · split at h
    · simp at h
    · rename_i hu
      simp at h; subst h; simpa using hu

/-- a Forwarded list item without a `for=` parameter among its first four parameters is not an address -/
theorem forwarded_needs_for (fwd : Bytes) (h : findFor (take 4 (splitFwd SEMI fwd)) = []) :
    parseForwardedListItem fwd = none := by
  -- trimming and unquoting the empty `for` value leave it empty, and the empty value is refused before parsing
  simp [parseForwardedListItem, h, trimSpace, trimRunes, trimMatchedEnds]

/-! ### default ranges -/

theorem shiftRight_prefix {bits cl bl x c b : Nat} (h1 : bl ≤ cl) (h2 : cl ≤ bits)
    (hx : x >>> (bits - cl) = c >>> (bits - cl)) (hc : c >>> (bits - bl) = b >>> (bits - bl)) :
    x >>> (bits - bl) = b >>> (bits - bl) := by
  rw [← hc, ← Nat.sub_add_sub_cancel h2 h1, Nat.shiftRight_add, Nat.shiftRight_add, hx]

/-- containment decided on (family, prefix value, length) is containment of address sets -/
theorem cidrSubset_sound (c : Nat × Nat × Nat) (b : Spec.ClientIP.Block) (ip : Nat)
    (hs : Spec.ClientIP.cidrSubset c b = true) (hc : contains (Cidr.ofTriple c) ip = true) :
    Spec.ClientIP.inBlock b ip = true := by
  obtain ⟨cf, ca, cl⟩ := c
  simp only [Spec.ClientIP.cidrSubset, Bool.and_eq_true, beq_iff_eq, decide_eq_true_eq] at hs
  obtain ⟨⟨⟨hf, hl1⟩, hl2⟩, hp⟩ := hs
  simp only [Cidr.ofTriple] at hc
  subst hf
  unfold contains at hc
  unfold Spec.ClientIP.inBlock
  by_cases h4 : b.fam = 4
  · simp only [h4, if_true, Bool.and_eq_true, beq_iff_eq] at hc hl2 hp ⊢
    exact ⟨hc.1, shiftRight_prefix hl1 hl2 hc.2 hp⟩
  · simp only [h4, if_false] at hc hl2 hp ⊢
    split at hc <;> simp only [Bool.and_eq_true, beq_iff_eq] at hc <;>
      simpa using shiftRight_prefix hl1 hl2 hc.2 hp

/-- decided on the regenerated tables: every CIDR of every table lies inside a hand-written IANA block -/
theorem default_tables_subset :
    (Generated.cidrTables.all fun t => t.all fun c =>
      Spec.ClientIP.ianaSpecialPurpose.any fun b => Spec.ClientIP.cidrSubset c b) = true := by
  decide +kernel

/-- The ranges trusted / excluded by default contain no globally routable address: every address that any CIDR of
    any package-level table of clientip.go (`privateAndLocalRanges`, `privateRange`, `loopbackRanges`,
    `linkLocalRanges`, regenerated from the source on every run) treats as contained lies in a block of the
    hand-written IANA special-purpose table. -/
theorem default_ranges_nonglobal (t : List (Nat × Nat × Nat)) (ht : t ∈ Generated.cidrTables)
    (c : Nat × Nat × Nat) (hc : c ∈ t) (ip : Nat) (h : contains (Cidr.ofTriple c) ip = true) :
    Spec.ClientIP.isSpecialPurpose ip = true := by
  obtain ⟨b, hb, hs⟩ := List.any_eq_true.1 (List.all_eq_true.1 (List.all_eq_true.1 default_tables_subset t ht) c hc)
  exact List.any_eq_true.2 ⟨b, hb, cidrSubset_sound c b ip hs h⟩

/-- the tables the model computes with are the four tables of the source, wired as in options.go / the constructors,
    and the header names are the ones of the source -/
theorem consts_tie :
    Generated.cidrTables = [Generated.privateAndLocalRanges, Generated.privateRange, Generated.loopbackRanges,
      Generated.linkLocalRanges] ∧
    Generated.cidrTableNames.map (·.map Char.ofNat) =
      ["privateAndLocalRanges".toList, "privateRange".toList, "loopbackRanges".toList, "linkLocalRanges".toList] ∧
    Generated.clientipOptionTables.map (fun p => (p.1.map Char.ofNat, p.2.map Char.ofNat)) =
      [("ExcludeLinkLocal".toList, "linkLocalRanges".toList), ("ExcludeLoopback".toList, "loopbackRanges".toList),
       ("ExcludePrivateNet".toList, "privateRange".toList), ("TrustLinkLocal".toList, "linkLocalRanges".toList),
       ("TrustLoopback".toList, "loopbackRanges".toList), ("TrustPrivateNet".toList, "privateRange".toList)] ∧
    Generated.clientipDefaultTables.map (fun p => (p.1.map Char.ofNat, p.2.map Char.ofNat)) =
      [("NewLeftmostNonPrivate".toList, "cfg.ipRanges,privateAndLocalRanges".toList),
       ("NewRightmostNonPrivate".toList, "cfg.ipRanges,privateAndLocalRanges".toList)] ∧
    Generated.xForwardedForHdr.map Char.ofNat = "X-Forwarded-For".toList ∧
    Generated.forwardedHdr.map Char.ofNat = "Forwarded".toList := by
  refine ⟨rfl, ?_, ?_, ?_, ?_, ?_⟩
  -- a literal is `String.ofList` of its characters to the kernel: hand it those instead of letting it run `toList`
  all_goals
    repeat rw [String.toList_ofList]
    decide +kernel

/-! ### non-vacuity -/

def b (s : String) : Bytes := Util.ascii s
def perr (s : String) : Option ErrKind := match parseIPAddr (b s) with | .error e => some e | .ok _ => none

-- entry parsing as documented: ports, brackets, zones, quotes, `for=` (case-insensitive, within the first four
-- parameters), unspecified rejected
#guard parseIPAddr? (b "192.0.2.60:4711") = some ⟨0xffffc000023c, []⟩
#guard parseIPAddr? (b "[2001:db8:cafe::17%zone]:4711") = some ⟨0x20010db8cafe00000000000000000017, b "zone"⟩
#guard parseIPAddr? (b "2001:db8::1.2.3.4") = some ⟨0x20010db8000000000000000001020304, []⟩
#guard parseIPAddr? (b "::ffff:10.0.0.1") = parseIPAddr? (b "10.0.0.1")
#guard perr "0.0.0.0" = some .unspecified
#guard perr "[::]:80" = some .unspecified
#guard perr "1.2.3.04" = some .invalid
#guard perr "1:2:3:4:5:6:7:8:9" = some .invalid
#guard perr "1::2::3" = some .invalid
#guard parseItem .fwd (b "For=\"[2001:db8:cafe::17]:4711\"") = some ⟨0x20010db8cafe00000000000000000017, []⟩
#guard parseItem .fwd (b "by=203.0.113.43; proto=http ;host=h; fOr=192.0.2.60") = some ⟨0xffffc000023c, []⟩
#guard parseItem .fwd (b "a=1;b=2;c=3;d=4;for=192.0.2.60") = none
#guard parseItem .fwd (b "for=unknown") = none
#guard parseItem .fwd (b "192.0.2.60") = none
#guard trimSpace (b " \t1.1.1.1 \r\n") = b "1.1.1.1"
#guard entries trimSpace [b "1.1.1.1, 2.2.2.2", b "3.3.3.3"] = [b "1.1.1.1", b "2.2.2.2", b "3.3.3.3"]
#guard splitBwd COMMA (b "a,b,,c") = [b "c", [], b "b", b "a"]

def req (xff : List String) : Req := { headers := [(hdrName .xff, xff.map b)], remoteAddr := b "192.0.2.1:1" }

-- the strategies select different entries of the same header
#guard resolve (req ["1.1.1.1, 8.8.8.8, 10.0.0.1", "junk, 9.9.9.9,192.168.0.1"]) (.count .xff 2) = .ok ⟨0xffff09090909, []⟩
#guard resolve (req ["1.1.1.1, 8.8.8.8, 10.0.0.1", "junk, 9.9.9.9,192.168.0.1"]) (.count .xff 3) = .err [.countInvalid]
#guard resolve (req ["1.1.1.1, 8.8.8.8, 10.0.0.1", "junk, 9.9.9.9,192.168.0.1"]) (.count .xff 7) = .err [.countFew]
#guard resolve (req ["1.1.1.1, 8.8.8.8, 10.0.0.1", "junk, 9.9.9.9,192.168.0.1"]) (.nonPrivate .xff []) = .ok ⟨0xffff09090909, []⟩
#guard resolve (req ["1.1.1.1, 8.8.8.8, 10.0.0.1", "junk,192.168.0.1"]) (.nonPrivate .xff []) = .ok ⟨0xffff08080808, []⟩
#guard resolve (req ["1.1.1.1, 8.8.8.8, 10.0.0.1", "junk,192.168.0.1"]) (.range .xff (some [⟨4, 0xc0a80000, 16⟩])) = .err [.range]
#guard resolve (req ["1.1.1.1, 8.8.8.8, 10.0.0.1", "192.168.0.1"]) (.range .xff (some [⟨4, 0xc0a80000, 16⟩])) = .ok ⟨0xffff0a000001, []⟩
#guard resolve (req ["10.0.0.1, junk, 8.8.8.8, 1.1.1.1"]) (.leftmost .xff 3 []) = .ok ⟨0xffff08080808, []⟩
#guard resolve (req ["10.0.0.1, junk, 8.8.8.8, 1.1.1.1"]) (.leftmost .xff 2 []) = .err [.leftmost]
-- the default tables: 198.18.0.0/15 is private, the neighbouring public 192.18.0.0/15 is not
#guard resolve (req ["198.19.255.255"]) (.nonPrivate .xff []) = .err [.nonPrivate]
#guard resolve (req ["192.18.0.1"]) (.nonPrivate .xff []) = .ok ⟨0xffffc0120001, []⟩
#guard Spec.ClientIP.isSpecialPurpose 0xffffc0120001 = false
#guard Spec.ClientIP.isSpecialPurpose 0xffffc6120001 = true

end Fox.C18
