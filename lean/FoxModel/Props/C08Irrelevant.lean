import FoxModel.Props.C01Map
/-
  Property C08, last sentence — "Registered routes that match neither the request path nor its slash-adjusted form
  never change the outcome" — on the router itself: registering such a route, after any history, leaves the answer of
  the matcher to that request unchanged (same route, same parameters, same trailing-slash flag), for every method.
  Composition of `routing_correct_on_the_sequential_map` (Props/C01Map) with `route_irrelevant` (Props/C01Spec).
-/
namespace Fox.C08
open Fox Fox.Model Fox.Spec Fox.C02 Fox.C01 Fox.C01Spec

theorem runSpec_append (s : Store) (a b : List Op) :
    (runSpec s (a ++ b)).1 = (runSpec (runSpec s a).1 b).1 := by
  induction a generalizing s with
  | nil => rfl
  | cons op a ih => simp only [List.cons_append, runSpec]; exact ih _

theorem routesOf_append (s : Store) (m m' : Bytes) (r : Route) :
    Store.routesOf (s ++ [(m, r)]) m' = if m == m' then s.routesOf m' ++ [r] else s.routesOf m' := by
  unfold Store.routesOf
  by_cases h : (m == m') = true
  · simp [h]
  · simp [h]

/-- the route list of method `m'` after one more `Handle`: unchanged (other method, or the registration failed) or
    extended by the new route at the end -/
theorem routesOf_handle (s : Store) (m m' : Bytes) (r : Route) :
    (s.handle m r).1.routesOf m' = s.routesOf m' ∨ (s.handle m r).1.routesOf m' = s.routesOf m' ++ [r] := by
  unfold Store.handle
  split
  · exact Or.inl rfl
  · split
    · rw [routesOf_append]
      split
      · exact Or.inr rfl
      · exact Or.inl rfl
    · exact Or.inl rfl

/-- **C08: an irrelevant registration never changes the outcome.** After any history, registering one more route
    (for any method) that matches neither the request nor its slash-adjusted form (`C01Spec.Irrelevant`) leaves the
    matcher's answer to that request unchanged, whatever the tree looked like before and however the new route splits
    its nodes. -/
theorem irrelevant_registration_never_changes_outcome (ops : List Op) (hv : ∀ op ∈ ops, op.valid = true)
    (hu : ∀ op ∈ ops, updSplitOk op = true) (m : Bytes) (r : Route) (hr : (Op.handle m r).valid = true)
    (m' hostPort path : Bytes) (hn : noDbl path = true) (hs : SLASH ∉ stripHostPort hostPort)
    (hirr : Irrelevant r hostPort path) :
    lookup (runModel newTree (ops ++ [.handle m r])).1.roots m' hostPort path =
      lookup (runModel newTree ops).1.roots m' hostPort path := by
  have hv' : ∀ op ∈ ops ++ [Op.handle m r], op.valid = true := by
    intro op hop
    rcases List.mem_append.mp hop with h | h
    · exact hv op h
    · rw [List.mem_singleton.mp h]; exact hr
  have hu' : ∀ op ∈ ops ++ [Op.handle m r], updSplitOk op = true := by
    intro op hop
    rcases List.mem_append.mp hop with h | h
    · exact hu op h
    · rw [List.mem_singleton.mp h]; rfl
  rw [routing_correct_on_the_sequential_map _ hv' hu' m' hostPort path hn hs,
    routing_correct_on_the_sequential_map ops hv hu m' hostPort path hn hs]
  have hco := store_coherent (ops ++ [Op.handle m r]) (fun op hop => opSplitOk_of (hv' op hop) (hu' op hop)) m'
  have hst : (runSpec [] (ops ++ [Op.handle m r])).1 = ((runSpec [] ops).1.handle m r).1 := by
    rw [runSpec_append]; rfl
  rw [hst] at hco ⊢
  rcases routesOf_handle (runSpec [] ops).1 m m' r with h | h
  · rw [h]
  · rw [h] at hco ⊢
    have := route_irrelevant (R1 := (runSpec [] ops).1.routesOf m') (R2 := []) (r := r) hco hirr
    rw [List.append_nil] at this
    rw [this]

end Fox.C08
