import FoxModel.Generated.Options
import FoxModel.Lemmas.Options
import FoxModel.Lemmas.Parse.Tokens
import FoxModel.Props.C12
/-
  Property C19 — a route carries exactly the options it was created with.
-/
namespace Fox.C19
open Fox Fox.Model.MW Fox.Model.Opt Fox.Spec.Opt Fox.Lemmas.Opt Fox.Lemmas.MW

/-- the option constructors of options.go assign exactly the fields the model updates (regenerated on every run):
    per constructor the router / route fields written, the guard and value of every assignment of the two
    trailing-slash options, the effect of WithClientIPResolver by cases on its argument (symbolic evaluation of its
    body), the annotation key check, and what NewRoute copies from the router -/
theorem options_tie :
    Generated.optionWrites = [
      ("DefaultOptions", ["handleOptions", "mws"], []),
      ("WithAnnotation", [], ["annots"]),
      ("WithAutoOptions", ["handleOptions"], []),
      ("WithClientIPResolver", ["clientip"], ["clientip"]),
      ("WithIgnoreTrailingSlash", ["ignoreTrailingSlash", "redirectTrailingSlash"], ["ignoreTrailingSlash", "redirectTrailingSlash"]),
      ("WithMaxRouteParamKeyBytes", ["maxParamKeyBytes"], []),
      ("WithMaxRouteParams", ["maxParams"], []),
      ("WithMiddleware", ["mws"], ["mws"]),
      ("WithMiddlewareFor", ["mws"], []),
      ("WithNoMethod", ["handleMethodNotAllowed"], []),
      ("WithNoMethodHandler", ["handleMethodNotAllowed", "noMethod"], []),
      ("WithNoRouteHandler", ["noRouteBase"], []),
      ("WithOptionsHandler", ["autoOptions", "handleOptions"], []),
      ("WithRedirectTrailingSlash", ["ignoreTrailingSlash", "redirectTrailingSlash"], ["ignoreTrailingSlash", "redirectTrailingSlash"])] ∧
    Generated.optionNilChecks = ["WithAnnotation", "WithMiddleware", "WithMiddlewareFor", "WithNoMethodHandler", "WithNoRouteHandler", "WithOptionsHandler"] ∧
    Generated.assigns_WithRedirectTrailingSlash = [("route", "ignoreTrailingSlash", "enable", "false"), ("route", "redirectTrailingSlash", "", "enable"),
      ("router", "ignoreTrailingSlash", "enable", "false"), ("router", "redirectTrailingSlash", "", "enable")] ∧
    Generated.assigns_WithIgnoreTrailingSlash = [("route", "ignoreTrailingSlash", "", "enable"), ("route", "redirectTrailingSlash", "enable", "false"),
      ("router", "ignoreTrailingSlash", "", "enable"), ("router", "redirectTrailingSlash", "enable", "false")] ∧
    Generated.effect_WithClientIPResolver = [("route", "nil", "none"), ("route", "non-nil", "resolver"),
      ("router", "nil", "unchanged"), ("router", "non-nil", "resolver")] ∧
    Generated.annotationKeyCheck = "key == nil || !reflect.ValueOf(key).Comparable()" ∧
    Generated.newRouteInit = [("clientip", "$r.clientip"), ("hbase", "$p1"), ("hostSplit", "$r.parseRoute#1"),
      ("ignoreTrailingSlash", "$r.ignoreTrailingSlash"), ("mws", "slices.Clone($r.mws)"), ("pattern", "$p0"), ("psLen", "$r.parseRoute#0"),
      ("redirectTrailingSlash", "$r.redirectTrailingSlash")] :=
  ⟨rfl, rfl, rfl, rfl, rfl, rfl, rfl⟩

/-! ### the fold -/

theorem applyRouteOpts_valid (opts : List RouteOpt) (r : RouteCfg) (hv : ∀ o ∈ opts, optValid o = true) :
    ∃ r', applyRouteOpts r opts = .ok r' ∧
      r'.redirectTS = lastOr saysRedirect r.redirectTS opts ∧ r'.ignoreTS = lastOr saysIgnore r.ignoreTS opts ∧
      r'.clientip = lastOr saysResolver r.clientip opts ∧ r'.mws = r.mws ++ (opts.flatMap ownOf).map mkOwn ∧
      r'.pattern = r.pattern ∧ r'.toks = r.toks ∧ r'.hostToks = r.hostToks ∧
      (∀ k, k.reflexive = true →
        mapGet r'.annots k = lastOr (fun o => (saysAnnotation k o).map some) (mapGet r.annots k) opts) := by
  induction opts generalizing r with
  | nil => exact ⟨r, rfl, rfl, rfl, rfl, by simp, rfl, rfl, rfl, fun _ _ => rfl⟩
  | cons o os ih =>
    obtain ⟨r', g0, g1, g2, g3, g4, g5, g6, g7, g8⟩ := ih (applied r o) fun o' ho' => hv o' (List.mem_cons_of_mem _ ho')
    refine ⟨r', ?_, ?_, ?_, ?_, ?_, g5, g6, g7, ?_⟩
    · rw [applyRouteOpts, applyRoute_eq, if_pos (hv o List.mem_cons_self)]
      exact g0
    · rw [g1, lastOr_cons]; rfl
    · rw [g2, lastOr_cons]; rfl
    · rw [g3, lastOr_cons]; rfl
    · rw [g4]; simp [applied]
    · intro k hk; rw [g8 k hk, mapGet_applied r o k hk, lastOr_cons]

theorem applyRouteOpts_invalid (opts : List RouteOpt) (r : RouteCfg) (hv : ∃ o ∈ opts, optValid o = false) :
    applyRouteOpts r opts = .invalidConfig := by
  induction opts generalizing r with
  | nil => simp at hv
  | cons o os ih =>
    rw [applyRouteOpts, applyRoute_eq]
    cases ho : optValid o with
    | false => rfl
    | true =>
      refine ih _ ?_
      obtain ⟨o', hm, hf⟩ := hv
      rcases List.mem_cons.1 hm with rfl | hm
      · rw [ho] at hf; cases hf
      · exact ⟨o', hm, hf⟩

theorem applyRouteOpts_cases (os : List RouteOpt) (r : RouteCfg) :
    applyRouteOpts r os = .invalidConfig ∨
    ∃ r', applyRouteOpts r os = .ok r' ∧ r'.pattern = r.pattern ∧ r'.toks = r.toks ∧ r'.hostToks = r.hostToks := by
  by_cases hv : ∀ o ∈ os, optValid o = true
  · obtain ⟨r', g0, _, _, _, _, g5, g6, g7, _⟩ := applyRouteOpts_valid os r hv
    exact .inr ⟨r', g0, g5, g6, g7⟩
  · exact .inl (applyRouteOpts_invalid os r (by simpa using hv))

/-- **Fold.** `NewRoute` with a non-nil handler and a pattern that parses: if every option is well-formed the route is
    the router's configuration at creation time overridden field by field by the *last* option that speaks about the
    field — redirect/ignore flags (enabling one clears the other; disabling says nothing about the other), resolver
    (nil ⇒ none), own middleware appended in order behind the router's, annotations (last value per key) — with pattern,
    tokens and host split untouched; if some option is ill-formed (nil middleware, nil or unhashable annotation key) the
    result is ErrInvalidConfig. -/
theorem fold (cfg : RouterCfg) (p : Bytes) (toks : List Tok) (h : Nat) (opts : List RouteOpt)
    (hp : parsePattern p = some (toks, h)) (hg : ∀ m ∈ cfg.mws, m.g = true) :
    ((∀ o ∈ opts, optValid o = true) →
      ∃ r, newRoute cfg p false opts = .ok r ∧
        (⟨r.redirectTS, r.ignoreTS, r.clientip, r.own⟩ : RouteView) = routeView cfg opts ∧
        r.mws = cfg.mws ++ (opts.flatMap ownOf).map mkOwn ∧
        r.pattern = p ∧ r.toks = toks ∧ r.hostToks = h ∧
        (∀ k, k.reflexive = true → r.annotation k = annotationOf opts k)) ∧
    ((∃ o ∈ opts, optValid o = false) → newRoute cfg p false opts = .invalidConfig) := by
  constructor
  · intro hv
    obtain ⟨r, g0, g1, g2, g3, g4, g5, g6, g7, g8⟩ := applyRouteOpts_valid opts (routeDefaults cfg p toks h) hv
    refine ⟨r, by simp [newRoute, hp, g0], ?_, g4, g5, g6, g7, fun k hk => by
      rw [RouteCfg.annotation, g8 k hk]; simp [routeDefaults, mapGet, annotationOf]⟩
    simp only [routeView, RouteView.mk.injEq]
    refine ⟨g1, g2, g3, ?_⟩
    rw [RouteCfg.own, g4]
    exact filter_routeMws _ cfg.mws _ (fun m hm => by simp [hg m hm]) fun _ => rfl
  · intro hv
    simp [newRoute, hp, applyRouteOpts_invalid opts _ hv]

/-- **Last option wins.** Whatever came before: a final `WithIgnoreTrailingSlash(true)` leaves the route with ignore on and
    redirect off, a final `WithRedirectTrailingSlash(true)` the converse, a final `(false)` switches only its own mode
    off, a final `WithClientIPResolver(x)` makes `x` the resolver (nil ⇒ none), a final `WithAnnotation(k, v)` makes `v`
    the value of `k`. -/
theorem last_wins (cfg : RouterCfg) (opts : List RouteOpt) (b : Bool) (x : Option Nat) (k : AnnKey) (v : Nat) :
    (routeView cfg (opts ++ [.ignoreTS true])).ignoreTS = true ∧ (routeView cfg (opts ++ [.ignoreTS true])).redirectTS = false ∧
    (routeView cfg (opts ++ [.redirectTS true])).redirectTS = true ∧ (routeView cfg (opts ++ [.redirectTS true])).ignoreTS = false ∧
    (routeView cfg (opts ++ [.ignoreTS false])).ignoreTS = false ∧
    (routeView cfg (opts ++ [.ignoreTS false])).redirectTS = (routeView cfg opts).redirectTS ∧
    (routeView cfg (opts ++ [.redirectTS false])).redirectTS = false ∧
    (routeView cfg (opts ++ [.redirectTS false])).ignoreTS = (routeView cfg opts).ignoreTS ∧
    (routeView cfg (opts ++ [.clientIP x])).clientip = x ∧
    annotationOf (opts ++ [.annotation k v]) k = some v ∧
    (routeView cfg []) = ⟨cfg.redirectTS, cfg.ignoreTS, cfg.clientip, []⟩ := by
  simp only [routeView, annotationOf, lastOr_snoc]
  refine ⟨rfl, rfl, rfl, rfl, rfl, rfl, rfl, rfl, rfl, ?_, rfl⟩
  simp [saysAnnotation]

theorem applyGlobal_cases (c : RouterCfg) (o : GlobalOpt) :
    (gOptValid o = false ∧ applyGlobal c o = .invalidConfig) ∨
    (gOptValid o = true ∧ ∃ c', applyGlobal c o = .ok c' ∧
      ((c.redirectTS && c.ignoreTS) = false → (c'.redirectTS && c'.ignoreTS) = false)) := by
  cases o with
  | middleware ms | middlewareFor _ ms =>
    rw [applyGlobal, ofAppend_appendMws]
    by_cases hn : none ∈ ms
    · exact .inl ⟨by simp [gOptValid, hn], if_pos hn⟩
    · exact .inr ⟨by simp [gOptValid, hn], _, if_neg hn, id⟩
  | noRouteHandler n | noMethodHandler n | optionsHandler n =>
    cases n
    · exact .inr ⟨rfl, _, rfl, id⟩
    · exact .inl ⟨rfl, rfl⟩
  | redirectTS b | ignoreTS b => cases b <;> exact .inr ⟨rfl, _, rfl, by simp⟩
  | clientIP r => cases r <;> exact .inr ⟨rfl, _, rfl, id⟩
  | defaults | autoOptions | noMethod => exact .inr ⟨rfl, _, rfl, id⟩

theorem newRouterFrom_cases (os : List GlobalOpt) (c : RouterCfg) :
    ((∃ o ∈ os, gOptValid o = false) ∧ newRouterFrom c os = .invalidConfig) ∨
    ((∀ o ∈ os, gOptValid o = true) ∧ ∃ c', newRouterFrom c os = .ok c' ∧
      ((c.redirectTS && c.ignoreTS) = false → (c'.redirectTS && c'.ignoreTS) = false)) := by
  induction os generalizing c with
  | nil => exact .inr ⟨nofun, c, rfl, id⟩
  | cons o os ih =>
    rcases applyGlobal_cases c o with ⟨hv, ho⟩ | ⟨hv, c1, ho, h1⟩
    · exact .inl ⟨⟨o, List.mem_cons_self, hv⟩, by simp only [newRouterFrom, ho]⟩
    · simp only [newRouterFrom, ho]
      rcases ih c1 with ⟨⟨o', hm, hf⟩, hn⟩ | ⟨hall, c', hn, h2⟩
      · exact .inl ⟨⟨o', List.mem_cons_of_mem _ hm, hf⟩, hn⟩
      · exact .inr ⟨List.forall_mem_cons.2 ⟨hv, hall⟩, c', hn, fun h => h2 (h1 h)⟩

/-- "not both on" is kept option by option: whichever option says `true` about one flag says `false` about the other -/
theorem lastOr_exclusive (opts : List RouteOpt) (r i : Bool) (h : (r && i) = false) :
    (lastOr saysRedirect r opts && lastOr saysIgnore i opts) = false := by
  induction opts generalizing r i with
  | nil => exact h
  | cons o os ih =>
    rw [lastOr_cons, lastOr_cons]
    apply ih
    cases o with
    | redirectTS b => cases b <;> rfl
    | ignoreTS b =>
      cases b
      · exact Bool.and_false r
      · rfl
    | _ => exact h

/-- **Mutual exclusion.** A router built by `New` never has both trailing-slash modes on, and neither has any route
    created on it, whatever the global and route options were. -/
theorem ts_exclusive (gopts : List GlobalOpt) (cfg : RouterCfg) (hn : newRouter gopts = .ok cfg) (opts : List RouteOpt) :
    (cfg.redirectTS && cfg.ignoreTS) = false ∧
    ((routeView cfg opts).redirectTS && (routeView cfg opts).ignoreTS) = false := by
  have h1 : (cfg.redirectTS && cfg.ignoreTS) = false := by
    rcases newRouterFrom_cases gopts {} with ⟨_, h⟩ | ⟨_, c', h, h1⟩
    · rw [Model.Opt.newRouter, h] at hn; cases hn
    · rw [Model.Opt.newRouter, h] at hn; cases hn; exact h1 rfl
  exact ⟨h1, lastOr_exclusive opts _ _ h1⟩

/-- **Accessors.** For every route `NewRoute` returns: `Hostname()` followed by `Path()` is `Pattern()`, which is the
    pattern passed in; `ParamsLen()` is the number of wildcard tokens of the pattern; no option changes either. -/
theorem accessors (cfg : RouterCfg) (p : Bytes) (opts : List RouteOpt) (r : RouteCfg)
    (h : newRoute cfg p false opts = .ok r) :
    r.hostname ++ r.path = r.pattern ∧ r.pattern = p ∧
    (∃ toks, tokenize p = some toks ∧ r.paramsLen = (toks.filter isWild).length) := by
  unfold newRoute at h
  simp only [Bool.false_eq_true, if_false] at h
  cases hp : parsePattern p with
  | none => simp [hp] at h
  | some th =>
    obtain ⟨toks, hh⟩ := th
    simp only [hp] at h
    -- the options leave pattern, tokens and host split alone, valid or not
    obtain ⟨k1, k2, k3⟩ : r.pattern = p ∧ r.toks = toks ∧ r.hostToks = hh := by
      rcases applyRouteOpts_cases opts (routeDefaults cfg p toks hh) with g | ⟨r', g, gs⟩
      · rw [g] at h; cases h
      · rw [g] at h; cases h; exact gs
    have htok : tokenize p = some toks := by
      unfold parsePattern at hp
      cases ht : tokenize p with
      | none => simp [ht] at hp
      | some t => simp only [ht] at hp; split at hp <;> simp at hp; rw [hp.1]
    refine ⟨?_, k1, toks, htok, ?_⟩
    · simp only [RouteCfg.hostname, RouteCfg.path, RouteCfg.asRoute, Route.hostPart, Route.pathPart, k1, k2]
      rw [← Model.render_tokenize htok]
      simp only [render, ← List.flatMap_append, List.take_append_drop]
    · simp [RouteCfg.paramsLen, RouteCfg.asRoute, Route.psLen, k2]

/-- **ClientIP.** `Context.ClientIP` asks the matched route's resolver inside a route handler and the router's resolver
    inside every other handler (`c.route` is nil there). That a route whose resolver was set to nil has none, even when
    the router has one, is `fold` (`saysResolver`). -/
theorem clientip_selection (cfg : RouterCfg) (r : RouteCfg) (k : Kind) :
    clientIPResolver cfg (ctxRouteFor k r) = (if k = .route then r.clientip else cfg.clientip) := by
  cases k <;> rfl

/-- the same through the context model of C12: whatever the recycled context held, `c.route` — the field ClientIP
    dispatches on — is the matched route on the two route branches of ServeHTTP and nil on every other branch -/
theorem clientip_ctx_route (env : Model.Ctx.Env) (b : Model.Ctx.Branch) (w r : Nat) (o : Model.Ctx.LookupOut)
    (lz : List Model.Ctx.LookupOut) (H : Model.Ctx.Heap) (c : Model.Ctx.Ctx) (hw : C12.WF c) (hb : C12.Consistent b o) :
    (Model.Ctx.serve b w r o lz H c).2.route =
      (match b with | .direct => o.found | .ignoredSlash => o.found | _ => none) := by
  have h := congrArg Model.Ctx.View.route (C12.serve_view env b w r o lz H c hw hb)
  simp only [Model.Ctx.view, Spec.Ctx.serveView, Spec.Ctx.routeFor] at h
  rw [h]; cases b <;> rfl

/-- **Invalid ⇒ error, never panic.** `New` and `NewRoute` / `Handle` / `Update` only ever answer with a value,
    ErrInvalidConfig or ErrInvalidRoute; a nil handler is ErrInvalidRoute on all three entry points, a nil special
    handler or nil middleware ErrInvalidConfig, a nil or unhashable annotation key ErrInvalidConfig.
    (`reflect` is not modelled: `hashable` is an input bit.) -/
theorem invalid_no_panic (cfg : RouterCfg) (gopts : List GlobalOpt) (p : Bytes) (methodOk : Bool) (opts : List RouteOpt) (hn : Bool) :
    newRouter gopts ≠ .panic ∧ newRoute cfg p hn opts ≠ .panic ∧ handle cfg methodOk p hn opts ≠ .panic ∧
    newRoute cfg p true opts = .invalidRoute ∧ handle cfg methodOk p true opts = .invalidRoute ∧
    ((∃ o ∈ gopts, gOptValid o = false) → newRouter gopts = .invalidConfig) := by
  have hnr : ∀ hn, newRoute cfg p hn opts ≠ .panic := by
    intro hn
    unfold newRoute
    cases hn
    · simp only [Bool.false_eq_true, if_false]
      cases parsePattern p with
      | none => exact nofun
      | some th =>
        obtain ⟨toks, hh⟩ := th
        rcases applyRouteOpts_cases opts (routeDefaults cfg p toks hh) with g | ⟨_, g, _⟩ <;> simp only [g] <;> exact nofun
    · exact nofun
  have hglob : newRouter gopts ≠ .panic ∧ ((∃ o ∈ gopts, gOptValid o = false) → newRouter gopts = .invalidConfig) := by
    rcases newRouterFrom_cases gopts {} with ⟨_, h⟩ | ⟨hall, _, h, _⟩
    · exact ⟨by rw [Model.Opt.newRouter, h]; exact nofun, fun _ => h⟩
    · refine ⟨by rw [Model.Opt.newRouter, h]; exact nofun, fun ⟨o, hm, hf⟩ => ?_⟩
      rw [hall o hm] at hf; cases hf
  refine ⟨hglob.1, hnr hn, ?_, rfl, rfl, hglob.2⟩
  unfold handle
  cases hn
  · cases methodOk
    · simp
    · simpa using hnr false
  · simp

/-- non-vacuity: contradictory options, an overridden resolver and a re-set annotation -/
example :
    let cfg : RouterCfg := { redirectTS := true, clientip := some 7 }
    let k : AnnKey := ⟨1, 5, false, true, true⟩
    routeView cfg [.ignoreTS true, .redirectTS false, .clientIP none, .annotation k 1, .annotation k 2] =
      ⟨false, true, none, []⟩ ∧
    annotationOf [.annotation k 1, .annotation k 2] k = some 2 := by decide

end Fox.C19
