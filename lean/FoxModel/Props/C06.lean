import FoxModel.Lemmas.Proto
import FoxModel.Generated.ReadPaths
/-
  Property C06 — reads never wait for writers. Protocol part over `Fox.Model.Proto` (every state, every schedule);
  code part by `decide` over the call table regenerated from the Go sources (`Generated/ReadPaths.lean`,
  `Generated/SyncOrder.lean`). Trusted: name-based call resolution of foxfacts, the Go runtime (sync.Pool, atomic).
-/
namespace Fox.C06
open Fox.Model.Proto Fox.Generated

variable {σ : Type}

/-- Every action other than `lock` is enabled in EVERY state — whatever `mu` is, whoever holds it, for however long. -/
theorem nonlock_enabled (s : State σ) (i : Tid) {a : Act} {r : List Act} (hpc : (s.thr i).pc = a :: r)
    (ha : a ≠ .lock) : enabled s i = true := by
  rw [enabled, hpc]
  cases a with
  | lock => exact absurd rfl ha
  | _ => rfl

/-- A pending reader action (`load`, then `ret`) is enabled in every state of the model, in particular while a writer
    `w` is parked between its lock and its unlock (`s.mu = some w`) at any point of its program. -/
theorem reader_enabled (s : State σ) (i : Tid) (h : (s.thr i).pc = readerProg ∨ (s.thr i).pc = [.ret]) :
    enabled s i = true := by
  rcases h with h | h
  · exact nonlock_enabled s i h (by decide)
  · exact nonlock_enabled s i h (by decide)

theorem applyMove_other (s : State σ) (m : Move σ) {i : Tid} (h : m.tid ≠ i) : (applyMove s m).thr i = s.thr i := by
  cases m with
  | act j =>
    rw [applyMove]
    split
    · exact exec_thr_other s (Ne.symm h)
    · rfl
  | call j p f =>
    rw [applyMove]
    split
    · exact invoke_thr_other s p f (Ne.symm h)
    · rfl

/-- what the other threads do never touches thread `i`'s program counter or locals -/
theorem run_other (s : State σ) (ms : List (Move σ)) {i : Tid} (h : ∀ m ∈ ms, m.tid ≠ i) :
    (run s ms).thr i = s.thr i := by
  induction ms generalizing s with
  | nil => rfl
  | cons m ms ih =>
    exact (ih (applyMove s m) fun m' hm' => h m' (List.mem_cons_of_mem _ hm')).trans
      (applyMove_other s m (h m (List.mem_cons_self ..)))

/-- A pending action other than `lock` is enabled after any moves of the other threads, and performing it consumes it: a
    thread whose remaining program holds no `lock` finishes in as many steps of its own as it has actions left, whatever
    the others do in between. -/
theorem nonlock_step (s : State σ) (i : Tid) {a : Act} {r : List Act} (hpc : (s.thr i).pc = a :: r) (ha : a ≠ .lock)
    (ms : List (Move σ)) (h : ∀ m ∈ ms, m.tid ≠ i) :
    enabled (run s ms) i = true ∧ ((exec (run s ms) i).thr i).pc = r := by
  have e : ((run s ms).thr i).pc = a :: r := by rw [run_other s ms h]; exact hpc
  exact ⟨nonlock_enabled _ i e ha, exec_pc e⟩

/-- A read completes within its own two actions, whatever all other threads do before, between and after them (any
    moves `ms1`, `ms2` of other threads: writers locking, storing, staying parked, new calls starting …): both actions
    are enabled when their turn comes and after the second one the call has returned. -/
theorem reader_wait_free (s : State σ) (i : Tid) (hpc : (s.thr i).pc = readerProg)
    (ms1 ms2 : List (Move σ)) (h1 : ∀ m ∈ ms1, m.tid ≠ i) (h2 : ∀ m ∈ ms2, m.tid ≠ i) :
    let s1 := run s ms1
    let s2 := run (exec s1 i) ms2
    enabled s1 i = true ∧ enabled s2 i = true ∧ ((exec s2 i).thr i).pc = [] := by
  intro s1 s2
  obtain ⟨e1, p1⟩ := nonlock_step s i hpc (by decide) ms1 h1
  obtain ⟨e2, p2⟩ := nonlock_step (exec s1 i) i p1 (by decide) ms2 h2
  exact ⟨e1, e2, p2⟩

/-- A thread that cannot move is a writer at its `lock`, and the lock is held by ANOTHER thread that is a writer between
    its lock and its unlock: writers wait only for writers (and nobody else ever waits). -/
theorem writers_wait_only_for_writers {v0 : σ} {s : State σ} (h : Reach v0 s) (i : Tid)
    (hpc : (s.thr i).pc ≠ []) (hd : enabled s i = false) :
    (s.thr i).pc.head? = some .lock ∧ ∃ j, j ≠ i ∧ s.mu = some j ∧ inCrit (s.thr j).pc = true := by
  have inv := inv_reach h
  cases hp : (s.thr i).pc with
  | nil => exact absurd hp hpc
  | cons a r =>
    obtain rfl : a = .lock := Decidable.by_contra fun ha => by rw [nonlock_enabled s i hp ha] at hd; cases hd
    rw [enabled, hp] at hd
    cases hmu : s.mu with
    | none => rw [hmu] at hd; cases hd
    | some j =>
      -- the holder is inside its critical section, `i` is still at its `lock`
      have hcrit := (inv.thr j).mutex.2 hmu
      refine ⟨rfl, j, fun e => ?_, rfl, hcrit⟩
      rw [e, hp] at hcrit
      simp [inCrit] at hcrit

/-! "Router.txnWith", "Router.Txn", "Router.View", "txnWith", "Txn", "fox.mu.Lock()", "write", "false" as bytes (what
    `no_blocking_on_read_paths` compares with) -/
def bRouterTxnWith : List Nat := [82, 111, 117, 116, 101, 114, 46, 116, 120, 110, 87, 105, 116, 104]
def bRouterTxn : List Nat := [82, 111, 117, 116, 101, 114, 46, 84, 120, 110]
def bRouterView : List Nat := [82, 111, 117, 116, 101, 114, 46, 86, 105, 101, 119]
def bTxnWith : List Nat := [116, 120, 110, 87, 105, 116, 104]
def bTxn : List Nat := [84, 120, 110]
def bMuLock : List Nat := [102, 111, 120, 46, 109, 117, 46, 76, 111, 99, 107, 40, 41]
def bWrite : List Nat := [119, 114, 105, 116, 101]
def bFalse : List Nat := [102, 97, 108, 115, 101]

/-- CODE FACT (regenerated from the Go sources on every run): among all package functions statically reachable from
    the read entry points (ServeHTTP, Lookup, Reverse, Has, Route, Len, Iter and every Iter method, View, Txn/txnWith, the
    read methods of Txn, every method of the request context) the ONLY blocking primitive (mutex / rwmutex lock, channel
    send / receive, select, Cond/WaitGroup wait, time.Sleep, go statement) is `fox.mu.Lock()` inside `txnWith`, under
    the condition `write`; and the only calls on those paths that begin a transaction are `View → Txn(false)` and the
    pass-through `Txn(write) → txnWith(write, …)`. A lock added to any read path breaks this theorem. -/
theorem no_blocking_on_read_paths :
    readBlocking.map BlockSite.key = [(bRouterTxnWith, .mutexLock, bMuLock, bWrite)] ∧
    readBegins.map BeginSite.key = [(bRouterTxn, bTxnWith, bWrite), (bRouterView, bTxn, bFalse)] := by
  decide +kernel

/-- A read-only transaction — Txn(false), its Commit and its Abort — performs one `load` and no lock / unlock / store:
    compiled from the regenerated event order of txnWith, Txn.Commit, Txn.Abort with `write = false`. `View` has no
    synchronisation of its own and `getRoot` is one `load`. -/
theorem readonly_txn :
    actsOf false sync_txnWith = [.load] ∧ actsOf false sync_Commit = [] ∧ actsOf false sync_Abort = [] ∧
    actsOf false sync_View = [] ∧ actsOf false sync_getRoot = [.load] := by
  decide +kernel

/-! non-vacuity: a writer parked for ever inside its critical section; a reader starts and finishes. -/
section Example
def parked : State Nat := run (invoke (init 0) 1 commitProg (· + 1)) [.act 1, .act 1, .act 1]
example : parked.mu = some 1 := by decide +kernel
def withReader : State Nat := run (invoke parked 2 readerProg id) [.act 2, .act 1, .act 2]
example : (withReader.thr 2).pc = [] := by decide +kernel
example : withReader.mu = some 1 := by decide +kernel
/-- a second writer does wait -/
example : enabled (invoke parked 3 commitProg id) 3 = false := by decide +kernel
end Example

end Fox.C06
