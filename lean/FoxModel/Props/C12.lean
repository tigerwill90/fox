import FoxModel.Generated.CtxFields
import FoxModel.Generated.Consts
import FoxModel.Spec.Context
/-
  Property C12 — a Context only ever shows the current request.
  Non-interference: whatever the recycled context and its buffers held, the handler sees the same thing.
-/
namespace Fox.C12
open Fox Fox.Model.Ctx Fox.Spec.Ctx

/-- the two buffers of a pooled context are distinct allocations (tree.go allocateContext) -/
def WF (c : Ctx) : Prop := c.params ≠ c.tsrParams

theorem allocate_wf (p t : BufId) (h : p ≠ t) : WF (allocate p t) := h

/-- the branch taken by ServeHTTP agrees with what the lookup returned: the ignored-trailing-slash branch is only taken
    with `tsr = true` (fox.go: `if … && tsr { if n.route.ignoreTrailingSlash {` ) -/
def Consistent (b : Branch) (o : LookupOut) : Prop := b = .ignoredSlash → o.tsr = true

@[simp] theorem get_set_self (H : Heap) (i : BufId) (v : Binds) : (H.set i v).get i = v := by simp [Heap.set]
theorem get_set_ne (H : Heap) (i j : BufId) (v : Binds) (h : j ≠ i) : (H.set i v).get j = H.get j := by simp [Heap.set, h]

theorem lookupLazies_inv (lz : List LookupOut) (H : Heap) (c : Ctx) (hp : H.get c.params = []) (ht : c.tsr = false) :
    ∃ sk, (lookupLazies lz H c).2 = { c with skipNds := sk } ∧ (lookupLazies lz H c).1.get c.params = [] ∧
      ∀ j, j ≠ c.params → (lookupLazies lz H c).1.get j = H.get j := by
  induction lz generalizing H c with
  | nil => exact ⟨c.skipNds, rfl, hp, fun _ _ => rfl⟩
  | cons o os ih =>
    obtain ⟨sk, h1, h2, h3⟩ := ih (if o.viaHost then H else H.set c.params [])
      { c with skipNds := o.skip, tsr := if o.viaHost then c.tsr else false }
      (by cases o.viaHost <;> simp [hp]) (by cases o.viaHost <;> simp [ht])
    simp only [lookupLazies, lookupLazy]
    refine ⟨sk, by rw [h1]; simp [ht], h2, fun j hj => ?_⟩
    rw [h3 j hj]
    cases o.viaHost
    · exact get_set_ne _ _ _ _ hj
    · rfl

theorem recView_fresh (w : Nat) :
    recView { under := .http w, status := 200, size := notWritten, hijacked := false } false = freshWriter w := by
  simp [recView, freshWriter, notWritten]

theorem view_branch_special (env : Env) (b : Branch) (hb : b = .options ∨ b = .noMethod ∨ b = .noRoute)
    (o : LookupOut) (lz : List LookupOut) (H : Heap) (c : Ctx) :
    view env (branchAssign b o lz H c).1 (branchAssign b o lz H c).2 =
      { req := c.req, w := wview env c, params := [], route := none,
        query := (match c.cachedQuery with | some q => some q | none => c.req), scope := scopeFor b } := by
  obtain ⟨sk, h1, h2, _⟩ :=
    lookupLazies_inv lz (H.set c.params []) { c with route := none, tsr := false } (get_set_self ..) rfl
  rcases hb with rfl | rfl | rfl <;>
  · simp [branchAssign, view, wview, scopeFor, h1, h2]
    rfl

theorem reset_lookup (w r : Nat) (o : LookupOut) (H : Heap) (c : Ctx) (hw : WF c) :
    let p := lookup o (reset w r H c).1 (reset w r H c).2
    p.2.req = some r ∧ p.2.w = .own ∧ p.2.rcd = { under := .http w, status := 200, size := notWritten, hijacked := false } ∧
    p.2.cachedQuery = none ∧ p.2.scope = RouteHandler ∧ p.2.params = c.params ∧ p.2.tsrParams = c.tsrParams ∧
    p.1.get c.params = o.params ∧ (o.tsr = true → p.1.get c.tsrParams = o.params ++ o.tsrParams) := by
  refine ⟨rfl, rfl, rfl, rfl, rfl, rfl, rfl, ?_, ?_⟩
  · simp only [reset, lookup, get_set_self, List.nil_append, ite_self]
    cases o.tsr <;> simp [get_set_ne _ _ _ _ hw]
  · intro ht
    simp only [reset, lookup, get_set_self, List.nil_append, ite_self, ht, if_true]

/-- the handler of branch `b` sees exactly the fresh view of the current request -/
theorem serve_view (env : Env) (b : Branch) (w r : Nat) (o : LookupOut) (lz : List LookupOut) (H : Heap) (c : Ctx)
    (hw : WF c) (hb : Consistent b o) :
    view env (serve b w r o lz H c).1 (serve b w r o lz H c).2 = serveView b w r o := by
  obtain ⟨r1, r2, r3, r4, r5, r6, r7, r8, r9⟩ := reset_lookup w r o H c hw
  unfold Consistent at hb
  simp only [serve]
  cases b with
  | options | noMethod | noRoute =>
    rw [view_branch_special env _ (by decide)]
    simp [wview, serveView, paramsFor, routeFor, r1, r2, r3, r4, recView_fresh]
  | direct | ignoredSlash | redirect =>
    simp [branchAssign, view, wview, serveView, paramsFor, routeFor, scopeFor, r1, r2, r3, r4, r5, r6, r7, r8, r9, hb,
      recView_fresh]

/-- **Non-interference, ServeHTTP.** For every branch (direct, ignored trailing slash, redirect, OPTIONS, 405, 404), any
    writer, request, lookup result and Allow-loop lookups: whatever two recycled contexts (and buffer heaps) held, the
    handler of the branch is called with contexts whose getters return the same values. -/
theorem noninterference_serve (env : Env) (b : Branch) (w r : Nat) (o : LookupOut) (lz : List LookupOut)
    (H₁ H₂ : Heap) (c₁ c₂ : Ctx) (h₁ : WF c₁) (h₂ : WF c₂) (hb : Consistent b o) :
    view env (serve b w r o lz H₁ c₁).1 (serve b w r o lz H₁ c₁).2 =
    view env (serve b w r o lz H₂ c₂).1 (serve b w r o lz H₂ c₂).2 := by
  rw [serve_view env b w r o lz H₁ c₁ h₁ hb, serve_view env b w r o lz H₂ c₂ h₂ hb]

/-- the context returned by `Lookup` shows exactly the lookup of the current request -/
theorem lookupEntry_view (env : Env) (w r : Nat) (o : LookupOut) (H : Heap) (c : Ctx) (hw : WF c) :
    view env (lookupEntry w r o H c).1 (lookupEntry w r o H c).2 = lookupView env w r o := by
  simp only [lookupEntry, resetWithWriter, lookup, view, wview, lookupView, extWriter, get_set_self, List.nil_append, ite_self]
  cases ht : o.tsr <;> simp

/-- **Non-interference, Lookup** (Router.Lookup and Txn.Lookup run the same statements): whatever the recycled context
    held, the returned ContextCloser shows the given writer, the given request and the parameters of this lookup. -/
theorem noninterference_lookup (env : Env) (w r : Nat) (o : LookupOut) (H₁ H₂ : Heap) (c₁ c₂ : Ctx) (h₁ : WF c₁) (h₂ : WF c₂) :
    view env (lookupEntry w r o H₁ c₁).1 (lookupEntry w r o H₁ c₁).2 =
    view env (lookupEntry w r o H₂ c₂).1 (lookupEntry w r o H₂ c₂).2 := by
  rw [lookupEntry_view env w r o H₁ c₁ h₁, lookupEntry_view env w r o H₂ c₂ h₂]

theorem cloneWith_view (env : Env) (w r : Nat) (c : Ctx) (H : Heap) (cp : Ctx) :
    view env (cloneWith w r c H cp).1 (cloneWith w r c H cp).2 = cloneWithView env w r (view env H c) := by
  unfold cloneWith
  cases ht : c.tsr <;> simp [view, wview, cloneWithView, extWriter, ht]

/-- **Non-interference, CloneWith.** The copy shows the given writer and request and the route, scope and parameters
    of the source, whatever the pooled context used for the copy held; nothing of the source's query cache survives. -/
theorem noninterference_clonewith (env : Env) (w r : Nat) (c : Ctx) (H₁ H₂ : Heap) (cp₁ cp₂ : Ctx)
    (hH : view env H₁ c = view env H₂ c) :
    view env (cloneWith w r c H₁ cp₁).1 (cloneWith w r c H₁ cp₁).2 =
    view env (cloneWith w r c H₂ cp₂).1 (cloneWith w r c H₂ cp₂).2 := by
  rw [cloneWith_view, cloneWith_view, hH]

/-- **Clone copies.** The clone shows the request, route, scope and parameters of the source, no query cache, and a
    discarding writer holding a copy of the current writer's headers and its status / size / written state — the state of
    `c.w`, which for contexts from Lookup or CloneWith is not the embedded recorder; the recycled recorder contributes
    nothing (in particular not its hijacked flag). -/
theorem clone_copies (env : Env) (fresh nilBuf : BufId) (c : Ctx) (H : Heap) :
    view env (clone env fresh nilBuf c H).1 (clone env fresh nilBuf c H).2 = cloneView (view env H c) := by
  have hh : hdrOf c = (wview env c).hdr := by
    unfold hdrOf wview; cases c.w <;> simp [recView]
  unfold clone
  cases ht : c.tsr <;>
  · simp only [hh, view, cloneView, ht, Bool.not_false, Bool.not_true, if_true, Bool.false_eq_true, if_false, get_set_self]
    generalize wview env c = wv
    obtain ⟨p, d, hd, st, sz, wr, hj⟩ := wv
    -- written: the size copied is a `Nat` cast, so it is neither negative nor the sentinel
    cases wr <;> simp [wview, recView, notWritten] <;> omega

/-- the buffers a step on a context can write are the context's own two -/
theorem serve_frame (b : Branch) (w r : Nat) (o : LookupOut) (lz : List LookupOut) (H : Heap) (c : Ctx) (j : BufId)
    (hp : j ≠ c.params) (ht : j ≠ c.tsrParams) : (serve b w r o lz H c).1.get j = H.get j := by
  have lazies : ∀ (H : Heap) (c' : Ctx), c'.params = c.params → c'.tsr = false →
      (lookupLazies lz (H.set c.params []) c').1.get j = H.get j := by
    intro H c' hc ht'
    obtain ⟨_, _, _, h⟩ := lookupLazies_inv lz (H.set c.params []) c' (by rw [hc]; exact get_set_self ..) ht'
    rw [h j (hc ▸ hp), get_set_ne _ _ _ _ hp]
  -- reset and the lookup write the context's two buffers only; so does the branch
  have h12 : (lookup o (reset w r H c).1 (reset w r H c).2).1.get j = H.get j := by
    simp only [reset, lookup]
    cases o.tsr <;> simp [get_set_ne, hp, ht]
  rw [← h12]
  simp only [serve]
  cases b with
  | direct | ignoredSlash => rfl
  | redirect => exact get_set_ne _ _ _ _ hp
  | options | noMethod | noRoute => exact lazies _ _ rfl rfl

theorem lookupEntry_frame (w r : Nat) (o : LookupOut) (H : Heap) (c : Ctx) (j : BufId)
    (hp : j ≠ c.params) (ht : j ≠ c.tsrParams) : (lookupEntry w r o H c).1.get j = H.get j := by
  simp only [lookupEntry, resetWithWriter, lookup]
  cases o.tsr <;> simp [get_set_ne, hp, ht]

/-- **Clone buffers are fresh.** The clone reads its parameters from the newly allocated buffer only; hence when the
    original goes back to the pool and serves any later request (any branch) or Lookup, the clone's view is unchanged. -/
theorem clone_stable (env : Env) (fresh nilBuf : BufId) (c : Ctx) (H : Heap)
    (hp : fresh ≠ c.params) (ht : fresh ≠ c.tsrParams) :
    let cl := clone env fresh nilBuf c H
    (if c.tsr then cl.2.tsrParams else cl.2.params) = fresh ∧
    (∀ H' : Heap, H'.get fresh = cl.1.get fresh → view env H' cl.2 = view env cl.1 cl.2) ∧
    (∀ b w r o lz, view env (serve b w r o lz cl.1 c).1 cl.2 = view env cl.1 cl.2) ∧
    (∀ w r o, view env (lookupEntry w r o cl.1 c).1 cl.2 = view env cl.1 cl.2) := by
  intro cl
  have hsel : (if c.tsr then cl.2.tsrParams else cl.2.params) = fresh := by
    simp only [cl, clone]; cases c.tsr <;> rfl
  have htsr : cl.2.tsr = c.tsr := by
    simp only [cl, clone]; cases c.tsr <;> rfl
  -- the clone's view reads the heap at `fresh` only
  have key (H' : Heap) (h : H'.get fresh = cl.1.get fresh) : view env H' cl.2 = view env cl.1 cl.2 := by
    simp only [view, htsr, hsel, h]
  exact ⟨hsel, key, fun b w r o lz => key _ (serve_frame b w r o lz _ c fresh hp ht),
    fun w r o => key _ (lookupEntry_frame w r o _ c fresh hp ht)⟩

/-- Clone of a context obtained from Lookup: nothing of the recycled context shows -/
theorem noninterference_clone_of_lookup (env : Env) (fresh nilBuf w r : Nat) (o : LookupOut) (H₁ H₂ : Heap) (c₁ c₂ : Ctx)
    (h₁ : WF c₁) (h₂ : WF c₂) :
    let a := lookupEntry w r o H₁ c₁
    let b := lookupEntry w r o H₂ c₂
    view env (clone env fresh nilBuf a.2 a.1).1 (clone env fresh nilBuf a.2 a.1).2 =
    view env (clone env fresh nilBuf b.2 b.1).1 (clone env fresh nilBuf b.2 b.1).2 := by
  simp only [clone_copies, lookupEntry_view env w r o H₁ c₁ h₁, lookupEntry_view env w r o H₂ c₂ h₂]

/-! ### the field table (regenerated from context.go / fox.go / txn.go on every run) -/

def subset (a b : List String) : Bool := a.all b.contains

/-- fields that are never reassigned after allocation, and the two parameter buffers, whose contents are covered by the
    non-interference theorems above (a getter reads `tsrParams` only when `tsr` is set, and then the lookup wrote it) -/
def exempt : List String := ["tree", "fox", "params", "tsrParams"]

def covered (assigned : List String) : Bool :=
  Generated.getterReads.all fun g => g.2.all fun f => assigned.contains f || exempt.contains f

/-- **Every field a getter reads is assigned on every acquisition path before a handler can call the getter**: on each
    of the six ServeHTTP branches, in Router.Lookup and Txn.Lookup, in CloneWith and in Clone (`rec` only matters where
    the writer is the embedded recorder, i.e. on the ServeHTTP paths and in Clone, and is assigned there). -/
theorem fields_reset :
    Generated.serveBranches.map (·.1) = ["direct", "ignoredSlash", "redirect", "options", "noMethod", "noRoute"] ∧
    (Generated.serveBranches.all fun b => covered b.2 && b.2.contains "rec") = true ∧
    covered Generated.assigned_lookupRouter = true ∧ covered Generated.assigned_lookupTxn = true ∧
    covered Generated.assigned_CloneWith = true ∧ covered Generated.assigned_Clone = true ∧
    Generated.assigned_Clone.contains "rec" = true := by
  decide +kernel

/-- the source shapes the model was written against: what each reset variant assigns, what each branch of ServeHTTP has
    assigned when it calls its handler, Lookup, CloneWith (including which buffer it copies under which condition), and
    Clone: nothing taken from the recycled recorder, response state read through the current writer `c.w`, buffers
    filled by make + copy -/
theorem ctx_tie :
    Generated.ctxFields = ["cachedQuery", "fox", "params", "rec", "req", "route", "scope", "skipNds", "tree", "tsr", "tsrParams", "w"] ∧
    Generated.assigned_reset = ["cachedQuery", "params", "rec", "req", "scope", "w"] ∧
    Generated.assigned_resetNil = ["cachedQuery", "params", "req", "route", "w"] ∧
    Generated.assigned_resetWithWriter = ["cachedQuery", "params", "req", "route", "scope", "tsr", "w"] ∧
    (Generated.serveBranches.all fun b => b.2 == ["cachedQuery", "params", "rec", "req", "route", "scope", "skipNds", "tsr", "w"]) = true ∧
    Generated.assigned_lookupRouter = ["cachedQuery", "params", "req", "route", "scope", "skipNds", "tsr", "w"] ∧
    Generated.assigned_lookupTxn = Generated.assigned_lookupRouter ∧
    Generated.assigned_CloneWith = ["cachedQuery", "req", "route", "scope", "tsr", "w"] ∧
    Generated.cond_CloneWith = ["tsr=false: copyWithResize(cp.params, c.params)", "tsr=true: copyWithResize(cp.tsrParams, c.tsrParams)"] ∧
    Generated.cloneLiteral = [("fox", "c.fox"), ("req", "c.req.Clone(c.req.Context())"), ("route", "c.route"), ("scope", "c.scope"),
      ("tree", "c.tree"), ("tsr", "c.tsr")] ∧
    Generated.cloneWriterReads = ["c.w.Header", "c.w.Size", "c.w.Status", "c.w.Written"] ∧
    Generated.cloneBufferForms = ["params <- make+copy of c.params", "tsrParams <- make+copy of c.tsrParams"] ∧
    Generated.cloneCond = ["tsr=false: params", "tsr=true: tsrParams"] ∧
    Generated.c_notWritten = notWritten ∧
    Generated.c_RouteHandler = RouteHandler ∧ Generated.c_NoRouteHandler = NoRouteHandler ∧ Generated.c_NoMethodHandler = NoMethodHandler ∧
    Generated.c_RedirectHandler = RedirectHandler ∧ Generated.c_OptionsHandler = OptionsHandler := by
  refine ⟨rfl, rfl, rfl, rfl, ?_, rfl, rfl, rfl, rfl, rfl, rfl, rfl, rfl, rfl, rfl, rfl, rfl, rfl, rfl⟩
  simp only [Generated.serveBranches, List.all_cons, List.all_nil, beq_self_eq_true, Bool.and_self]

/-- **The recorder handed to the next request keeps nothing of the previous one**: the reset method of the recorder embedded
    in the pooled context (the one `cTx.reset` calls) assigns every field the recorder has - the underlying writer, the
    status, the size and the hijacked flag today; a field added later and forgotten in reset breaks this. That the values
    assigned are those of a fresh writer is `recView_fresh` above together with the `ctx` / `rw` streams (second user of a
    pooled context). Regenerated fact (extract/facts_ctx.go `ctxRecorderReset`). -/
theorem recorder_reset_total :
    Generated.recorderFields.length ≥ 4 ∧ Generated.recorderResetAssigned = Generated.recorderFields :=
  ⟨by decide, rfl⟩

/-- non-vacuity / sensitivity: without the `cachedQuery = nil` of reset a stale query cache would show -/
example :
    let H : Heap := ⟨fun _ => []⟩
    let stale : Ctx := { (allocate 1 2) with cachedQuery := some 41 }
    let broken (c : Ctx) : Ctx := { c with rcd := c.rcd.reset 7, req := some 42, w := .own, scope := RouteHandler }
    (view ⟨fun _ => 0, fun _ => 0, fun _ => false⟩ H (broken stale)).query = some 41 ∧
    (view ⟨fun _ => 0, fun _ => 0, fun _ => false⟩ (reset 7 42 H stale).1 (reset 7 42 H stale).2).query = some 42 := by
  decide

end Fox.C12
