import FoxModel.Spec.Logger
import FoxModel.Model.Logger
import FoxModel.Generated.Logger
/-
  Property C20 — the Logger middleware reports what actually happened.
-/
namespace Fox.C20
open Fox Fox.Spec.Logger Fox.Model.Logger

/-! ### ties to logger.go (regenerated on every run) -/

/-- evaluate a partition table `[(exclusive upper end, level), …]` (ascending, last end `none` = +inf) -/
def partLevel : List (Option Int × Int) → Int → Option Int
  | [], _ => none
  | (none, l) :: _, _ => some l
  | (some h, l) :: rest, s => if s < h then some l else partLevel rest s

/-- Shape of the middleware body in logger.go: `next(c)` is called exactly once as a plain statement; the `LogAttrs`
    calls (two today; how many is no fact) come after it, exactly one of them on every control-flow path; the requests
    of one Logger share nothing but the `slog.Logger` (no buffer or counter declared outside the per-request function);
    no defer/go/recover; `c.Writer()` is only read (`Status()`, `Header().Get`); message = `ipStr`, level = `lvl`;
    `location` is only assigned under `lvl == slog.LevelDebug`. -/
theorem logger_facts_tie :
    Generated.loggerNextCalls = 1 ∧ Generated.loggerNextTopLevel = true ∧ 1 ≤ Generated.loggerLogCalls ∧
    Generated.loggerSharedState = ["slog.New"] ∧
    Generated.loggerLogAfterNext = true ∧ Generated.loggerLogExclusive = true ∧
    Generated.loggerNoDeferRecover = true ∧ Generated.loggerWriterReadOnly = true ∧
    Generated.loggerMsgIsIPStr = true ∧ Generated.loggerLocationOnlyAtDebug = true := by decide

/-! ### `level` -/

theorem levelIn_nil (d : Level) (s : Int) : levelIn [] d s = d := rfl

theorem levelIn_cons (b : Bound) (tbl : List Bound) (d : Level) (s : Int) :
    levelIn (b :: tbl) d s = if b.matches s then b.lvl else levelIn tbl d s := by
  unfold levelIn
  rw [List.find?_cons]
  cases b.matches s <;> rfl

/-- `level` for every integer status: INFO on [200,300), DEBUG on [300,400), WARN on [400,500), ERROR from 500 up,
    INFO below 200. -/
theorem level_eq (s : Int) :
    level s = if 200 ≤ s ∧ s < 300 then .info else if 300 ≤ s ∧ s < 400 then .debug
              else if 400 ≤ s ∧ s < 500 then .warn else if 500 ≤ s then .error else .info := by
  simp [level, levelTable, levelDefault, levelIn_cons, levelIn_nil, Bound.matches]

/-- Which of the thresholds a status has reached: everything said about `level` compares the status with these, and
    is settled by rewriting once one knows which hold. -/
theorem bands (s : Int) :
    (¬ 200 ≤ s ∧ ¬ 300 ≤ s ∧ ¬ 400 ≤ s ∧ ¬ 500 ≤ s ∧ ¬ 600 ≤ s) ∨
    (200 ≤ s ∧ ¬ 300 ≤ s ∧ ¬ 400 ≤ s ∧ ¬ 500 ≤ s ∧ ¬ 600 ≤ s) ∨
    (200 ≤ s ∧ 300 ≤ s ∧ ¬ 400 ≤ s ∧ ¬ 500 ≤ s ∧ ¬ 600 ≤ s) ∨
    (200 ≤ s ∧ 300 ≤ s ∧ 400 ≤ s ∧ ¬ 500 ≤ s ∧ ¬ 600 ≤ s) ∨
    (200 ≤ s ∧ 300 ≤ s ∧ 400 ≤ s ∧ 500 ≤ s ∧ ¬ 600 ≤ s) ∨
    (200 ≤ s ∧ 300 ≤ s ∧ 400 ≤ s ∧ 500 ≤ s ∧ 600 ≤ s) := by
  have up {a b : Int} (h : ¬ a ≤ s) (hab : a ≤ b := by decide) : ¬ b ≤ s := fun hb => h (Int.le_trans hab hb)
  by_cases a : 200 ≤ s
  · by_cases b : 300 ≤ s
    · by_cases c : 400 ≤ s
      · by_cases d : 500 ≤ s
        · by_cases e : 600 ≤ s
          · exact .inr (.inr (.inr (.inr (.inr ⟨a, b, c, d, e⟩))))
          · exact .inr (.inr (.inr (.inr (.inl ⟨a, b, c, d, e⟩))))
        · exact .inr (.inr (.inr (.inl ⟨a, b, c, d, up d⟩)))
      · exact .inr (.inr (.inl ⟨a, b, c, up c, up c⟩))
    · exact .inr (.inl ⟨a, b, up b, up b, up b⟩)
  · exact .inl ⟨a, up a, up a, up a, up a⟩

/-- **tie to logger.go (regenerated on every run).** `func level` of logger.go, evaluated by the extractor as Go
    evaluates the switch (first matching case, else default) and written as a partition of the integers, is the
    model's `level` at every integer status. The table is canonical: any reformulation of the switch that computes the
    same function (case order, redundant bounds, `>` for `>=`) regenerates the same table; a different function does not
    pass. -/
theorem level_facts_tie (s : Int) :
    partLevel Generated.loggerLevelPartition s = some (slogValue (level s)) := by
  rw [level_eq]
  simp only [Generated.loggerLevelPartition, partLevel, ← Int.not_le]
  rcases bands s with h | h | h | h | h | h <;> simp [h, slogValue]

/-- on 200..599, where the property speaks, it demands the level `level` gives -/
theorem levelOf_eq_level (s : Int) : levelOf s = if 200 ≤ s ∧ s ≤ 599 then some (level s) else none := by
  have up (k : Int) : s ≤ k ↔ ¬ k + 1 ≤ s := by omega
  rw [level_eq, levelOf]
  simp only [up, Int.reduceAdd, ← Int.not_le]
  rcases bands s with h | h | h | h | h | h <;> simp [h]

/-- The level is the one the property demands for every status it speaks about: INFO for 2xx, DEBUG for 3xx, WARN for
    4xx, ERROR for 5xx. -/
theorem level_meets_spec (s : Int) (l : Level) (h : levelOf s = some l) : level s = l := by
  rw [levelOf_eq_level] at h
  split at h
  · exact Option.some.inj h
  · cases h

/-- Outside 200..599 (only reachable with 101 or a non-HTTP code): below 200 is INFO, 600 and above is ERROR. -/
theorem level_outside (s : Int) : (s < 200 → level s = .info) ∧ (600 ≤ s → level s = .error) := by
  rw [level_eq]
  simp only [← Int.not_le]
  rcases bands s with h | h | h | h | h | h <;> simp [h]

/-! ### the record -/

theorem logger_records (next : HState → HState) (c : Ctx) (s : HState) (h : (next s).panicked = false) :
    (logger next c s).2 =
      [{ level := level (next s).status, msg := ipStr c, status := (next s).status, method := c.method, host := c.host,
         path := c.path,
         location := if level (next s).status = .debug ∧ (next s).loc ≠ [] then some (next s).loc else none }] := by
  unfold logger
  simp only [h, Bool.false_eq_true, if_false]
  by_cases hd : level (next s).status = .debug <;> by_cases hl : (next s).loc = [] <;> simp [hd, hl]

/-- If the wrapped handler returns, the Logger emits exactly one record, computed from the state *after* the handler:
    the recorded status, its level, method/host/path of the request, the client-IP message, and the Location header
    exactly when the level is DEBUG and the header is non-empty. -/
theorem logger_one_record (next : HState → HState) (c : Ctx) (s : HState) (h : (next s).panicked = false) :
    ∃ r, (logger next c s).2 = [r] ∧ r.status = (next s).status ∧ r.level = level (next s).status ∧
      r.msg = ipStr c ∧ r.method = c.method ∧ r.host = c.host ∧ r.path = c.path ∧
      r.location = (if level (next s).status = .debug ∧ (next s).loc ≠ [] then some (next s).loc else none) :=
  ⟨_, logger_records next c s h, rfl, rfl, rfl, rfl, rfl, rfl, rfl⟩

/-- If a panic passes through, the Logger emits nothing. -/
theorem logger_silent_on_panic (next : HState → HState) (c : Ctx) (s : HState) (h : (next s).panicked = true) :
    (logger next c s).2 = [] := by
  simp [logger, h]

/-- Transparency: with or without the Logger in the chain, the response (recorded status, what reached the
    underlying writer, headers) and a propagating panic are the same. -/
theorem logger_transparent (next : HState → HState) (c : Ctx) (s : HState) : (logger next c s).1 = next s := by
  unfold logger
  simp only [apply_ite Prod.fst, ite_self]

/-- The message: the resolver's answer; the remote address when no resolver is configured (the error is, or wraps,
    ErrNoClientIPResolver); "unknown" when resolution fails. -/
theorem message_cases (c : Ctx) :
    (∀ ip, clientIP c = .ok ip → ipStr c = ip) ∧
    (clientIP c = .errNoResolver ∨ clientIP c = .errWrapsNoResolver → ipStr c = c.remoteIP) ∧
    (clientIP c = .errOther → ipStr c = Spec.Logger.unknown) := by
  refine ⟨fun ip h => by simp [ipStr, h], fun h => ?_, fun h => by simp [ipStr, h]⟩
  rcases h with h | h <;> simp [ipStr, h]

/-- Which resolver: the matched route's inside a route handler (what that is — a per-route override, else the router's
    at creation — is C19 `fold`), the router-wide one in the NoRoute / NoMethod / Redirect / Options handlers
    (`c.route == nil`). -/
theorem resolver_choice (c : Ctx) :
    (c.routeMatched = true → clientIP c = c.routeResolver) ∧ (c.routeMatched = false → clientIP c = c.routerResolver) := by
  constructor <;> intro h <;> simp [clientIP, h]

/-- Whenever the property specifies the outcome (panic, or a status in 200..599), the middleware produces exactly
    the demanded records. -/
theorem logger_meets_spec (next : HState → HState) (c : Ctx) (s : HState) (rs : List Record)
    (h : expected (happened c (next s)) = some rs) : (logger next c s).2 = rs := by
  unfold expected at h
  have hmsg : message (resolutionOf (clientIP c)) c.remoteIP = ipStr c := by
    unfold ipStr message resolutionOf
    cases clientIP c <;> rfl
  cases hp : (next s).panicked
  · simp only [happened, hp, Bool.false_eq_true, if_false, hmsg] at h
    rw [logger_records next c s hp]
    cases hl : levelOf (next s).status with
    | none => simp [hl] at h
    | some l =>
      rw [level_meets_spec _ _ hl]
      simpa [hl] using h
  · rw [logger_silent_on_panic next c s hp]
    simpa [happened, hp] using h

/-! ### non-vacuity -/

example : level 199 = .info ∧ level 200 = .info ∧ level 299 = .info ∧ level 300 = .debug ∧ level 399 = .debug ∧
    level 400 = .warn ∧ level 499 = .warn ∧ level 500 = .error ∧ level 599 = .error := by decide

example : (runOps {} [.setLoc [47], .header 302]).status = 302 ∧ (runOps {} [.header 103, .header 404]).status = 404 ∧
    (runOps {} [.body]).status = 200 ∧ (runOps {} [.header 500, .panic, .body]).panicked = true := by decide

end Fox.C20
