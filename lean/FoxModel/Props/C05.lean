import FoxModel.Lemmas.Proto
import FoxModel.Lemmas.History
import FoxModel.Lemmas.HistoryComplete
import FoxModel.Lemmas.HistoryExact
import FoxModel.Driver.Hist
/-
  Property C05 — concurrent use is linearizable (protocol model; the Go runtime part is sampled by the `conc` stream
  under the race detector). The statements of the first half are over `Fox.Model.Proto`: any number of threads, any
  schedule, any number of calls per thread, under the two assumed primitives (sync.Mutex mutual exclusion, sequentially
  consistent atomic.Pointer). The second half (`section Checker`) is about the checkers of `Spec/History` that decide the
  recorded histories of the `conc` stream.
-/
namespace Fox.C05
open Fox.Model.Proto

variable {σ : Type}

/-- TIE: the order of Lock / Load / Store / Unlock in the Go sources (txnWith, Txn.Commit, Txn.Abort, getRoot — regenerated
    on every run) compiles to exactly the thread programs the theorems below are about: a writer locks BEFORE it loads
    and stores BEFORE it unlocks; a read-only transaction and a router-level read are one load. -/
theorem prog_tie :
    genCommitProg = commitProg ∧ genAbortProg = abortProg ∧ genReadTxnProg = readerProg ∧ genReadProg = readerProg := by
  decide +kernel

/-- the writer mutex and the tree pointer are used at one more site (`Generated.sync_otherSites` names it: the `Store` in
    `New`, before the router is shared); what is checked here is that number -/
theorem no_other_sync_sites : Fox.Generated.sync_otherSitesCount = 1 := by decide

/-- At most one thread is between its lock and its unlock, in every reachable state, for every schedule. -/
theorem mutex_inv {v0 : σ} {s : State σ} (h : Reach v0 s) {i j : Tid}
    (hi : inCrit (s.thr i).pc = true) (hj : inCrit (s.thr j).pc = true) : i = j := by
  have inv := inv_reach h
  exact Option.some.inj (((inv.thr i).mutex.1 hi).symm.trans ((inv.thr j).mutex.1 hj))

/-- Only the thread that holds the writer lock performs a `store` (or an `unlock`). -/
theorem store_only_by_holder {v0 : σ} {s : State σ} (h : Reach v0 s) {i : Tid}
    (hh : (s.thr i).pc.head? = some .store ∨ (s.thr i).pc.head? = some .unlock) : s.mu = some i :=
  ((inv_reach h).thr i).holder (hh.imp_right .inl)

/-- No lost and no doubled write: every `store` installs exactly (the storing transaction's operations applied to the
    value installed by the previous store) and bumps the version by one — the transaction did not work on a stale tree. -/
theorem commits_serial {v0 : σ} {s : State σ} (h : Reach v0 s) {i : Tid}
    (hh : (s.thr i).pc.head? = some .store) :
    (exec s i).pub = (s.pub.1 + 1, (s.thr i).f s.pub.2) := by
  obtain ⟨r, hpc⟩ := List.head?_eq_some_iff.1 hh
  rw [exec_store hpc (((inv_reach h).thr i).works hh)]

/-- The published value is always the replay of the complete commit log, and the version is its length: the k-th
    store installs ops_k applied to what the (k-1)-th installed; no state is a partial transaction. -/
theorem pub_is_replay {v0 : σ} {s : State σ} (h : Reach v0 s) :
    s.pub = ((commits s).length, replay v0 (commits s)) := (inv_reach h).pubLog

/-- A writer computes on the CURRENT published state: when it runs its operations the value it loaded is still the
    published one (it locked before loading and nobody else can store). This is also the linearization point of a
    failed / aborted writer: its observations are those of the state published during its critical section. -/
theorem writer_sees_current {v0 : σ} {s : State σ} (h : Reach v0 s) {i : Tid}
    (hh : (s.thr i).pc.head? = some .localOps) : (s.thr i).seen = some s.pub := ((inv_reach h).thr i).sees hh

/-- A reader's `load` gives it the value published at that instant. It is the one action of its program that looks at
    shared state - everything it returns is computed from that value - hence its linearization point. -/
theorem reader_lin_point {s : State σ} {i : Tid} {r : List Act} (hpc : (s.thr i).pc = .load :: r) :
    ((exec s i).thr i).seen = some s.pub := by
  rw [exec_load hpc]; simp [setThr_same]

/-- Every value any thread has loaded is the result of replaying a prefix of the commit log (the initial state or the
    final private state of a committed transaction), with the matching version. -/
theorem loaded_is_committed {v0 : σ} {s : State σ} (h : Reach v0 s) {i : Tid} {ver : Nat} {v : σ}
    (hs : (s.thr i).seen = some (ver, v)) :
    ∃ k, ver = ((commits s).drop k).length ∧ v = replay v0 ((commits s).drop k) := seen_committed h hs

/-- Versions returned by successive loads (of all threads, hence of each single thread) never decrease. -/
theorem monotone_reads {v0 : σ} {s : State σ} (h : Reach v0 s) : (loadVers s).Pairwise (· ≥ ·) :=
  (inv_reach h).loadsMono

/-- The version counter never decreases along a step. -/
theorem version_monotone {v0 : σ} {s : State σ} (h : Reach v0 s) (i : Tid) : s.pub.1 ≤ (exec s i).pub.1 :=
  exec_ver_le s i

/-! non-vacuity: two writers and a reader; the second writer cannot enter while the first holds the lock, the reader
    loads the old version meanwhile, both increments survive. -/
section Example
def ex0 : State Nat := init 0
def exS : State Nat :=
  let s := invoke (invoke (invoke ex0 1 commitProg (· + 1)) 2 commitProg (· + 10)) 3 readerProg id
  -- t1: lock load ; t3: load ; t1: localOps store ; t2 tries lock (skipped) ; t1 unlock ret ; t2 runs ; t3 ret
  run s [.act 1, .act 1, .act 3, .act 1, .act 1, .act 2, .act 1, .act 1, .act 2, .act 2, .act 2, .act 2, .act 2, .act 2, .act 3]
example : exS.pub = (2, 11) := by decide +kernel
example : loadVers exS = [1, 0, 0] := by decide +kernel
example : exS.mu = none := by decide +kernel
example : enabled (run (invoke (invoke ex0 1 commitProg (· + 1)) 2 commitProg (· + 10)) [.act 1]) 2 = false := by decide +kernel
end Example


section Checker
open Fox.Spec.History

/-- NO FALSE ALARM: every history the checker rejects is genuinely not linearizable with respect to the sequential
    specification `S` (for any specification whose observations expose the version they were made at). -/
theorem checker_no_false_alarm {σ W Q : Type} (S : Sem σ W Q) (hv : ExposesVersion S) (h : List (Call W Q))
    (hrej : checkHistory S h = false) : ¬ Linearizable S h := by
  intro hl
  rw [checkHistory_of_linearizable S hv hl] at hrej
  cases hrej

/-- the specification the recorded fox histories are checked against (`Driver.Hist.sem`: the sequential store of C02
    with Spec.route for lookups) exposes versions correctly -/
theorem fox_sem_exposes_version : ExposesVersion Fox.Driver.Hist.sem := by
  intro v st q n hn
  cases q with
  | all | obs _ => exact (Option.some.inj hn).symm
  | _ => cases hn

/-- NO FALSE ALARM for the specification the recorded fox histories are checked against: a history rejected by
    `checkHistory Driver.Hist.sem` is not linearizable. -/
theorem checker_no_false_alarm_fox (h : List (Call Fox.Driver.Hist.W Fox.Driver.Hist.Q))
    (hrej : checkHistory Fox.Driver.Hist.sem h = false) : ¬ Linearizable Fox.Driver.Hist.sem h :=
  checker_no_false_alarm _ fox_sem_exposes_version h hrej

/-- **On histories without overlapping calls the checker decides linearizability exactly**: if every call returned before
    the next one in the log was invoked (`SeqH`), the checker accepts the history if and only if it is linearizable - and
    then the log order itself is the linearization. (For overlapping histories the four checks are necessary conditions
    only: `checker_no_false_alarm`; acceptance there is sampling evidence.) -/
theorem checker_complete_seq {σ W Q : Type} (S : Sem σ W Q) (hv : ExposesVersion S) (h : List (Call W Q))
    (hs : SeqH h) : checkHistory S h = true ↔ Linearizable S h := by
  constructor
  · exact linearizable_of_check_seq S hs
  · intro hl
    exact checkHistory_of_linearizable S hv hl

/-- an accepted sequential history replays, in its own order, as a legal execution of the specification -/
theorem accepted_seq_replays {σ W Q : Type} (S : Sem σ W Q) (h : List (Call W Q)) (hs : SeqH h)
    (hc : checkHistory S h = true) : (runSeq S (0, S.init) h).isSome = true :=
  runSeq_of_check_seq S hs hc

/-! non-vacuity: a counter object; a stale read is rejected, the same history with the right value is linearizable -/
def ctr : Sem Nat Nat Unit where
  init := 0
  wr st x := (st + x, ⟨none, "ok"⟩)
  rd v _ _ := ⟨some v, "seen"⟩

def wCall (call ret ver x : Nat) : Call Nat Unit := ⟨1, call, ret, .w x, ver, ⟨none, "ok"⟩⟩
def rCall (call ret ver : Nat) : Call Nat Unit := ⟨2, call, ret, .r (), 0, ⟨some ver, "seen"⟩⟩

theorem ex_sorted : sortedWrites [wCall 1 2 1 5, rCall 3 4 0] = [wCall 1 2 1 5] :=
  List.mergeSort_of_pairwise (l := [wCall 1 2 1 5]) (by decide)

/-- write(+5) returned at 2, a read called at 3 still sees version 0: the checker rejects (hence, by the theorem, the
    history is not linearizable) -/
example : checkHistory ctr [wCall 1 2 1 5, rCall 3 4 0] = false := by
  unfold checkHistory
  rw [ex_sorted]
  decide +kernel

/-- the same history with the read seeing version 1 is linearizable -/
example : Linearizable ctr [wCall 1 2 1 5, rCall 3 4 1] := by
  exact ⟨_, .refl _, by unfold RT; decide, by decide +kernel⟩

/-- the hypotheses of `checker_complete_seq` hold for that history: it is sequential, the counter exposes its versions,
    and the checker accepts it (so the theorem applies in the accepting direction to a concrete history) -/
example : SeqH [wCall 1 2 1 5, rCall 3 4 1] ∧ ExposesVersion ctr ∧ checkHistory ctr [wCall 1 2 1 5, rCall 3 4 1] = true := by
  have hs : SeqH [wCall 1 2 1 5, rCall 3 4 1] := by unfold SeqH; decide
  have hv : ExposesVersion ctr := fun _ _ _ _ hn => (Option.some.inj hn).symm
  exact ⟨hs, hv, (checker_complete_seq ctr hv _ hs).2 ⟨_, .refl _, by unfold RT; decide, by decide +kernel⟩⟩

/-! ### the exact checker: acceptance = linearizability, overlapping calls included -/

/-- **The checker of record decides linearizability.** For every sequential specification `S` and every history whose
    calls return after they are called (overlapping or not, any number of threads): `checkLin S h` accepts **iff** some
    total order of the calls respects real time and is a legal sequential execution of `S`. With the commit order known
    (the versions of the writes), that is: every call can be given a version - a write its own, a read one whose state
    explains its result and whose installing write had been called when the read returned - such that a call that
    returned before another was called has no greater version; the greedy assignment in call order finds the least one. -/
theorem checker_exact {σ W Q : Type} (S : Sem σ W Q) (h : List (Call W Q)) (hst : ∀ c ∈ h, c.call ≤ c.ret) :
    checkLin S h = true ↔ Linearizable S h := checkLin_iff S hst

/-- the same for the specification the recorded fox histories are checked against; `wellStamped` is evaluated by the
    driver on every history -/
theorem checker_exact_fox (h : List (Call Fox.Driver.Hist.W Fox.Driver.Hist.Q)) (hst : wellStamped h = true) :
    checkLin Fox.Driver.Hist.sem h = true ↔ Linearizable Fox.Driver.Hist.sem h := by
  apply checkLin_iff
  intro c hc
  simpa using (List.all_eq_true.1 hst) c hc

/-- **the checker as the driver runs it** (`checkLinFast`: first explaining segment from the lower bound on, lower bound
    from the calls still pending) decides linearizability of the recorded fox histories -/
theorem checker_as_run_exact (h : List (Call Fox.Driver.Hist.W Fox.Driver.Hist.Q)) (hst : wellStamped h = true) :
    checkLinFast Fox.Driver.Hist.sem h = true ↔ Linearizable Fox.Driver.Hist.sem h := by
  rw [checkLinFast_eq]
  exact checker_exact_fox h hst

/-- a rejection by the exact checker is never a false alarm -/
theorem exact_rejection_not_linearizable {σ W Q : Type} (S : Sem σ W Q) (h : List (Call W Q))
    (hst : ∀ c ∈ h, c.call ≤ c.ret) (hrej : checkLin S h = false) : ¬ Linearizable S h := by
  intro hl
  rw [checkLin_of_linearizable S hst hl] at hrej
  cases hrej

/-- what the exact checker accepts passes the four necessary conditions as well (the driver words its report of a rejection
    by them) -/
theorem exact_implies_four_conditions {σ W Q : Type} (S : Sem σ W Q) (hv : ExposesVersion S) (h : List (Call W Q))
    (hst : ∀ c ∈ h, c.call ≤ c.ret) (hc : checkLin S h = true) : checkHistory S h = true :=
  checkHistory_of_checkLin S hv hst hc

/-! non-vacuity, and the gap the exact checker closes: writer 1 is called at 1, commits version 1 and returns only at 100;
    writer 2 is called at 10, commits version 2 and returns at 20; a read called at 30 still returns the initial state.
    Each of the four necessary conditions holds (the read's segment 0 ends with writer 1, which has not returned), so
    `checkHistory` accepts - but writer 2 returned before the read was called and version 2 follows version 1: the
    history is not linearizable, and `checkLin` rejects it. With the read returning the current state it is accepted. -/
def reg : Sem Nat Nat Unit where
  init := 0
  wr st x := (st + x, ⟨none, "ok"⟩)
  rd _ st _ := ⟨none, if st = 0 then "zero" else "nonzero"⟩

def gW1 : Call Nat Unit := ⟨1, 1, 100, .w 5, 1, ⟨none, "ok"⟩⟩
def gW2 : Call Nat Unit := ⟨2, 10, 20, .w 7, 2, ⟨none, "ok"⟩⟩
def gR (s : String) : Call Nat Unit := ⟨3, 30, 40, .r (), 0, ⟨none, s⟩⟩
def gapH (s : String) : List (Call Nat Unit) := [gW1, gW2, gR s]

theorem gap_sorted (s) : sortedWrites (gapH s) = [gW1, gW2] :=
  List.mergeSort_of_pairwise (l := [gW1, gW2]) (by decide)

/-- the call stamps are 1, 10, 30 whatever the read returns -/
theorem gap_byCall (s) : byCall (gapH s) = gapH s :=
  List.mergeSort_of_pairwise (List.pairwise_map (f := Call.call) (R := fun a b => decide (a ≤ b) = true) (l := gapH s) |>.1
    (by decide : ([1, 10, 30] : List Nat).Pairwise fun a b => decide (a ≤ b) = true))

theorem gap_passes_the_four_conditions : checkHistory reg (gapH "zero") = true := by
  unfold checkHistory
  rw [gap_sorted]
  decide +kernel

theorem gap_rejected_by_exact : checkLin reg (gapH "zero") = false := by
  unfold checkLin
  rw [gap_sorted, gap_byCall]
  decide +kernel

theorem gap_not_linearizable : ¬ Linearizable reg (gapH "zero") :=
  exact_rejection_not_linearizable reg _ (by decide) gap_rejected_by_exact

theorem gap_fresh_read_linearizable : Linearizable reg (gapH "nonzero") := by
  apply (checker_exact reg _ (by decide)).1
  unfold checkLin
  rw [gap_sorted, gap_byCall]
  decide +kernel
end Checker

end Fox.C05
