import FoxModel.Lemmas.Sorted
import FoxModel.Lemmas.MachineKids
import FoxModel.Lemmas.IterMachine
import FoxModel.Lemmas.SearchLoop
/-
  Properties C02 / C01 / C03 — the derived node fields and the searches on them (node.go: `newNode`, `newNodeFromRef`,
  `getEdge`, `updateEdge`, `linearSearch`, `binarySearch`, `paramChildIndex`, `wildcardChildIndex`), and the loops of
  `roots.search` (node.go) and of the iterators (iter.go) as the Go code runs them.

  The models select the first child whose key starts with the byte asked for: `List.find?` in the matcher
  (Model/Machine), a recursion down the child list in the tree operations. The Go code selects it through `childKeys`:
  linearly in the matcher, linearly up to 50 children and by bisection above in the write path (`copyOnWriteSearch`,
  `roots.search`, `updateEdge`), and through two precomputed indices for the '{' and '*' children. That is the same
  child **only if** the children are in ascending order of their first byte and the indices were computed on the list
  they are used with. Both are theorems here, for every tree reachable by any history of Handle / Update / Delete /
  Truncate, without a bound on the fan-out:

  * `children_sorted_on_reachable` - the order invariant;
  * `binarySearch_correct` - bisection on ascending keys of any length; `getEdge_on_reachable`,
    `updateEdge_on_reachable` - the searches of the write path find / replace the child `find?` selects by first byte
    and never panic (no index out of range in `binarySearch`, no "cannot update the edge");
  * `index_fields_on_reachable` - `children[paramChildIndex]` / `children[wildcardChildIndex]` are the model's
    `paramChild` / `wildChild`, `static_search_is_find` - the matcher's `childKeys` loop is the model's `staticChild`;
  * `sort_algorithm_irrelevant` - any correct sort gives the child list of the model (Go's `slices.SortFunc` is not
    stable; first bytes are distinct, so there is exactly one ascending arrangement);
  * `search_loops_are_model_search` - the two nested loops of `roots.search` (Model/SearchLoop) return the node of the
    model's `searchRoot`, on any tree; `stack_loop_is_preorder` - the explicit-stack traversal (Model/IterMachine)
    yields `routesNode` in order, also to a consumer that stops early; hence `prefix_machine`, `route_machine`:
    `Iter.Prefix` and `roots.route` run loop by loop are `Tree.prefix` and `routeOf`.

  Tie to the code: the `ops` stream prints `childKeys`, `paramChildIndex`, `wildcardChildIndex` of every node of the real
  tree (hook `VerifDumpRep`) next to the model's (`Driver/Ops.dumpRep`, computed by `Model/NodeRep`), and calls the real
  `getEdge` with every byte on every node (hook `VerifEdgeCheck`); `srtRoots` is evaluated on every model tree.
-/
namespace Fox.C02.Rep
open Fox Fox.Model Fox.Model.NodeRep Fox.C02

mutual
/-- every node at or below a node -/
def nodesOf : Node → List Node
  | .mk k r cs => .mk k r cs :: nodesKids cs
def nodesKids : List Node → List Node
  | [] => []
  | c :: cs => nodesOf c ++ nodesKids cs
end

def nodesRoots (rs : Roots) : List Node := rs.flatMap fun x => nodesOf x.2

theorem nodesKids_eq_flatMap (cs : List Node) : nodesKids cs = cs.flatMap nodesOf := by
  induction cs with
  | nil => rfl
  | cons c cs ih => exact congrArg (nodesOf c ++ ·) ih

/-- a property that passes from a node to its children holds at every node below a node that has it -/
theorem nodesOf_forall {Q : Node → Prop} (hQ : ∀ n, Q n → ∀ c ∈ n.children, Q c) (n : Node) :
    Q n → ∀ x ∈ nodesOf n, Q x := by
  induction n using Node.ind with
  | h k r cs ih =>
    intro hn x hx
    rw [nodesOf, nodesKids_eq_flatMap, List.mem_cons] at hx
    rcases hx with rfl | hx
    · exact hn
    · obtain ⟨c, hc, hxc⟩ := List.mem_flatMap.mp hx
      exact ih c hc (hQ _ hn c hc) x hxc

theorem nodesRoots_forall {Q : Node → Prop} (hQ : ∀ n, Q n → ∀ c ∈ n.children, Q c) {rs : Roots}
    (h : ∀ y ∈ rs, Q y.2) : ∀ x ∈ nodesRoots rs, Q x := by
  intro x hx
  obtain ⟨y, hy, hxy⟩ := List.mem_flatMap.mp hx
  exact nodesOf_forall hQ y.2 (h y hy) x hxy

theorem srt_nodesRoots {rs : Roots} (h : srtRoots rs = true) :
    ∀ x ∈ nodesRoots rs, (fbs x.children).Pairwise (· < ·) := by
  intro x hx
  have hx := nodesRoots_forall (Q := fun n => srtNode n = true)
    (fun n hn c hc => by cases n; exact ((srtNode_iff _ _ _).mp hn).2 c hc) ((srtRoots_iff _).mp h) x hx
  cases x
  exact ((srtNode_iff _ _ _).mp hx).1

theorem wf_nodesRoots {rs : Roots} (h : wfRoots rs = true) : ∀ x ∈ nodesRoots rs, wfKids x.children = true :=
  nodesRoots_forall (Q := fun n => wfKids n.children = true)
    (fun n hn c hc => by
      have hw := wfKids_mem hn hc
      cases c
      exact ((wfNode_iff _ _ _).mp hw).2.2.2.2)
    fun ⟨m, k, r, cs⟩ hy => ((wfRoot_iff k r cs).mp (((wfRoots_iff _).mp h).1 (m, .mk k r cs) hy)).2.2.2

/-- **The order invariant.** After any history of Handle / Update / Delete / Truncate with parser-accepted patterns,
    at every node of the tree the children are in strictly ascending order of the first byte of their key. -/
theorem children_sorted_on_reachable (ops : List Op) (hv : ∀ op ∈ ops, op.valid = true) :
    srtRoots (runModel newTree ops).1.roots = true :=
  srt_run ops sim_new (by decide) hv

/-- **`binarySearch` is correct on ascending keys**: no index panic, a non-negative result is a position holding `s`,
    a negative result means `s` does not occur - for key lists of any length -/
theorem binarySearch_correct (keys : List UInt8) (s : UInt8) (hs : Asc keys) :
    ∃ r, binarySearch keys s = some r ∧ ((0 ≤ r ∧ keys[r.toNat]? = some s) ∨ (r < 0 ∧ s ∉ keys)) :=
  binarySearch_spec keys s hs

theorem ascending_on_reachable (ops : List Op) (hv : ∀ op ∈ ops, op.valid = true) :
    ∀ n ∈ nodesRoots (runModel newTree ops).1.roots, (fbs n.children).Pairwise (· < ·) :=
  srt_nodesRoots (children_sorted_on_reachable ops hv)

/-- **`getEdge` on every reachable tree**: for every node and every byte, on either side of the 50-children threshold,
    `getEdge` returns - without panicking - the child the tree model selects -/
theorem getEdge_on_reachable (ops : List Op) (hv : ∀ op ∈ ops, op.valid = true) :
    ∀ n ∈ nodesRoots (runModel newTree ops).1.roots, ∀ s : UInt8,
      getEdge n.children s = some (n.children.find? (sel s)) :=
  fun n hn => getEdge_eq_find (ascending_on_reachable ops hv n hn)

/-- **`updateEdge` on every reachable tree**: replacing the edge to a child by a node whose key starts with the same
    byte (a clone, a node with a longer or shorter key after a split or merge) replaces exactly that child and never
    runs into `panic("internal error: cannot update the edge with this node")` -/
theorem updateEdge_on_reachable (ops : List Op) (hv : ∀ op ∈ ops, op.valid = true) :
    ∀ n ∈ nodesRoots (runModel newTree ops).1.roots, ∀ (pre post : List Node) (c new : Node),
      n.children = pre ++ c :: post → firstByte new.key = firstByte c.key →
      updateEdge n.children new = some (pre ++ new :: post) := by
  intro n hn pre post c new hc hk
  rw [hc]
  exact updateEdge_eq_set (hc ▸ ascending_on_reachable ops hv n hn) hk

/-- the index fields need no order, only distinct first bytes; well-formed keys make "starts with '{'" / "starts with
    '*'" the matcher's "starts with a parameter" / "starts with a catch-all" -/
theorem index_fields_eq {n : Node} (hw : wfKids n.children = true) (hd : (childKeys n.children).Nodup) :
    childAt n.children (paramChildIndex n.children) = Machine.paramChild n ∧
    childAt n.children (wildcardChildIndex n.children) = Machine.wildChild n :=
  ⟨(paramChild_eq hd).trans (find_firstByte_lbr hw),
    (wildChild_eq hd).trans (find_congr fun _ hc =>
      firstByte_star (wfNode_key (wfKids_mem hw hc)).2 (wfNode_key (wfKids_mem hw hc)).1)⟩

/-- **The index fields on every reachable tree**: `children[paramChildIndex]` and `children[wildcardChildIndex]`
    (each guarded by `>= 0`, as in node.go) are the children the matcher's model uses -/
theorem index_fields_on_reachable (ops : List Op) (hv : ∀ op ∈ ops, op.valid = true) :
    ∀ n ∈ nodesRoots (runModel newTree ops).1.roots,
      childAt n.children (paramChildIndex n.children) = Machine.paramChild n ∧
      childAt n.children (wildcardChildIndex n.children) = Machine.wildChild n :=
  fun n hn => index_fields_eq (wf_nodesRoots (C02_reachable_wf ops hv).1 n hn)
    (childKeys_nodup (ascending_on_reachable ops hv n hn))

/-- **The matcher's `childKeys` loop** (`for i := 0; i < len(childKeys) && path[cm] != '*'; i++`) is the model's
    `staticChild` - on any child list (a linear scan needs no order) -/
theorem static_search_is_find (n : Node) (b : UInt8) :
    (if b == STAR then none else childAt n.children (linearSearch (childKeys n.children) b)) =
      Machine.staticChild n b := by
  rw [childAt_linearSearch]; rfl

/-- **Any correct sort will do**: a permutation of well-formed children with distinct kinds that is ascending in the
    first bytes is the list `newNode` has in the model -/
theorem sort_algorithm_irrelevant {cs ds : List Node} (hwf : wfKids cs = true) (hnd : (kindsOf cs).Nodup)
    (hp : ds.Perm cs) (hs : (fbs ds).Pairwise (· < ·)) : ds = sortKids cs :=
  sorted_perm_unique hwf hnd hp hs

/-! ### examples (evaluated, not proved: `bsLoop` is defined by well-founded recursion)

  sixty children `0x`, `1x`, … with first bytes 48 … 107 plus a parameter child: bisection is used and finds each of them;
  the same children in descending order (the hypothesis violated): bisection misses a child that is there. -/

def exKid (b : Nat) : Node := .mk [.lit b.toUInt8, .lit 120] none []
def exKids : List Node := (List.range 60).map fun i => exKid (48 + i)
def exKidsP : List Node := exKids ++ [.mk [.param [105, 100]] none []]

#guard exKidsP.length = 61
#guard decide ((fbs exKidsP).Pairwise (· < ·))
#guard (List.range 256).all fun b => getEdge exKidsP b.toUInt8 == some (exKidsP.find? (sel b.toUInt8))
#guard childAt exKidsP (paramChildIndex exKidsP) == exKidsP.find? isP
#guard paramChildIndex exKidsP = 60 ∧ wildcardChildIndex exKidsP = -1
#guard getEdge exKidsP.reverse 50 == some none && (exKidsP.reverse.find? (sel 50)).isSome

/-- the reachable-tree theorems are not vacuous: a concrete history -/
example : srtRoots (runModel newTree exOps).1.roots = true :=
  children_sorted_on_reachable exOps (by decide)

/-! ### the loops of `roots.search` and of the iterators (node.go, iter.go) -/

/-- **`roots.search`**: the two nested loops of the Go code (getEdge, then byte-by-byte comparison with `break STOP` on
    the first differing byte) return the node the model's search returns, for every tree and every byte string -/
theorem search_loops_are_model_search (root : Node) (p : Bytes) :
    SearchLoop.searchFrom root p = searchRoot root p :=
  SearchLoop.search_from_eq root p

/-- **the explicit-stack traversal** (`rawIterator.hasNext`, the loop of `Iter.Prefix` / `Iter.All`) started on a node
    never indexes an empty frame and yields the routes below the node in the model's pre-order; a consumer that stops
    after `k` items (`yield` returned false) has seen exactly the first `k` -/
theorem stack_loop_is_preorder (n : Node) (k : Nat) :
    IterMachine.drain k [[n]] = some ((routesNode n).take k) := by
  rw [IterMachine.drain_take k [[n]] fun f hf => List.mem_singleton.mp hf ▸ List.cons_ne_nil n [],
    IterMachine.pending_single]

/-- **`Iter.Prefix` as the Go code runs it = the model's `Tree.prefix`** (which `C02_prefix` relates to the sequential
    map), cut after `k` items for a consumer that stops early -/
theorem prefix_machine (t : Tree) (m p : Bytes) (k : Nat) :
    SearchLoop.prefixM t m p k = some ((t.prefix m p).take k) := by
  unfold SearchLoop.prefixM Tree.prefix
  cases methodRoot t.roots m with
  | none => rw [List.take_nil]
  | some root =>
    dsimp only
    split
    · rw [List.take_nil]
    · rw [search_loops_are_model_search]
      cases searchRoot root p with
      | none => rw [List.take_nil]
      | some n => exact stack_loop_is_preorder n k

#guard SearchLoop.prefixM (runModel newTree exOps).1 GET [47, 97] 100 == some (((runModel newTree exOps).1.prefix GET [47, 97]))

/-- **`roots.route` (Has, Route, Iter.Routes) through the loops = the model's `routeOf`** -/
theorem route_machine (root : Node) (pattern : Bytes) : SearchLoop.routeOfM root pattern = routeOf root pattern := by
  rw [SearchLoop.routeOfM, search_loops_are_model_search]; rfl

end Fox.C02.Rep
