import FoxModel.Generated.Consts
import FoxModel.Generated.Options
import FoxModel.Lemmas.Middleware
/-
  Property C13 — middleware is applied exactly per scope and in registration order.
  Middleware `i` is the wrapper `wrap` (log `enter i`, call next, log `exit i`); handlers are the traces they log.
-/
namespace Fox.C13
open Fox.Model.MW Fox.Spec.MW Fox.Lemmas.MW

/-- the scope constants of fox.go and the source shapes the model was written against (regenerated on every run):
    bit values, `AllHandlers`, `mws: slices.Clone(fox.mws)` in NewRoute, DefaultOptions prepending Recovery(RouteHandler)
    then Logger(AllHandlers), and both chain builders walking the list from the last entry to the first -/
theorem consts_tie :
    Generated.c_RouteHandler = cRouteHandler ∧ Generated.c_NoRouteHandler = cNoRouteHandler ∧
    Generated.c_NoMethodHandler = cNoMethodHandler ∧ Generated.c_RedirectHandler = cRedirectHandler ∧
    Generated.c_OptionsHandler = cOptionsHandler ∧ Generated.c_AllHandlers = cAllHandlers ∧
    Generated.newRouteMwsCopied = true ∧
    Generated.defaultOptionsForm = "prepend" ∧
    Generated.defaultOptionsEntries = [("Recovery", "RouteHandler", "true"), ("Logger", "AllHandlers", "true")] ∧
    Generated.loop_applyMiddleware = "backward over mws" ∧
    Generated.conds_applyMiddleware = ["$.scope&scope != 0"] ∧
    Generated.loop_applyRouteMiddleware = "backward over mws" ∧
    Generated.conds_applyRouteMiddleware = ["$.scope&RouteHandler != 0", "!$.g"] :=
  ⟨rfl, rfl, rfl, rfl, rfl, rfl, rfl, rfl, rfl, rfl, rfl, rfl, rfl⟩

/-- every kind's constant is a single bit and `AllHandlers` is their union -/
theorem scope_bits : (∀ k : Kind, k.bit = 2 ^ k.idx) ∧
    cAllHandlers = Kind.route.bit ||| Kind.noRoute.bit ||| Kind.noMethod.bit ||| Kind.redirect.bit ||| Kind.options.bit :=
  ⟨bit_eq_two_pow, by decide⟩

/-- **Special handlers.** The chain `New` composes for the no-route / no-method / redirect / OPTIONS handler (and, the
    statement being uniform in `k`, also the full route chain) logs: `enter` of exactly the middleware whose scope mask
    has the bit of that kind, in registration order, then the handler, then their `exit`s in reverse order. -/
theorem special_chain (k : Kind) (mws : List Mw) (h : Trace) :
    applyMiddleware wrap k.bit mws h = Spec.MW.trace k mws h := by
  rw [applyMiddleware_eq_foldr]
  simp only [hits_eq]
  induction mws with
  | nil => simp [Spec.MW.trace, selected, chain_nil]
  | cons m ms ih =>
    simp only [List.foldr_cons, ih]
    unfold Spec.MW.trace selected
    cases hm : inScope k m
    · simp [hm]
    · simp [hm, chain_cons, wrap]

/-- ids of the route-specific entries (`g = false`) that apply to route handlers -/
def selfSelected (mws : List Mw) : List Nat := (mws.filter fun m => inScope .route m && !m.g).map (·.id)

/-- `applyRouteMiddleware` on any list: `all` wraps the handler with every entry having the RouteHandler bit, `rte` with
    those of them that are route-specific, both in registration order -/
theorem route_chain_raw (mws : List Mw) (h : Trace) :
    applyRouteMiddleware wrap mws h = (chain (selfSelected mws) h, chain (selected .route mws) h) := by
  rw [applyRouteMiddleware_eq_foldr]
  induction mws with
  | nil => simp [selfSelected, selected, chain_nil]
  | cons m ms ih =>
    simp only [List.foldr_cons, ih]
    have hb : m.hits cRouteHandler = inScope .route m := hits_eq .route m
    rw [hb]
    unfold selfSelected selected
    cases hm : inScope .route m <;> cases hg : m.g <;> simp [hm, hg, chain_cons, wrap]

theorem selected_append (k : Kind) (a b : List Mw) : selected k (a ++ b) = selected k a ++ selected k b := by
  simp [selected]

theorem selected_own (own : List Nat) : selected .route (own.map fun i => (⟨i, cRouteHandler, false⟩ : Mw)) = own :=
  filter_routeMws _ [] own nofun inScope_own

theorem selfSelected_routeMws (globals : List Mw) (own : List Nat) (hg : ∀ m ∈ globals, m.g = true) :
    selfSelected (routeMws globals own) = own :=
  filter_routeMws _ globals own (fun m hm => by simp [hg m hm]) fun i => by rw [inScope_own]; rfl

/-- **Routes.** For a route created on a router whose list is `globals` (all marked global, which `New` guarantees) with
    its own middleware `own`: `Route.Handle` runs the bare handler; `Route.HandleMiddleware` the handler wrapped by the
    route's own middleware only; the chain used by ServeHTTP has the global middleware with the RouteHandler bit outside
    (registration order), then the route's own, then the handler, and unwinds in reverse. -/
theorem route_chain (globals : List Mw) (own : List Nat) (h : Trace) (hg : ∀ m ∈ globals, m.g = true) :
    let r := newRouteChains wrap globals own h
    r.hbase = h ∧ r.hself = chain own h ∧
    r.hall = chain (selected .route globals) (chain own h) := by
  simp only [newRouteChains, route_chain_raw, selfSelected_routeMws globals own hg]
  refine ⟨trivial, trivial, ?_⟩
  rw [routeMws, selected_append, selected_own, chain_append]

/-- **Exactly once.** In every chain, middleware `i` is entered (and left) as many times as it was selected — once per
    registration — on top of what the handler itself logs. -/
theorem exactly_once (k : Kind) (mws : List Mw) (h : Trace) (i : Nat) :
    (applyMiddleware wrap k.bit mws h).count (.enter i) = (selected k mws).count i + h.count (.enter i) ∧
    (applyMiddleware wrap k.bit mws h).count (.exit i) = (selected k mws).count i + h.count (.exit i) := by
  rw [special_chain]
  exact count_chain _ _ _

theorem globalMws_append (acc : List Mw) (a b : List GOpt) : globalMws acc (a ++ b) = globalMws (globalMws acc a) b := by
  induction a generalizing acc with
  | nil => rfl
  | cons o os ih => cases o <;> simp [globalMws, ih]

theorem applyG_some {c c' : MwCfg} {o : GOpt} (h : applyG c o = some c') : c'.mws = globalMws c.mws [o] := by
  cases o with
  | middleware ms | middlewareFor s ms =>
    rw [applyG, appendMws_eq] at h
    split at h <;> cases h
    rfl
  | defaults | autoOptions | noMethod => cases h; rfl

theorem applyG_none (c : MwCfg) (o : GOpt) :
    applyG c o = none ↔ (∃ ms, o = .middleware ms ∧ none ∈ ms) ∨ (∃ s ms, o = .middlewareFor s ms ∧ none ∈ ms) := by
  cases o <;> simp [applyG, appendMws_eq, and_assoc]

/-- **Global options.** `New` fails (ErrInvalidConfig) exactly when some middleware argument is nil; otherwise the
    router's list is what the options say in order, DefaultOptions putting Recovery (route handlers only) and Logger (all
    handlers) in front of everything registered before it. -/
theorem newRouter_mws (c : MwCfg) (opts : List GOpt) :
    (∀ c', newRouter c opts = some c' → c'.mws = globalMws c.mws opts) ∧
    (newRouter c opts = none ↔ ∃ o ∈ opts, (∃ ms, o = .middleware ms ∧ none ∈ ms) ∨ (∃ s ms, o = .middlewareFor s ms ∧ none ∈ ms)) := by
  induction opts generalizing c with
  | nil => simp [newRouter, globalMws]
  | cons o os ih =>
    cases ho : applyG c o with
    | none =>
      simp only [newRouter, ho]
      exact ⟨nofun, fun _ => ⟨o, List.mem_cons_self, (applyG_none c o).1 ho⟩, fun _ => trivial⟩
    | some c1 =>
      simp only [newRouter, ho]
      obtain ⟨i1, i2⟩ := ih c1
      have hgood := mt (applyG_none c o).2 (ho ▸ fun h => nomatch h)
      refine ⟨fun c' hc' => ?_, ?_⟩
      · rw [i1 c' hc', applyG_some ho]
        exact (globalMws_append c.mws [o] os).symm
      · -- `o` was accepted, so a refused option of `o :: os` is one of `os`
        rw [i2]
        simp only [List.mem_cons, or_and_right, exists_or, exists_eq_left, hgood, false_or]

theorem globalMws_global (acc : List Mw) (os : List GOpt) (h : ∀ m ∈ acc, m.g = true) :
    ∀ m ∈ globalMws acc os, m.g = true := by
  induction os generalizing acc with
  | nil => exact h
  | cons o os ih =>
    have new (s : Nat) (ms : List (Option Nat)) :
        ∀ m ∈ ms.filterMap (fun o => o.map fun i => (⟨i, s, true⟩ : Mw)), m.g = true := by
      simp only [List.mem_filterMap, Option.map_eq_some_iff]
      rintro _ ⟨_, _, _, _, rfl⟩
      rfl
    cases o with
    | middleware ms | middlewareFor s ms => exact ih _ (List.forall_mem_append.2 ⟨h, new _ ms⟩)
    | defaults => exact ih _ (List.forall_mem_cons.2 ⟨rfl, List.forall_mem_cons.2 ⟨rfl, h⟩⟩)
    | autoOptions | noMethod => exact ih _ h

/-- every entry registered by a global option is marked global -/
theorem newRouter_global (c c' : MwCfg) (opts : List GOpt) (h : newRouter c opts = some c')
    (hc : ∀ m ∈ c.mws, m.g = true) : ∀ m ∈ c'.mws, m.g = true := by
  rw [(newRouter_mws c opts).1 c' h]
  exact globalMws_global _ _ hc

/-- **DefaultOptions.** Wherever it stands among the options, DefaultOptions puts Recovery (scope RouteHandler) first and
    Logger (scope AllHandlers) second in front of whatever was registered before it, later options append behind, and it
    switches automatic OPTIONS on. Hence route handlers run inside `Recovery, Logger, …` and special handlers inside
    `Logger, …` (Recovery's scope excludes them). -/
theorem default_opts (acc : List Mw) (pre post : List GOpt) (c : MwCfg) :
    globalMws acc (pre ++ .defaults :: post) =
      globalMws (⟨recoveryId, cRouteHandler, true⟩ :: ⟨loggerId, cAllHandlers, true⟩ :: globalMws acc pre) post ∧
    applyG c .defaults = some { c with mws := ⟨recoveryId, cRouteHandler, true⟩ :: ⟨loggerId, cAllHandlers, true⟩ :: c.mws,
                                       handleOptions := true } ∧
    (∀ k : Kind, selected k (⟨recoveryId, cRouteHandler, true⟩ :: ⟨loggerId, cAllHandlers, true⟩ :: acc) =
      (if k = .route then [recoveryId, loggerId] else [loggerId]) ++ selected k acc) := by
  refine ⟨?_, rfl, ?_⟩
  · rw [globalMws_append]; rfl
  · intro k
    cases k <;> rfl

/-- **Update.** An updated route is a new route: its chains are those of `NewRoute` on the router's list and the new
    options, so a middleware of the replaced route that is not passed again is never entered. -/
theorem update_replaces (globals : List Mw) (own' : List Nat) (h : Trace) (hg : ∀ m ∈ globals, m.g = true) (i : Nat) :
    let r := newRouteChains wrap globals own' h
    (Ev.enter i ∈ r.hall → i ∈ selected .route globals ∨ i ∈ own' ∨ Ev.enter i ∈ h) ∧
    (Ev.enter i ∈ r.hself → i ∈ own' ∨ Ev.enter i ∈ h) := by
  obtain ⟨_, h2, h3⟩ := route_chain globals own' h hg
  simp only at h2 h3 ⊢
  rw [h2, h3]
  simp only [mem_enter_chain]
  exact ⟨fun h => h, fun h => h⟩

/-- **Route independence (slice model).** With `mws: slices.Clone(fox.mws)`, creating a route — cloning the router's slice
    and appending the route's own middleware, whatever the allocator's rounding `grow` and the spare capacity of the
    router's backing array — writes no cell of any backing array that existed before: every slice another route (or the
    router) holds still denotes the same elements. The new route's slice is valid, fresh, and denotes the router's list
    followed by its own middleware (the list-level model `routeMws`). -/
theorem route_independent (grow : Nat → Nat) (H : Heap) (router : Slice) (own : List Nat) (hv : Valid H router) :
    let r := newRouteS .copied grow H router own
    (∀ a, a < H.arrs.length → r.1.cells a = H.cells a) ∧
    (∀ s : Slice, s.arr < H.arrs.length → r.1.read s = H.read s) ∧
    H.arrs.length ≤ r.2.arr ∧ Valid r.1 r.2 ∧
    r.1.read r.2 = routeMws (H.read router) own := by
  have c := clone_grown grow H router hv
  have g := c.trans (appendAll_grown grow H.arrs.length (own.map fun i => (⟨i, cRouteHandler, false⟩ : Mw))
    (H.clone grow router).1 (H.clone grow router).2 c.mark_le c.valid)
  rw [c.read_eq] at g
  exact ⟨g.cells_eq, fun s hs => by simp only [Heap.read, newRouteS, g.cells_eq s.arr hs], g.mark_le, g.valid, g.read_eq⟩

/-- two routes created one after the other on the same router: the first route's list, and the router's, are the same
    after the second was created -/
theorem route_independent_pair (grow : Nat → Nat) (H : Heap) (router : Slice) (ownA ownB : List Nat) (hv : Valid H router) :
    let ra := newRouteS .copied grow H router ownA
    let rb := newRouteS .copied grow ra.1 router ownB
    rb.1.read ra.2 = routeMws (H.read router) ownA ∧ rb.1.read rb.2 = routeMws (H.read router) ownB ∧
    rb.1.read router = H.read router := by
  obtain ⟨a1, a2, a3, a4, a5⟩ := route_independent grow H router ownA hv
  -- the router's slice is still valid: its array is older than the new one and kept its cells
  have hv' : Valid (newRouteS .copied grow H router ownA).1 router :=
    ⟨Nat.lt_of_lt_of_le hv.arr_lt (Nat.le_trans a3 (Nat.le_of_lt a4.arr_lt)), a1 _ hv.arr_lt ▸ hv.cap_eq, hv.len_le⟩
  obtain ⟨_, b2, _, _, b5⟩ := route_independent grow (newRouteS .copied grow H router ownA).1 router ownB hv'
  refine ⟨?_, ?_, ?_⟩
  · rw [b2 _ a4.arr_lt, a5]
  · rw [b5, a2 router hv.arr_lt]
  · rw [b2 router hv'.arr_lt, a2 router hv.arr_lt]

/-- non-vacuity / sensitivity: with the bare field (`mws: fox.mws`) and spare capacity — three global middleware in an
    array of four cells — creating route B overwrites the cell route A's list reaches -/
example :
    let H : Heap := { arrs := [[⟨1, 248, true⟩, ⟨2, 248, true⟩, ⟨3, 248, true⟩, junk]] }
    let router : Slice := ⟨0, 3, 4⟩
    let ra := newRouteS .shared (fun n => 2 * n) H router [10]
    let rb := newRouteS .shared (fun n => 2 * n) ra.1 router [20]
    ra.1.read ra.2 = routeMws (H.read router) [10] ∧ rb.1.read ra.2 ≠ ra.1.read ra.2 ∧
    (rb.1.read ra.2).map (·.id) = [1, 2, 3, 20] := by
  decide

/-- non-vacuity: a concrete chain -/
example : applyMiddleware wrap Kind.noRoute.bit [⟨1, 248, true⟩, ⟨2, 128, true⟩, ⟨3, 64, true⟩] [.handler 404] =
    [.enter 1, .enter 3, .handler 404, .exit 3, .exit 1] := by decide

end Fox.C13
